import SfxModel.Transcendental
/-
  C15Witness.lean — Mathlib-free kernel evaluations of the model at the witnesses of C15 (`2 ^ 32` is core's `Int.pow`; the other
  literals are bit patterns).
    * `exp::<I32F32>(20.0)`: the witness of KNOWN FINDING D10;
    * `exp::<I32F32>(9.0)`: non-vacuity of the exp clause between `|x| ≤ f/4` and D10 (`4 · 9 > 32`, omitted tail `≈ 3e-9 · e^9`);
    * `pow::<I41F23>` (`FixedI64<U23>`) at `x = 1 + 2^-23 = 8388609` with a large negative exponent, finding D16: `ln x` is computed as 0
      (`ln(1 + 2^-23) ≈ 0.99999994 ulp`, truncated), so `pow` returns exactly 1.0; `-562949953421312 = -2^49 = -(8·2^23)·2^23`,
      `-351843720888320 = -(5·2^23)·2^23`;
    * `pow::<I32F32>(2.0, 12.0)`: non-vacuity of the pow clause outside `4 |y ln x| + 2 ≤ f` (`|y ln x| ≈ 8.32`); `8589934592 = 2 · 2^32`,
      `51539607552 = 12 · 2^32`.
-/
namespace Sfx.ExpAccPf

/-- `exp::<I32F32>(20.0)` returns `Ok(2066907302758576256 / 2^32)` (≈ 481239358.98) after 30 loop iterations, without any
debug-only check firing -/
theorem exp20_run :
    Trans.run (Trans.exp ⟨true, 64, 32⟩ ⟨true, 64, 32⟩ (20 * 2 ^ 32)) = .ok (some 2066907302758576256, 30) false := by
  decide +kernel

end Sfx.ExpAccPf

namespace Sfx.ExpBandPf

/-- `exp::<I32F32>(9.0)` returns `Ok(34802480388886 / 2^32)` (≈ 8103.08391, `e^9 ≈ 8103.08393`) after 30 loop iterations -/
theorem exp9_run :
    Trans.run (Trans.exp ⟨true, 64, 32⟩ ⟨true, 64, 32⟩ (9 * 2 ^ 32)) = .ok (some 34802480388886, 30) false := by
  decide +kernel

end Sfx.ExpBandPf

namespace Sfx.PowAccPf

theorem ln_one_plus_ulp_run :
    Trans.run (Trans.ln ⟨true, 64, 23⟩ ⟨true, 64, 23⟩ 8388609) = .ok (some 0, 23) false := by
  decide +kernel

/-- `pow(1 + 2^-23, -67108864.0) = Ok(1.0)`; true value `≈ e^-8 ≈ 3.35e-4` -/
theorem pow_ln_run8 :
    Trans.run (Trans.pow ⟨true, 64, 23⟩ ⟨true, 64, 23⟩ 8388609 (-562949953421312)) = .ok (some 8388608, 23) false := by
  decide +kernel

/-- `pow(1 + 2^-23, -41943040.0) = Ok(1.0)`; true value `≈ e^-5 ≈ 6.7e-3`, allowed error `≈ 0.54` -/
theorem pow_ln_run5 :
    Trans.run (Trans.pow ⟨true, 64, 23⟩ ⟨true, 64, 23⟩ 8388609 (-351843720888320)) = .ok (some 8388608, 23) false := by
  decide +kernel

end Sfx.PowAccPf

namespace Sfx.PowBandPf

/-- `pow::<I32F32>(2.0, 12.0)` returns `Ok(17592187964048 / 2^32)` (≈ 4096.00045, `2^12 = 4096`) -/
theorem pow_2_12_run :
    Trans.run (Trans.pow ⟨true, 64, 32⟩ ⟨true, 64, 32⟩ 8589934592 51539607552) = .ok (some 17592187964048, 31) false := by
  decide +kernel

end Sfx.PowBandPf

#print axioms Sfx.ExpAccPf.exp20_run
#print axioms Sfx.PowAccPf.pow_ln_run8
#print axioms Sfx.PowAccPf.pow_ln_run5
