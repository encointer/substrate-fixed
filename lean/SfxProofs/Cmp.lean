import SfxModel.ConvSpec
import SfxProofs.Convert
/-
  Cmp.lean — comparisons between fixed-point numbers of two arbitrary layouts (`src/cmp.rs`, model `SfxModel/Cmp.lean`),
  proved against the exact ordering of the values `cmpExact` (core Lean only).

  With `X = b·2^fa`, `P = 2^fb` and `E = ⌊X / P⌋ = convExact B A b` (the right operand on the left operand's grid):
    * the helper reports `dir = Less` iff `X % P ≠ 0`;
    * `convFits` holds iff `E` is in the range of `A`, and then the converted bits are `E` (`Sees.fits`, `Sees.bits_of_in`);
    * `a·P ? X` is decided by `a ? E`, refined by `X % P` when `a = E` (`cmp_via`: true of any rounding of `X / P` within one unit).
  `cmpConv`, `ltConv`, `gtConv`, `eqConv` name the comparison code that follows the helper call (the float comparisons run the same code);
  `cmp_of_sees` proves it once, from what the left operand's type sees of the answer (`ConvPf.Sees`); `fixed_core` and the six operators
  are its instance at a fixed right operand; at the end an integer as the right or the left operand (`cmpInt_right_spec`, `cmpInt_left_spec`).
-/
namespace Sfx.CmpPf
open Layout ConvPf

theorem cmpInt_lt {a b : Int} (h : a < b) : cmpInt a b = -1 := by
  unfold cmpInt; rw [if_pos h]

theorem cmpInt_eq {a b : Int} (h : a = b) : cmpInt a b = 0 := by
  unfold cmpInt; rw [if_neg (by omega), if_pos h]

theorem cmpInt_gt {a b : Int} (h : b < a) : cmpInt a b = 1 := by
  unfold cmpInt; rw [if_neg (by omega), if_neg (by omega)]

theorem cmpInt_antisymm (a b : Int) : cmpInt b a = -(cmpInt a b) := by
  rcases Int.lt_trichotomy a b with h | h | h
  · rw [cmpInt_lt h, cmpInt_gt h]; rfl
  · rw [cmpInt_eq h, cmpInt_eq h.symm]; rfl
  · rw [cmpInt_gt h, cmpInt_lt h]

theorem cmpInt_eq_neg_one_iff (a b : Int) : cmpInt a b = -1 ↔ a < b := by
  rcases Int.lt_trichotomy a b with h | h | h
  · rw [cmpInt_lt h]; simp [h]
  · rw [cmpInt_eq h]; constructor <;> intro h' <;> omega
  · rw [cmpInt_gt h]; constructor <;> intro h' <;> omega

theorem cmpInt_eq_zero_iff (a b : Int) : cmpInt a b = 0 ↔ a = b := by
  rcases Int.lt_trichotomy a b with h | h | h
  · rw [cmpInt_lt h]; constructor <;> intro h' <;> omega
  · rw [cmpInt_eq h]; simp [h]
  · rw [cmpInt_gt h]; constructor <;> intro h' <;> omega

theorem cmpInt_eq_one_iff (a b : Int) : cmpInt a b = 1 ↔ b < a := by
  rcases Int.lt_trichotomy a b with h | h | h
  · rw [cmpInt_lt h]; constructor <;> intro h' <;> omega
  · rw [cmpInt_eq h]; constructor <;> intro h' <;> omega
  · rw [cmpInt_gt h]; simp [h]

theorem cmpInt_mul_right (a b P : Int) (hP : 0 < P) : cmpInt (a * P) (b * P) = cmpInt a b := by
  rcases Int.lt_trichotomy a b with h | h | h
  · rw [cmpInt_lt h, cmpInt_lt (Int.mul_lt_mul_of_pos_right h hP)]
  · rw [cmpInt_eq h, cmpInt_eq (by rw [h])]
  · rw [cmpInt_gt h, cmpInt_gt (Int.mul_lt_mul_of_pos_right h hP)]

theorem cmp_via {N D R : Int} (hD : 0 < D) (h1 : R * D < N + D) (h2 : N < R * D + D) (a : Int) :
    cmpInt (a * D) N = (if a < R then -1 else if R < a then 1 else cmpInt (R * D) N) := by
  by_cases hlt : a < R
  · rw [if_pos hlt]
    have : (a + 1) * D ≤ R * D := Int.mul_le_mul_of_nonneg_right (by omega) (Int.le_of_lt hD)
    rw [Int.add_mul] at this
    exact cmpInt_lt (by omega)
  · rw [if_neg hlt]
    by_cases hgt : R < a
    · rw [if_pos hgt]
      have : (R + 1) * D ≤ a * D := Int.mul_le_mul_of_nonneg_right (by omega) (Int.le_of_lt hD)
      rw [Int.add_mul] at this
      exact cmpInt_gt (by omega)
    · rw [if_neg hgt, show a = R by omega]

theorem cmp_floor (a X P : Int) (hP : 0 < P) :
    cmpInt (a * P) X = (if a < X / P then -1 else if X / P < a then 1 else if X % P ≠ 0 then -1 else 0) := by
  obtain ⟨e, h0, h1⟩ := euclid X hP
  rw [cmp_via hP (R := X / P) (by omega) (by omega)]
  congr 2
  by_cases hr : X % P ≠ 0
  · rw [if_pos hr]; exact cmpInt_lt (by omega)
  · rw [if_neg hr]; exact cmpInt_eq (by omega)

theorem cmpExact_floor (A B : Layout) (a b : Int) :
    cmpExact A.f B.f a b =
      (if a < convExact B A b then -1 else if convExact B A b < a then 1
       else if (b * 2 ^ A.f) % 2 ^ B.f ≠ 0 then -1 else 0) := by
  unfold cmpExact convExact
  exact cmp_floor a (b * 2 ^ A.f) (2 ^ B.f) (two_pow_pos B.f)

theorem inRange_neg {L : Layout} {x : Int} (hx : inRange L x) (hneg : x < 0) : L.signed = true := by
  cases hs : L.signed
  · unfold inRange at hx; rw [hs, inU_iff] at hx; omega
  · rfl

theorem out_of_range_side (A : Layout) (hn : 0 < A.n) (a E : Int) (ha : inRange A a) (hE : ¬ inRange A E) :
    (E < 0 → a < 0 → E < a) ∧ (0 ≤ E → a < E) := by
  -- the range is a window of length `2^n` that contains 0 and starts at 0 or at `-2^(n-1)`
  obtain ⟨-, hm, hp, hq⟩ := window A.signed hn
  unfold inRange at *
  rw [inI_iff _ hn] at ha hE
  constructor
  · intro _ _; omega
  · intro _; omega

/-! The comparison code after the helper call is the same text for a fixed-point and for a float right operand: `bn` = the right operand
is negative, `conv` = the helper's answer for it. -/

/-- `partial_cmp` after the helper call -/
def cmpConv (A : Layout) (a : Int) (bn : Bool) (conv : TFH) : Option Int :=
  if !decide (a < 0) && bn then some 1
  else if decide (a < 0) && !bn then some (-1)
  else if !A.convFits conv then (if bn then some 1 else some (-1))
  else some (if cmpInt a (A.convBits conv).2 = 0 then conv.dir else cmpInt a (A.convBits conv).2)

/-- `lt` after the helper call -/
def ltConv (A : Layout) (a : Int) (bn : Bool) (conv : TFH) : Bool :=
  if !decide (a < 0) && bn then false
  else if decide (a < 0) && !bn then true
  else if !A.convFits conv then !bn
  else decide (a < (A.convBits conv).2) || (decide (a = (A.convBits conv).2) && decide (conv.dir = -1))

/-- `==` after the helper call -/
def eqConv (A : Layout) (a : Int) (conv : TFH) : Bool :=
  decide (conv.dir = 0) && A.convFits conv && decide ((A.convBits conv).2 = a)

theorem partialCmpFixed_eq (A B : Layout) (a b : Int) :
    A.partialCmpFixed B a b = cmpConv A a (decide (b < 0)) (helperTo B A b) := by
  unfold Layout.partialCmpFixed cmpConv
  simp only [decide_eq_true_eq]

theorem ltFixed_eq (A B : Layout) (a b : Int) : A.ltFixed B a b = ltConv A a (decide (b < 0)) (helperTo B A b) := rfl

/-- `a < r || (a == r && d == Less)` is `a.cmp(r).then(d) == Less` -/
theorem lt_eq_cmp_then (a r d : Int) :
    (decide (a < r) || (decide (a = r) && decide (d = -1))) = decide ((if cmpInt a r = 0 then d else cmpInt a r) = -1) := by
  rcases Int.lt_trichotomy a r with h | h | h
  · rw [cmpInt_lt h, decide_eq_true h]; rfl
  · rw [cmpInt_eq h, decide_eq_false (by omega : ¬ a < r), decide_eq_true h]; rfl
  · rw [cmpInt_gt h, decide_eq_false (by omega : ¬ a < r), decide_eq_false (by omega : ¬ a = r)]; rfl

theorem ltConv_eq (A : Layout) (a : Int) (bn : Bool) (conv : TFH) :
    ltConv A a bn conv = decide (cmpConv A a bn conv = some (-1)) := by
  unfold ltConv cmpConv
  cases bn <;> cases decide (a < 0) <;> cases (!A.convFits conv)
  all_goals first | rfl | exact (lt_eq_cmp_then _ _ _).trans (decide_eq_decide.2 Option.some_inj.symm)

/-- `r < a || (r == a && d == Greater)` is `a.cmp(r).then(d) == Greater` -/
theorem gt_eq_cmp_then (a r d : Int) :
    (decide (r < a) || (decide (r = a) && decide (d = 1))) = decide ((if cmpInt a r = 0 then d else cmpInt a r) = 1) := by
  rcases Int.lt_trichotomy a r with h | h | h
  · rw [cmpInt_lt h, decide_eq_false (by omega : ¬ r < a), decide_eq_false (by omega : ¬ r = a)]; rfl
  · rw [cmpInt_eq h, decide_eq_false (by omega : ¬ r < a), decide_eq_true h.symm]; rfl
  · rw [cmpInt_gt h, decide_eq_true h]; rfl

/-- `float < fixed` after the helper call (`bn`: the float is negative) -/
def gtConv (A : Layout) (a : Int) (bn : Bool) (conv : TFH) : Bool :=
  if !bn && decide (a < 0) then false
  else if bn && !decide (a < 0) then true
  else if !A.convFits conv then bn
  else decide ((A.convBits conv).2 < a) || (decide ((A.convBits conv).2 = a) && decide (conv.dir = 1))

theorem gtConv_eq (A : Layout) (a : Int) (bn : Bool) (conv : TFH) :
    gtConv A a bn conv = decide (cmpConv A a bn conv = some 1) := by
  unfold gtConv cmpConv
  cases bn <;> cases decide (a < 0) <;> cases (!A.convFits conv)
  all_goals first | rfl | exact (gt_eq_cmp_then _ _ _).trans (decide_eq_decide.2 Option.some_inj.symm)

/-- a left operand `a` against a right operand that the helper describes as `R` with direction `d` (`Sees`): `partial_cmp` and `==` read
off `c`, the exact ordering written through `R` and `d`.  `bn` is the sign the code tests first; it has to be a sign of `R`, and to
decide `c` when the signs of the operands differ.  The fixed-point and the float right operand differ only in how they meet the
hypotheses. -/
theorem cmp_of_sees (A : Layout) (hA : A.valid) (a : Int) (ha : inRange A a) {conv : TFH} {R d c : Int} (bn : Bool)
    (h : Sees A.signed A.n conv R d)
    (hc : c = if a < R then -1 else if R < a then 1 else d)
    (hneg : bn = true → R ≤ 0 ∧ (0 ≤ a → c = 1)) (hpos : bn = false → 0 ≤ R ∧ (a < 0 → c = -1)) :
    cmpConv A a bn conv = some c ∧ eqConv A a conv = decide (c = 0) := by
  have hn := hA.pos
  have hfit : A.convFits conv = decide (inRange A R) := h.fits hn
  have hbits : inRange A R → (A.convBits conv).2 = R := h.bits_of_in hn
  unfold cmpConv eqConv
  rw [hfit, h.dir]
  constructor
  · -- opposite signs decide; otherwise an `R` outside the range of `A` lies beyond every value on its side, and one inside is
    -- compared through the bits, ties broken by the direction
    have hfitc : inRange A R → (if cmpInt a (A.convBits conv).2 = 0 then d else cmpInt a (A.convBits conv).2) = c := by
      intro hin
      rw [hbits hin, hc]
      rcases Int.lt_trichotomy a R with h | h | h
      · rw [cmpInt_lt h, if_pos h]; rfl
      · rw [cmpInt_eq h, if_neg (show ¬ a < R by omega), if_neg (show ¬ R < a by omega)]; rfl
      · rw [cmpInt_gt h, if_neg (show ¬ a < R by omega), if_pos h]; rfl
    by_cases ha0 : a < 0
    · rw [decide_eq_true ha0]
      cases bn
      · exact congrArg some ((hpos rfl).2 ha0).symm
      · by_cases hin : inRange A R
        · rw [decide_eq_true hin]; exact congrArg some (hfitc hin)
        · rw [decide_eq_false hin]
          have hRne : R ≠ 0 := fun h0 => hin (h0 ▸ inI_zero A.signed A.n)
          have := (out_of_range_side A hA.pos a R ha hin).1 (by have := (hneg rfl).1; omega) ha0
          exact congrArg some (by rw [hc, if_neg (by omega), if_pos this])
    · rw [decide_eq_false ha0]
      cases bn
      · by_cases hin : inRange A R
        · rw [decide_eq_true hin]; exact congrArg some (hfitc hin)
        · rw [decide_eq_false hin]
          have := (out_of_range_side A hA.pos a R ha hin).2 (hpos rfl).1
          exact congrArg some (by rw [hc, if_pos this])
      · exact congrArg some ((hneg rfl).2 (by omega)).symm
  · -- equal exactly when the rounding is exact (`d = 0`) and the rounded value is `a`
    rw [hc, Bool.eq_iff_iff]
    simp only [Bool.and_eq_true, decide_eq_true_eq]
    constructor
    · rintro ⟨⟨hd, hin⟩, hb⟩
      rw [hbits hin] at hb
      rw [if_neg (by omega), if_neg (by omega), hd]
    · intro hc
      by_cases hlt : a < R
      · rw [if_pos hlt] at hc; cases hc
      · by_cases hgt : R < a
        · rw [if_neg hlt, if_pos hgt] at hc; cases hc
        · rw [if_neg hlt, if_neg hgt] at hc
          have hRa : R = a := by omega
          exact ⟨⟨hc, hRa ▸ ha⟩, (hbits (hRa ▸ ha)).trans hRa⟩

theorem fixed_core (A B : Layout) (hA : A.valid) (hB : B.valid) (a b : Int) (ha : inRange A a) (hb : inRange B b) :
    cmpConv A a (decide (b < 0)) (helperTo B A b) = some (cmpExact A.f B.f a b) ∧
    eqConv A a (helperTo B A b) = decide (cmpExact A.f B.f a b = 0) := by
  have hE := cmpExact_floor A B a b
  have hsgn := convExact_neg_iff B A b
  have hn := convExact_nonneg B A (x := b)
  exact cmp_of_sees A hA a ha (decide (b < 0)) (helperTo_sees B A (valid_fits128 hB) (valid_fits128 hA) b hb) hE
    (fun hb0 => ⟨Int.le_of_lt (hsgn.2 (of_decide_eq_true hb0)), fun h0 => by
      have := hsgn.2 (of_decide_eq_true hb0); rw [hE, if_neg (by omega), if_pos (by omega)]⟩)
    (fun hb0 => ⟨hn (Int.not_lt.1 (of_decide_eq_false hb0)), fun h0 => by
      have := hn (Int.not_lt.1 (of_decide_eq_false hb0)); rw [hE, if_pos (by omega)]⟩)

theorem partialCmpFixed_spec (A B : Layout) (hA : A.valid) (hB : B.valid) (a b : Int) (ha : inRange A a) (hb : inRange B b) :
    A.partialCmpFixed B a b = some (cmpExact A.f B.f a b) :=
  (partialCmpFixed_eq A B a b).trans (fixed_core A B hA hB a b ha hb).1

theorem ltFixed_spec (A B : Layout) (hA : A.valid) (hB : B.valid) (a b : Int) (ha : inRange A a) (hb : inRange B b) :
    A.ltFixed B a b = decide (cmpExact A.f B.f a b = -1) := by
  rw [ltFixed_eq, ltConv_eq, (fixed_core A B hA hB a b ha hb).1]
  exact decide_eq_decide.2 Option.some_inj

theorem eqFixed_spec (A B : Layout) (hA : A.valid) (hB : B.valid) (a b : Int) (ha : inRange A a) (hb : inRange B b) :
    A.eqFixed B a b = decide (cmpExact A.f B.f a b = 0) :=
  (fixed_core A B hA hB a b ha hb).2

theorem cmpExact_antisymm (fa fb : Nat) (a b : Int) : cmpExact fb fa b a = -(cmpExact fa fb a b) := by
  unfold cmpExact
  exact cmpInt_antisymm _ _

theorem gtFixed_spec (A B : Layout) (hA : A.valid) (hB : B.valid) (a b : Int) (ha : inRange A a) (hb : inRange B b) :
    A.gtFixed B a b = decide (cmpExact A.f B.f a b = 1) := by
  unfold Layout.gtFixed
  rw [ltFixed_spec B A hB hA b a hb ha, cmpExact_antisymm A.f B.f a b]
  apply decide_eq_decide.2
  constructor <;> intro h <;> omega

theorem leFixed_spec (A B : Layout) (hA : A.valid) (hB : B.valid) (a b : Int) (ha : inRange A a) (hb : inRange B b) :
    A.leFixed B a b = decide (cmpExact A.f B.f a b ≠ 1) := by
  unfold Layout.leFixed
  rw [ltFixed_spec B A hB hA b a hb ha, cmpExact_antisymm A.f B.f a b, ← decide_not]
  apply decide_eq_decide.2
  constructor <;> intro h <;> omega

theorem geFixed_spec (A B : Layout) (hA : A.valid) (hB : B.valid) (a b : Int) (ha : inRange A a) (hb : inRange B b) :
    A.geFixed B a b = decide (cmpExact A.f B.f a b ≠ -1) := by
  unfold Layout.geFixed
  rw [ltFixed_spec A B hA hB a b ha hb, ← decide_not]

theorem ops_consistent (A B : Layout) (hA : A.valid) (hB : B.valid) (a b : Int) (ha : inRange A a) (hb : inRange B b) :
    A.eqFixed B a b = decide (A.partialCmpFixed B a b = some 0) ∧
    A.ltFixed B a b = decide (A.partialCmpFixed B a b = some (-1)) ∧
    A.gtFixed B a b = decide (A.partialCmpFixed B a b = some 1) ∧
    A.leFixed B a b = (A.ltFixed B a b || A.eqFixed B a b) ∧
    A.geFixed B a b = (A.gtFixed B a b || A.eqFixed B a b) ∧
    B.partialCmpFixed A b a = (A.partialCmpFixed B a b).map (fun c => -c) := by
  rw [eqFixed_spec A B hA hB a b ha hb, ltFixed_spec A B hA hB a b ha hb, gtFixed_spec A B hA hB a b ha hb,
    leFixed_spec A B hA hB a b ha hb, geFixed_spec A B hA hB a b ha hb, partialCmpFixed_spec A B hA hB a b ha hb,
    partialCmpFixed_spec B A hB hA b a hb ha, cmpExact_antisymm A.f B.f a b]
  have hv : cmpExact A.f B.f a b = -1 ∨ cmpExact A.f B.f a b = 0 ∨ cmpExact A.f B.f a b = 1 := by
    unfold cmpExact cmpInt
    split
    · exact .inl rfl
    · split
      · exact .inr (.inl rfl)
      · exact .inr (.inr rfl)
  refine ⟨?_, ?_, ?_, ?_, ?_, rfl⟩
  · simp
  · simp
  · simp
  · rcases hv with h | h | h <;> simp [h]
  · rcases hv with h | h | h <;> simp [h]

/-- all six operators decide the exact order of the values `a / 2^A.f` and `b / 2^B.f`, compared after cross-multiplication -/
theorem ops_exact (A B : Layout) (hA : A.valid) (hB : B.valid) (a b : Int) (ha : inRange A a) (hb : inRange B b) :
    A.partialCmpFixed B a b = some (cmpInt (a * 2 ^ B.f) (b * 2 ^ A.f)) ∧
    A.eqFixed B a b = decide (a * 2 ^ B.f = b * 2 ^ A.f) ∧
    A.ltFixed B a b = decide (a * 2 ^ B.f < b * 2 ^ A.f) ∧
    A.leFixed B a b = decide (a * 2 ^ B.f ≤ b * 2 ^ A.f) ∧
    A.gtFixed B a b = decide (b * 2 ^ A.f < a * 2 ^ B.f) ∧
    A.geFixed B a b = decide (b * 2 ^ A.f ≤ a * 2 ^ B.f) := by
  rw [partialCmpFixed_spec A B hA hB a b ha hb, eqFixed_spec A B hA hB a b ha hb, ltFixed_spec A B hA hB a b ha hb,
    leFixed_spec A B hA hB a b ha hb, gtFixed_spec A B hA hB a b ha hb, geFixed_spec A B hA hB a b ha hb]
  unfold cmpExact
  refine ⟨rfl, ?_, ?_, ?_, ?_, ?_⟩ <;> apply decide_eq_decide.2
  · exact cmpInt_eq_zero_iff _ _
  · exact cmpInt_eq_neg_one_iff _ _
  · rw [Ne, cmpInt_eq_one_iff]; omega
  · exact cmpInt_eq_one_iff _ _
  · rw [Ne, cmpInt_eq_neg_one_iff]; omega

/-- `Fixed ? iN/uN`: all six operators against the exact comparison of `a / 2^f` with `k` -/
theorem cmpInt_right_spec (L : Layout) (hL : L.valid) (si : Bool) (ni : Nat) (hni : ni = 8 ∨ ni = 16 ∨ ni = 32 ∨ ni = 64 ∨ ni = 128)
    (a k : Int) (ha : inRange L a) (hk : inI si ni k) :
    L.partialCmpFixed (Layout.ofInt si ni) a k = some (cmpInt a (k * 2 ^ L.f)) ∧
    L.eqFixed (Layout.ofInt si ni) a k = decide (a = k * 2 ^ L.f) ∧
    L.ltFixed (Layout.ofInt si ni) a k = decide (a < k * 2 ^ L.f) ∧
    L.leFixed (Layout.ofInt si ni) a k = decide (a ≤ k * 2 ^ L.f) ∧
    L.gtFixed (Layout.ofInt si ni) a k = decide (k * 2 ^ L.f < a) ∧
    L.geFixed (Layout.ofInt si ni) a k = decide (k * 2 ^ L.f ≤ a) := by
  have h := ops_exact L (Layout.ofInt si ni) hL (ofInt_valid si hni) a k ha hk
  have e : (Layout.ofInt si ni).f = 0 := rfl
  rw [e, Int.pow_zero, Int.mul_one] at h
  exact h

/-- `iN/uN ? Fixed`: all six operators against the exact comparison of `k` with `b / 2^f` -/
theorem cmpInt_left_spec (L : Layout) (hL : L.valid) (si : Bool) (ni : Nat) (hni : ni = 8 ∨ ni = 16 ∨ ni = 32 ∨ ni = 64 ∨ ni = 128)
    (k b : Int) (hk : inI si ni k) (hb : inRange L b) :
    (Layout.ofInt si ni).partialCmpFixed L k b = some (cmpInt (k * 2 ^ L.f) b) ∧
    (Layout.ofInt si ni).eqFixed L k b = decide (k * 2 ^ L.f = b) ∧
    (Layout.ofInt si ni).ltFixed L k b = decide (k * 2 ^ L.f < b) ∧
    (Layout.ofInt si ni).leFixed L k b = decide (k * 2 ^ L.f ≤ b) ∧
    (Layout.ofInt si ni).gtFixed L k b = decide (b < k * 2 ^ L.f) ∧
    (Layout.ofInt si ni).geFixed L k b = decide (b ≤ k * 2 ^ L.f) := by
  have h := ops_exact (Layout.ofInt si ni) L (ofInt_valid si hni) hL k b hk hb
  have e : (Layout.ofInt si ni).f = 0 := rfl
  rw [e, Int.pow_zero, Int.mul_one] at h
  exact h

theorem same_type (L : Layout) (a b : Int) : cmpInt a b = cmpExact L.f L.f a b := by
  unfold cmpExact
  exact (cmpInt_mul_right a b (2 ^ L.f) (two_pow_pos L.f)).symm

/-- equal values have equal bits (so `Hash` on the bits is consistent with `Eq` on the values) -/
theorem same_type_eq (L : Layout) (a b : Int) : cmpExact L.f L.f a b = 0 ↔ a = b := by
  rw [← same_type]; exact cmpInt_eq_zero_iff a b

end Sfx.CmpPf

open Sfx.CmpPf in
#print axioms partialCmpFixed_spec
open Sfx.CmpPf in
#print axioms eqFixed_spec
open Sfx.CmpPf in
#print axioms ltFixed_spec
open Sfx.CmpPf in
#print axioms leFixed_spec
open Sfx.CmpPf in
#print axioms gtFixed_spec
open Sfx.CmpPf in
#print axioms geFixed_spec
open Sfx.CmpPf in
#print axioms cmpExact_antisymm
open Sfx.CmpPf in
#print axioms ops_consistent
open Sfx.CmpPf in
#print axioms cmpInt_right_spec
open Sfx.CmpPf in
#print axioms cmpInt_left_spec
open Sfx.CmpPf in
#print axioms same_type
open Sfx.CmpPf in
#print axioms same_type_eq
