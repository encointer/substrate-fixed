import SfxProofs.CmpFloatKind
/-
  CmpFloat.lean — comparisons between a fixed-point number and a float (`src/cmp.rs`, `fixed_cmp_float!`: `f32` / `f64`, and
  `f16` / `bf16` with the `f16` feature), proved against the exact ordering `cmpExactFloat` of the values for every format with
  `FloatFmt.ok` (core Lean only).

  The float is rounded to the fixed-point grid (`R = rneScaled num (e + f)`, `d = dirExact num (e + f)`, see
  `toFloatKind_spec`); since `|R − value| ≤ 1/2 < 1`, comparing the integer `a` with `R` and breaking the tie `a = R`
  with the direction of the rounding is the exact comparison.

  Names: `partialCmpFloat_finite`, `float_finite_ops`, `float_nan`, `float_infinite`, `float_clauses` hold for every format with `FloatFmt.ok`;
  `finite_kind`, `isNan_finite`, `ltFloat_finite`, `floatLt_finite`, `eqFloat_finite` at the end are their `f32` / `f64` instances.
-/
namespace Sfx.CmpPf
open Layout ConvPf ToFloatPf

theorem cmpExactFloat_round (fa : Nat) (a num e : Int) :
    cmpExactFloat fa a num e =
      (if a < rneScaled num (e + fa) then -1 else if rneScaled num (e + fa) < a then 1 else dirExact num (e + fa)) := by
  unfold cmpExactFloat dirExact
  simp only []
  generalize e + (fa : Int) = k
  by_cases hk : k ≥ 0
  · rw [if_pos hk, if_pos hk, rneScaled_nonneg_exp num k hk]
    generalize num * 2 ^ k.toNat = R
    rcases Int.lt_trichotomy a R with h | h | h
    · rw [if_pos h, cmpInt_lt h]
    · rw [if_neg (by omega), if_neg (by omega), cmpInt_eq h]
    · rw [if_neg (by omega), if_pos h, cmpInt_gt h]
  · have h := rneScaled_isRne num k (-k).toNat (by omega)
    rw [show (k + ((-k).toNat : Int)).toNat = 0 by omega, Int.pow_zero, Int.mul_one] at h
    obtain ⟨h1, h2, -⟩ := h
    have hP := two_pow_pos (-k).toNat
    rw [if_neg hk, if_neg hk, cmp_via hP (R := rneScaled num k) (by omega) (by omega)]

theorem cmpExactFloat_pos_neg (fa : Nat) (a num e : Int) (ha : 0 ≤ a) (hn : num < 0) : cmpExactFloat fa a num e = 1 := by
  unfold cmpExactFloat
  simp only []
  split
  · apply cmpInt_gt
    have := Int.mul_neg_of_neg_of_pos hn (two_pow_pos (e + (fa : Int)).toNat)
    omega
  · apply cmpInt_gt
    have := Int.mul_nonneg ha (Int.le_of_lt (two_pow_pos (-(e + (fa : Int))).toNat))
    omega

theorem cmpExactFloat_neg_pos (fa : Nat) (a num e : Int) (ha : a < 0) (hn : 0 ≤ num) : cmpExactFloat fa a num e = -1 := by
  unfold cmpExactFloat
  simp only []
  split
  · apply cmpInt_lt
    have := Int.mul_nonneg hn (Int.le_of_lt (two_pow_pos (e + (fa : Int)).toNat))
    omega
  · apply cmpInt_lt
    have := Int.mul_neg_of_neg_of_pos ha (two_pow_pos (-(e + (fa : Int))).toNat)
    omega

theorem finite_core (A : Layout) (hA : A.valid) (a : Int) (ha : inRange A a) (num e : Int) (conv : TFH)
    (h : Sees A.signed A.n conv (rneScaled num (e + A.f)) (dirExact num (e + A.f))) :
    cmpConv A a (decide (num < 0)) conv = some (cmpExactFloat A.f a num e) ∧
    eqConv A a conv = decide (cmpExactFloat A.f a num e = 0) :=
  cmp_of_sees A hA a ha (decide (num < 0)) h (cmpExactFloat_round A.f a num e)
    (fun hn => ⟨rneScaled_nonpos num _ (Int.le_of_lt (of_decide_eq_true hn)),
      fun h0 => cmpExactFloat_pos_neg A.f a num e h0 (of_decide_eq_true hn)⟩)
    (fun hn => ⟨rneScaled_nonneg num _ (Int.not_lt.1 (of_decide_eq_false hn)),
      fun h0 => cmpExactFloat_neg_pos A.f a num e h0 (Int.not_lt.1 (of_decide_eq_false hn))⟩)

theorem isNan_ok (F : FloatFmt) (hF : FloatFmt.ok F) (b : Nat) :
    F.isNan b = (decide ((F.parts b).2.1 > F.expMax) && decide ((F.parts b).2.2 ≠ 0)) :=
  isNan_iff F hF.1 (by have := hF.2.1; omega) b

theorem isNan_of_finite (F : FloatFmt) (hF : FloatFmt.ok F) (fb : Nat) (num e : Int)
    (h : floatExact F fb = some (num, e)) : F.isNan fb = false := by
  rw [isNan_ok F hF]
  have : ¬ (F.parts fb).2.1 > F.expMax := by
    intro hgt
    have := (floatExact_none_iff F fb).2 hgt
    rw [h] at this; cases this
  simp [this]

theorem partialCmpFloat_finite (A : Layout) (hA : A.valid) (F : FloatFmt) (hF : FloatFmt.ok F) (a : Int) (ha : inRange A a)
    (fb : Nat) (num e : Int) (h : floatExact F fb = some (num, e)) :
    A.partialCmpFloat F a fb = some (cmpExactFloat A.f a num e) := by
  obtain ⟨conv, hk, hco⟩ := toFloatKind_sees F hF A hA fb num e h
  unfold Layout.partialCmpFloat
  rw [hk]
  exact (finite_core A hA a ha num e conv hco).1

/-- finite floats: every operator, in both operand orders, reads off the exact ordering of `a / 2^f` and the float -/
theorem float_finite_ops (A : Layout) (hA : A.valid) (F : FloatFmt) (hF : FloatFmt.ok F) (a : Int) (ha : inRange A a)
    (fb : Nat) (num e : Int) (h : floatExact F fb = some (num, e)) :
    A.eqFloat F a fb = decide (cmpExactFloat A.f a num e = 0) ∧
    A.ltFloat F a fb = decide (cmpExactFloat A.f a num e = -1) ∧
    A.leFloat F a fb = decide (cmpExactFloat A.f a num e ≠ 1) ∧
    A.gtFloat F a fb = decide (cmpExactFloat A.f a num e = 1) ∧
    A.geFloat F a fb = decide (cmpExactFloat A.f a num e ≠ -1) ∧
    A.floatLt F fb a = decide (cmpExactFloat A.f a num e = 1) ∧
    A.floatLe F fb a = decide (cmpExactFloat A.f a num e ≠ -1) ∧
    A.floatGt F fb a = decide (cmpExactFloat A.f a num e = -1) ∧
    A.floatGe F fb a = decide (cmpExactFloat A.f a num e ≠ 1) ∧
    A.floatPartialCmp F fb a = some (-(cmpExactFloat A.f a num e)) := by
  have hnan := isNan_of_finite F hF fb num e h
  have hpc := partialCmpFloat_finite A hA F hF a ha fb num e h
  obtain ⟨conv, hk, hco⟩ := toFloatKind_sees F hF A hA fb num e h
  obtain ⟨hc, he⟩ := finite_core A hA a ha num e conv hco
  have hlt : A.ltFloat F a fb = decide (cmpExactFloat A.f a num e = -1) := by
    unfold Layout.ltFloat; rw [hk]
    exact (ltConv_eq A a _ conv).trans (by rw [hc]; exact decide_eq_decide.2 Option.some_inj)
  have hfl : A.floatLt F fb a = decide (cmpExactFloat A.f a num e = 1) := by
    unfold Layout.floatLt; rw [hk]
    exact (gtConv_eq A a _ conv).trans (by rw [hc]; exact decide_eq_decide.2 Option.some_inj)
  refine ⟨?_, hlt, ?_, hfl, ?_, hfl, ?_, hlt, ?_, ?_⟩
  · unfold Layout.eqFloat; rw [hk]; exact he
  · unfold Layout.leFloat; rw [hnan, hfl, ← decide_not]; rfl
  · unfold Layout.geFloat; rw [hnan, hlt, ← decide_not]; rfl
  · unfold Layout.floatLe; rw [hnan, hlt, ← decide_not]; rfl
  · unfold Layout.floatGe; rw [hnan, hfl, ← decide_not]; rfl
  · unfold Layout.floatPartialCmp; rw [hpc]; rfl

/-- NaN is unordered with, and different from, every fixed-point number, in both operand orders -/
theorem float_nan (A : Layout) (F : FloatFmt) (hF : FloatFmt.ok F) (a : Int) (fb : Nat)
    (h : floatExact F fb = none) (hm : (F.parts fb).2.2 ≠ 0) :
    A.partialCmpFloat F a fb = none ∧ A.floatPartialCmp F fb a = none ∧
    A.eqFloat F a fb = false ∧
    A.ltFloat F a fb = false ∧ A.leFloat F a fb = false ∧ A.gtFloat F a fb = false ∧ A.geFloat F a fb = false ∧
    A.floatLt F fb a = false ∧ A.floatLe F fb a = false ∧ A.floatGt F fb a = false ∧ A.floatGe F fb a = false := by
  have hk := toFloatKind_nonfinite F fb A.f A.intBits h
  rw [if_neg hm] at hk
  have hnan : F.isNan fb = true := by
    rw [isNan_ok F hF]
    have := (floatExact_none_iff F fb).1 h
    simp [this, hm]
  have hpc : A.partialCmpFloat F a fb = none := by unfold Layout.partialCmpFloat; rw [hk]
  have hlt : A.ltFloat F a fb = false := by unfold Layout.ltFloat; rw [hk]
  have hfl : A.floatLt F fb a = false := by unfold Layout.floatLt; rw [hk]
  refine ⟨hpc, ?_, ?_, hlt, ?_, hfl, ?_, hfl, ?_, hlt, ?_⟩
  · unfold Layout.floatPartialCmp; rw [hpc]; rfl
  · unfold Layout.eqFloat; rw [hk]
  · unfold Layout.leFloat; rw [hnan]; rfl
  · unfold Layout.geFloat; rw [hnan]; rfl
  · unfold Layout.floatLe; rw [hnan]; rfl
  · unfold Layout.floatGe; rw [hnan]; rfl

/-- `±∞` is outside every fixed-point value (`(F.parts fb).1` is the sign bit of the float) -/
theorem float_infinite (A : Layout) (F : FloatFmt) (hF : FloatFmt.ok F) (a : Int) (fb : Nat)
    (h : floatExact F fb = none) (hm : (F.parts fb).2.2 = 0) :
    A.partialCmpFloat F a fb = some (if (F.parts fb).1 then 1 else -1) ∧
    A.floatPartialCmp F fb a = some (if (F.parts fb).1 then -1 else 1) ∧
    A.eqFloat F a fb = false ∧
    A.ltFloat F a fb = !(F.parts fb).1 ∧ A.leFloat F a fb = !(F.parts fb).1 ∧
    A.gtFloat F a fb = (F.parts fb).1 ∧ A.geFloat F a fb = (F.parts fb).1 ∧
    A.floatLt F fb a = (F.parts fb).1 ∧ A.floatLe F fb a = (F.parts fb).1 ∧
    A.floatGt F fb a = !(F.parts fb).1 ∧ A.floatGe F fb a = !(F.parts fb).1 := by
  have hk := toFloatKind_nonfinite F fb A.f A.intBits h
  rw [if_pos hm] at hk
  have hnan : F.isNan fb = false := by
    rw [isNan_ok F hF]
    simp [hm]
  have hpc : A.partialCmpFloat F a fb = some (if (F.parts fb).1 then 1 else -1) := by
    unfold Layout.partialCmpFloat; rw [hk]
  have hlt : A.ltFloat F a fb = !(F.parts fb).1 := by unfold Layout.ltFloat; rw [hk]
  have hfl : A.floatLt F fb a = (F.parts fb).1 := by unfold Layout.floatLt; rw [hk]
  refine ⟨hpc, ?_, ?_, hlt, ?_, hfl, ?_, hfl, ?_, hlt, ?_⟩
  · unfold Layout.floatPartialCmp; rw [hpc]
    cases (F.parts fb).1 <;> rfl
  · unfold Layout.eqFloat; rw [hk]
  · unfold Layout.leFloat; rw [hnan, hfl]; rfl
  · unfold Layout.geFloat; rw [hnan, hlt]; simp
  · unfold Layout.floatLe; rw [hnan, hlt]; simp
  · unfold Layout.floatGe; rw [hnan, hfl]; rfl

/-- the three clauses of property C03 for a float operand (finite / NaN / infinite), for any format with `FloatFmt.ok` -/
theorem float_clauses (A : Layout) (hA : A.valid) (F : FloatFmt) (hC : FloatFmt.ok F) (a : Int) (ha : inRange A a) (fb : Nat) :
    (∀ num e, floatExact F fb = some (num, e) →
      A.partialCmpFloat F a fb = some (cmpExactFloat A.f a num e) ∧ A.floatPartialCmp F fb a = some (-(cmpExactFloat A.f a num e)) ∧
      A.eqFloat F a fb = decide (cmpExactFloat A.f a num e = 0) ∧ A.ltFloat F a fb = decide (cmpExactFloat A.f a num e = -1) ∧
      A.leFloat F a fb = decide (cmpExactFloat A.f a num e ≠ 1) ∧ A.gtFloat F a fb = decide (cmpExactFloat A.f a num e = 1) ∧
      A.geFloat F a fb = decide (cmpExactFloat A.f a num e ≠ -1) ∧ A.floatLt F fb a = decide (cmpExactFloat A.f a num e = 1) ∧
      A.floatLe F fb a = decide (cmpExactFloat A.f a num e ≠ -1) ∧ A.floatGt F fb a = decide (cmpExactFloat A.f a num e = -1) ∧
      A.floatGe F fb a = decide (cmpExactFloat A.f a num e ≠ 1)) ∧
    (floatExact F fb = none → (F.parts fb).2.2 ≠ 0 →
      A.partialCmpFloat F a fb = none ∧ A.floatPartialCmp F fb a = none ∧ A.eqFloat F a fb = false ∧
      A.ltFloat F a fb = false ∧ A.leFloat F a fb = false ∧ A.gtFloat F a fb = false ∧ A.geFloat F a fb = false ∧
      A.floatLt F fb a = false ∧ A.floatLe F fb a = false ∧ A.floatGt F fb a = false ∧ A.floatGe F fb a = false) ∧
    (floatExact F fb = none → (F.parts fb).2.2 = 0 →
      A.partialCmpFloat F a fb = some (if (F.parts fb).1 then 1 else -1) ∧ A.eqFloat F a fb = false ∧
      A.ltFloat F a fb = !(F.parts fb).1 ∧ A.gtFloat F a fb = (F.parts fb).1) := by
  refine ⟨fun num e h => ?_, fun h hm => float_nan A F hC a fb h hm, fun h hm => ?_⟩
  · obtain ⟨h1, h2, h3, h4, h5, h6, h7, h8, h9, h10⟩ := float_finite_ops A hA F hC a ha fb num e h
    exact ⟨partialCmpFloat_finite A hA F hC a ha fb num e h, h10, h1, h2, h3, h4, h5, h6, h7, h8, h9⟩
  · obtain ⟨h1, _, h3, h4, _, h6, _⟩ := float_infinite A F hC a fb h hm
    exact ⟨h1, h3, h4, h6⟩
theorem finite_kind (A : Layout) (hA : A.valid) (F : FloatFmt) (hF : F = f32 ∨ F = f64) (fb : Nat) (num e : Int)
    (h : floatExact F fb = some (num, e)) :
    ∃ conv, toFloatKind F fb A.f A.intBits = .finite (decide (num < 0)) conv ∧
      ConvOf conv (rneScaled num (e + A.f)) (dirExact num (e + A.f)) (A.f + A.intBits) :=
  toFloatKind_spec F (ok_of F hF) fb A.f A.intBits (bits_pos A (valid_fits128 hA)) num e h

theorem isNan_finite (F : FloatFmt) (hF : F = f32 ∨ F = f64) (fb : Nat) (num e : Int)
    (h : floatExact F fb = some (num, e)) : F.isNan fb = false :=
  isNan_of_finite F (ok_of F hF) fb num e h

theorem ltFloat_finite (A : Layout) (hA : A.valid) (F : FloatFmt) (hF : F = f32 ∨ F = f64) (a : Int) (ha : inRange A a)
    (fb : Nat) (num e : Int) (h : floatExact F fb = some (num, e)) :
    A.ltFloat F a fb = decide (cmpExactFloat A.f a num e = -1) :=
  (float_finite_ops A hA F (ok_of F hF) a ha fb num e h).2.1

theorem floatLt_finite (A : Layout) (hA : A.valid) (F : FloatFmt) (hF : F = f32 ∨ F = f64) (a : Int) (ha : inRange A a)
    (fb : Nat) (num e : Int) (h : floatExact F fb = some (num, e)) :
    A.floatLt F fb a = decide (cmpExactFloat A.f a num e = 1) :=
  (float_finite_ops A hA F (ok_of F hF) a ha fb num e h).2.2.2.2.2.1

theorem eqFloat_finite (A : Layout) (hA : A.valid) (F : FloatFmt) (hF : F = f32 ∨ F = f64) (a : Int) (ha : inRange A a)
    (fb : Nat) (num e : Int) (h : floatExact F fb = some (num, e)) :
    A.eqFloat F a fb = decide (cmpExactFloat A.f a num e = 0) :=
  (float_finite_ops A hA F (ok_of F hF) a ha fb num e h).1

end Sfx.CmpPf

open Sfx.CmpPf in
#print axioms toFloatKind_spec
open Sfx.CmpPf in
#print axioms toFloatKind_nonfinite
open Sfx.CmpPf in
#print axioms partialCmpFloat_finite
open Sfx.CmpPf in
#print axioms float_finite_ops
open Sfx.CmpPf in
#print axioms float_nan
open Sfx.CmpPf in
#print axioms float_infinite
