import SfxProofs.CmpFloatLemmas
/-
  CmpFloatKind.lean — specification of `to_float_kind` (model `toFloatKind`): decode, round the magnitude to the destination
  grid to nearest-even (recording the direction), hand the rounded integer to the integer helper (`toFloatKind_spec`, and
  `toFloatKind_sees` for a layout).  Used by the comparisons (CmpFloat.lean) and by the float → fixed conversions (FromFloat.lean) alike.
  Core Lean only.
-/
namespace Sfx.CmpPf
open ConvPf ToFloatPf

/-- the finite branch of `to_float_kind` as a function of the decoded `(neg, mant1, exp)` (the model's text, the rounding block being
`roundMag`) -/
def finiteKind (F : FloatFmt) (neg : Bool) (mant1 : Nat) (exp : Int) (dstFrac dstInt : Nat) : FloatKind :=
    if mant1 = 0 then .finite false ⟨false, 0, 0, false⟩
    else
      let srcFrac0 : Int := (F.prec : Int) - 1 - exp
      let needShr : Int := srcFrac0 - dstFrac
      if needShr > F.prec then .finite neg ⟨false, 0, if neg then 1 else -1, false⟩
      else
        let (mant2, dir0, srcFrac) : Nat × Int × Int :=
          if needShr > 0 then ((roundMag mant1 needShr.toNat).1, (roundMag mant1 needShr.toNat).2, srcFrac0 - needShr)
          else (mant1, 0, srcFrac0)
        let m : Int := wrapS F.nbits mant2
        let (m, dir) : Int × Int := if neg then (-m, -dir0) else (m, dir0)
        let conv := toFixedHelper true F.nbits m srcFrac dstFrac dstInt
        .finite neg { conv with dir := dir }

theorem toFloatKind_eq (F : FloatFmt) (b : Nat) (dstFrac dstInt : Nat) :
    toFloatKind F b dstFrac dstInt =
      (if (F.parts b).2.1 > F.expMax then (if (F.parts b).2.2 = 0 then .infinite (F.parts b).1 else .nan)
       else finiteKind F (F.parts b).1 (mant1Of F b) (exp1Of F b) dstFrac dstInt) := by
  unfold toFloatKind mant1Of exp1Of
  generalize F.parts b = p
  obtain ⟨neg, exp, mant0⟩ := p
  show (if exp > F.expMax then _ else _) = (if exp > F.expMax then _ else _)
  by_cases h1 : exp > F.expMax
  · rw [if_pos h1, if_pos h1]
  · rw [if_neg h1, if_neg h1]
    by_cases h2 : exp ≥ F.expMin
    · rw [if_pos h2, if_pos h2, if_pos h2]; rfl
    · rw [if_neg h2, if_neg h2, if_neg h2]; rfl

theorem finiteKind_round (F : FloatFmt) (neg : Bool) (mant1 : Nat) (exp : Int) (dstFrac dstInt : Nat) (hm : mant1 ≠ 0)
    (h1 : ¬ ((F.prec : Int) - 1 - exp - dstFrac > F.prec)) (h2 : (F.prec : Int) - 1 - exp - dstFrac > 0) :
    finiteKind F neg mant1 exp dstFrac dstInt =
      .finite neg
        { toFixedHelper true F.nbits (sgnI neg (wrapS F.nbits (roundMag mant1 ((F.prec : Int) - 1 - exp - dstFrac).toNat).1))
            ((F.prec : Int) - 1 - exp - ((F.prec : Int) - 1 - exp - dstFrac)) dstFrac dstInt with
          dir := sgnI neg (roundMag mant1 ((F.prec : Int) - 1 - exp - dstFrac).toNat).2 } := by
  unfold finiteKind
  rw [if_neg hm]
  simp only []
  rw [if_neg h1, if_pos h2]
  cases neg <;> rfl

theorem finiteKind_exact (F : FloatFmt) (neg : Bool) (mant1 : Nat) (exp : Int) (dstFrac dstInt : Nat) (hm : mant1 ≠ 0)
    (h2 : ¬ ((F.prec : Int) - 1 - exp - dstFrac > 0)) :
    finiteKind F neg mant1 exp dstFrac dstInt =
      .finite neg
        { toFixedHelper true F.nbits (sgnI neg (wrapS F.nbits mant1)) ((F.prec : Int) - 1 - exp) dstFrac dstInt with
          dir := sgnI neg 0 } := by
  unfold finiteKind
  rw [if_neg hm]
  simp only []
  have h1 : ¬ ((F.prec : Int) - 1 - exp - dstFrac > F.prec) := by omega
  rw [if_neg h1, if_neg h2]
  cases neg <;> rfl

theorem finiteKind_tiny (F : FloatFmt) (neg : Bool) (mant1 : Nat) (exp : Int) (dstFrac dstInt : Nat) (hm : mant1 ≠ 0)
    (h1 : (F.prec : Int) - 1 - exp - dstFrac > F.prec) :
    finiteKind F neg mant1 exp dstFrac dstInt = .finite neg ⟨false, 0, sgnI neg (-1), false⟩ := by
  unfold finiteKind
  rw [if_neg hm]
  simp only []
  rw [if_pos h1]
  cases neg <;> rfl

/-- a left shift (`srcFrac − dstFrac = −j`) of the rounded mantissa, the direction being the one of the rounding -/
theorem helper_convOf_shl (nbits : Nat) (hn0 : 0 < nbits) (hn : nbits ≤ 128) (x : Int) (hx : inI true nbits x) (srcFrac : Int)
    (dstFrac dstInt : Nat) (hD : 0 < dstFrac + dstInt) (j : Nat) (hj : srcFrac - dstFrac = -(j : Int)) (d : Int) :
    ConvOf { toFixedHelper true nbits x srcFrac dstFrac dstInt with dir := d } (x * 2 ^ j) d (dstFrac + dstInt) := by
  have h := helper_convOf true nbits hn0 hn x hx srcFrac dstFrac dstInt hD
  rw [hj, floorShift_neg] at h
  exact ⟨h.1, rfl, h.2.2.1, h.2.2.2⟩

theorem rne_tiny (M : Int) (prec : Nat) (hM0 : 0 < M) (hM : M < 2 ^ prec) (k : Int) (hk : k < -(prec : Int)) :
    rneScaled M k = 0 ∧ dirExact M k = -1 := by
  have hR : rneScaled M k = 0 := by
    rw [rneScaled_neg_exp M k (by omega)]
    exact rneShift_small M _ (by omega) (by omega) (Int.lt_of_lt_of_le hM (pow_le_pow (by omega)))
  refine ⟨hR, ?_⟩
  unfold dirExact
  rw [if_neg (by omega), hR, Int.zero_mul]
  exact cmpInt_lt hM0

theorem finiteKind_spec (F : FloatFmt) (hp : 1 ≤ F.prec) (hpn : F.prec + 1 < F.nbits) (hn : F.nbits ≤ 128)
    (neg : Bool) (mant1 : Nat) (exp : Int) (hm0 : mant1 ≠ 0) (hm : mant1 < 2 ^ F.prec) (dstFrac dstInt : Nat)
    (hD : 0 < dstFrac + dstInt) :
    ∃ conv, finiteKind F neg mant1 exp dstFrac dstInt = .finite neg conv ∧
      ConvOf conv (rneScaled (sgnI neg mant1) (exp - ((F.prec : Int) - 1) + dstFrac))
        (dirExact (sgnI neg mant1) (exp - ((F.prec : Int) - 1) + dstFrac)) (dstFrac + dstInt) := by
  have hMpos : (0 : Int) < (mant1 : Int) := by omega
  have hMlt : (mant1 : Int) < 2 ^ F.prec := by
    have := natCast_two_pow F.prec
    omega
  have hpow1 : (2 : Int) ^ F.prec < 2 ^ (F.prec + 1) := pow_lt_pow (by omega)
  have hpow2 : (2 : Int) ^ (F.prec + 1) ≤ 2 ^ (F.nbits - 1) := pow_le_pow (by omega)
  rw [rneScaled_sgnI, dirExact_sgnI]
  generalize hk : exp - ((F.prec : Int) - 1) + dstFrac = k
  have hns : (F.prec : Int) - 1 - exp - dstFrac = -k := by omega
  by_cases h1 : (F.prec : Int) - 1 - exp - dstFrac > F.prec
  · obtain ⟨hR, hd⟩ := rne_tiny (mant1 : Int) F.prec hMpos hMlt k (by omega)
    rw [finiteKind_tiny F neg mant1 exp dstFrac dstInt hm0 h1, hR, hd]
    refine ⟨_, rfl, ?_⟩
    have := convOf_zero (sgnI neg (-1)) (dstFrac + dstInt)
    cases neg <;> exact this
  by_cases h2 : (F.prec : Int) - 1 - exp - dstFrac > 0
  · rw [finiteKind_round F neg mant1 exp dstFrac dstInt hm0 h1 h2, hns]
    refine ⟨_, rfl, ?_⟩
    have hj : 0 < (-k).toNat := by omega
    obtain ⟨r1, r2⟩ := roundMag_spec mant1 (-k).toNat hj
    have hRle := rneShift_le (mant1 : Int) (-k).toNat (by omega)
    have hR0 := FromFloatPf.rneShift_nonneg (mant1 : Int) (-k).toNat (by omega)
    rw [r1, r2, wrapS_of_in (by omega) ((inS_iff _ _).2 (by omega))]
    apply (helper_convOf_shl F.nbits (by omega) hn _ (sgnI_inS neg _ _ hR0 (by omega)) _ dstFrac dstInt hD 0
      (by omega) _).congr
    · rw [Int.pow_zero, Int.mul_one, rneScaled_neg_exp _ _ (by omega)]
    · unfold dirExact
      rw [if_neg (by omega), rneScaled_neg_exp _ _ (by omega)]
  · rw [finiteKind_exact F neg mant1 exp dstFrac dstInt hm0 h2,
      wrapS_of_in (by omega) ((inS_iff _ _).2 (by omega))]
    refine ⟨_, rfl, ?_⟩
    apply (helper_convOf_shl F.nbits (by omega) hn _ (sgnI_inS neg _ _ (by omega) (by omega)) _ dstFrac dstInt hD k.toNat
      (by omega) _).congr
    · rw [sgnI_mul, rneScaled_nonneg_exp _ _ (by omega)]
    · unfold dirExact; rw [if_pos (by omega)]

/-- the structural bounds on a format under which `to_float_kind` is specified (`toFloatKind_spec`); `f32`, `f64`, `half::f16` and
`half::bf16` meet them -/
def FloatFmt.ok (F : FloatFmt) : Prop := 1 ≤ F.prec ∧ F.prec + 1 < F.nbits ∧ F.nbits ≤ 128

theorem _root_.Sfx.FloatFmt.okTo.ok {F : FloatFmt} (h : F.okTo) : FloatFmt.ok F := by
  unfold FloatFmt.okTo at h; unfold FloatFmt.ok; omega

theorem ok_of (F : FloatFmt) (hF : F = f32 ∨ F = f64) : FloatFmt.ok F := (okTo_of F hF).ok

theorem toFloatKind_nonfinite (F : FloatFmt) (b : Nat) (dstFrac dstInt : Nat) (h : floatExact F b = none) :
    toFloatKind F b dstFrac dstInt = (if (F.parts b).2.2 = 0 then .infinite (F.parts b).1 else .nan) := by
  rw [toFloatKind_eq, if_pos ((floatExact_none_iff F b).1 h)]

/-- finite floats: the value `num · 2^e` is rounded to the destination grid to nearest, ties to even
(`R = rneScaled num (e + dstFrac)`), `dir` records the direction of the rounding, and the rest of the answer is what the
integer helper says about `R`.  The outer flag is the sign of the float (`false` for both zeros). -/
theorem toFloatKind_spec (F : FloatFmt) (hF : FloatFmt.ok F) (b : Nat) (dstFrac dstInt : Nat) (hD : 0 < dstFrac + dstInt)
    (num e : Int) (h : floatExact F b = some (num, e)) :
    ∃ conv, toFloatKind F b dstFrac dstInt = .finite (decide (num < 0)) conv ∧
      ConvOf conv (rneScaled num (e + dstFrac)) (dirExact num (e + dstFrac)) (dstFrac + dstInt) := by
  obtain ⟨hp, hpn, hn⟩ := hF
  have hfin : ¬ (F.parts b).2.1 > F.expMax := fun hgt => by
    rw [(floatExact_none_iff F b).2 hgt] at h; cases h
  rw [floatExact_eq, if_neg hfin] at h
  cases h
  rw [toFloatKind_eq, if_neg hfin]
  have hlt := mant1Of_lt F hp b
  generalize (F.parts b).1 = neg
  generalize mant1Of F b = mant1 at *
  generalize exp1Of F b = ex
  by_cases hz : mant1 = 0
  · subst hz
    have hs : sgnI neg ((0 : Nat) : Int) = 0 := by cases neg <;> rfl
    rw [hs, rneScaled_zero, dirExact_zero]
    exact ⟨⟨false, 0, 0, false⟩, by unfold finiteKind; rw [if_pos rfl]; simp, convOf_zero 0 _⟩
  · rw [sgn_neg_iff neg mant1 hz]
    exact finiteKind_spec F hp hpn hn neg mant1 ex hz hlt dstFrac dstInt hD

theorem floatToGrid_eq (F : FloatFmt) (b : Nat) (f : Nat) (num e : Int) (h : floatExact F b = some (num, e)) :
    floatToGrid F b f = some (rneScaled num (e + f)) := by
  unfold floatToGrid; rw [h]; rfl

theorem floatToGrid_some (F : FloatFmt) (b f : Nat) (E : Int) (h : floatToGrid F b f = some E) :
    ∃ num e, floatExact F b = some (num, e) ∧ E = rneScaled num (e + f) := by
  unfold floatToGrid at h
  cases hx : floatExact F b with
  | none => rw [hx] at h; cases h
  | some p => rw [hx] at h; cases h; exact ⟨p.1, p.2, rfl, rfl⟩

theorem toFloatKind_sees (F : FloatFmt) (hF : FloatFmt.ok F) (A : Layout) (hA : A.valid) (b : Nat) (num e : Int)
    (h : floatExact F b = some (num, e)) :
    ∃ conv, toFloatKind F b A.f A.intBits = .finite (decide (num < 0)) conv ∧
      Sees A.signed A.n conv (rneScaled num (e + A.f)) (dirExact num (e + A.f)) := by
  obtain ⟨conv, hk, hc⟩ := toFloatKind_spec F hF b A.f A.intBits (bits_pos A (valid_fits128 hA)) num e h
  exact ⟨conv, hk, hc.sees A (valid_fits128 hA)⟩

end Sfx.CmpPf
