import SfxProofs.Cmp
import SfxProofs.Rne
import SfxProofs.FloatBits
/-
  CmpFloatLemmas.lean — first part of the specification of `to_float_kind` (CmpFloatKind.lean), which the comparisons with a float
  (CmpFloat.lean) and the float → fixed conversions (FromFloat.lean) both rest on: the direction of a rounding (`dirExact`) and the
  mantissa rounding of `to_float_kind` (`roundMag`) against `rneShift`.  Core Lean only.
-/
namespace Sfx.CmpPf
open Layout ToFloatPf

/-- the direction of the rounding: the ordering of the rounded value relative to the exact one -/
def dirExact (num k : Int) : Int :=
  if 0 ≤ k then 0 else cmpInt (rneScaled num k * 2 ^ (-k).toNat) num

theorem dirExact_neg (num k : Int) : dirExact (-num) k = -(dirExact num k) := by
  unfold dirExact
  split
  · rfl
  · rw [rneScaled_neg, Int.neg_mul]
    generalize rneScaled num k * 2 ^ (-k).toNat = x
    rcases Int.lt_trichotomy x num with h | h | h
    · rw [cmpInt_lt h, cmpInt_gt (by omega)]; rfl
    · rw [cmpInt_eq h, cmpInt_eq (by omega)]; rfl
    · rw [cmpInt_gt h, cmpInt_lt (by omega)]

theorem dirExact_zero (k : Int) : dirExact 0 k = 0 := by
  unfold dirExact
  split
  · rfl
  · rw [rneScaled_zero, Int.zero_mul]; exact cmpInt_eq rfl

theorem dirExact_sgnI (neg : Bool) (x k : Int) : dirExact (sgnI neg x) k = sgnI neg (dirExact x k) := by
  cases neg
  · rfl
  · exact dirExact_neg x k

theorem sgn_neg_iff (neg : Bool) (n : Nat) (hn : n ≠ 0) : decide (sgnI neg (n : Int) < 0) = neg := by
  cases neg
  · exact decide_eq_false (show ¬ (n : Int) < 0 by omega)
  · exact decide_eq_true (show -(n : Int) < 0 by omega)

/-- the `need_to_shr > 0` block: `(mantissa >> k, dir)` after rounding to nearest, ties to even -/
def roundMag (mant1 k : Nat) : Nat × Int :=
  let removed := mant1 % 2 ^ k
  let willBeLsb := 2 ^ k
  let tie := willBeLsb / 2
  let (m, d) : Nat × Int :=
    if removed = 0 then (mant1, 0)
    else if removed < tie then (mant1, -1)
    else if removed > tie || decide (mant1 / willBeLsb % 2 = 1) then (mant1 + willBeLsb, 1)
    else (mant1, -1)
  (m / 2 ^ k, d)

theorem roundMag_spec (mant1 k : Nat) (hk : 0 < k) :
    ((roundMag mant1 k).1 : Int) = rneShift (mant1 : Int) k ∧
    (roundMag mant1 k).2 = cmpInt (rneShift (mant1 : Int) k * 2 ^ k) (mant1 : Int) := by
  have hPn : 0 < 2 ^ k := Nat.two_pow_pos k
  have hP2 : 2 ^ k = 2 * 2 ^ (k - 1) := p2split hk
  have htie : 2 ^ k / 2 = 2 ^ (k - 1) := by omega
  have hup : (mant1 + 2 ^ k) / 2 ^ k = mant1 / 2 ^ k + 1 := Nat.add_div_right _ hPn
  have hlt := Nat.mod_lt mant1 hPn
  have hI : (mant1 : Int) = ((mant1 / 2 ^ k : Nat) : Int) * ((2 ^ k : Nat) : Int) + ((mant1 % 2 ^ k : Nat) : Int) := by
    rw [Int.mul_comm]; exact_mod_cast (Nat.div_add_mod mant1 (2 ^ k)).symm
  rw [rneShift_natCast, ← natCast_two_pow]
  unfold roundMag
  simp only []
  rw [htie]
  generalize hq : mant1 / 2 ^ k = q at *
  generalize mant1 % 2 ^ k = r at *
  -- the code's four branches against the one decision `2r < 2^k ∨ 2r = 2^k ∧ q even`
  by_cases c0 : r = 0
  · rw [if_pos c0, if_pos (Or.inl (by omega)), Nat.add_zero]
    exact ⟨congrArg _ hq, (cmpInt_eq (by rw [hI]; omega)).symm⟩
  rw [if_neg c0]
  by_cases c1 : r < 2 ^ (k - 1)
  · rw [if_pos c1, if_pos (Or.inl (by omega)), Nat.add_zero]
    exact ⟨congrArg _ hq, (cmpInt_lt (by rw [hI]; omega)).symm⟩
  rw [if_neg c1]
  by_cases c2 : (decide (r > 2 ^ (k - 1)) || decide (q % 2 = 1)) = true
  · rw [if_pos c2]
    simp only [Bool.or_eq_true, decide_eq_true_eq] at c2
    rw [if_neg (by omega)]
    refine ⟨congrArg _ hup, (cmpInt_gt ?_).symm⟩
    rw [hI, Int.natCast_add, Int.add_mul, Int.natCast_one, Int.one_mul]; omega
  · rw [if_neg c2]
    simp only [Bool.or_eq_true, decide_eq_true_eq] at c2
    rw [if_pos (Or.inr ⟨by omega, by omega⟩), Nat.add_zero]
    exact ⟨congrArg _ hq, (cmpInt_lt (by rw [hI]; omega)).symm⟩

end Sfx.CmpPf
