import SfxModel.Codec
import SfxProofs.PrimLemmas
/-
  Codec.lean — the byte views of `SfxModel/Codec.lean`: little-endian bytes of a value and back (`leBytes`, `fromLe`), lengths and
  round trips, as used by the SCALE encoding and `to/from_le_bytes` (C10).  Core Lean only.
-/
namespace Sfx
namespace Codec

theorem leBytes_length (k x : Nat) : (leBytes k x).length = k := by
  induction k generalizing x with
  | zero => rfl
  | succ k ih => simp [leBytes, ih]

theorem fromLe_leBytes (k x : Nat) : fromLe (leBytes k x) = x % 256 ^ k := by
  induction k generalizing x with
  | zero => simp [leBytes, fromLe, Nat.mod_one]
  | succ k ih =>
    simp only [leBytes, fromLe, ih]
    rw [Nat.pow_succ, Nat.mul_comm (256 ^ k) 256, Nat.mod_mul]

theorem leBytes_bytes (k x : Nat) : ∀ b ∈ leBytes k x, b < 256 := by
  induction k generalizing x with
  | zero => simp [leBytes]
  | succ k ih =>
    intro b hb
    simp only [leBytes, List.mem_cons] at hb
    rcases hb with h | h
    · omega
    · exact ih _ b h

theorem fromLe_lt (bs : List Nat) (h : ∀ b ∈ bs, b < 256) : fromLe bs < 256 ^ bs.length := by
  induction bs with
  | nil => simp [fromLe]
  | cons b rest ih =>
    have hb := h b (by simp)
    have hr := ih (fun c hc => h c (by simp [hc]))
    simp only [fromLe, List.length_cons, Nat.pow_succ]
    omega

theorem leBytes_fromLe (bs : List Nat) (h : ∀ b ∈ bs, b < 256) : leBytes bs.length (fromLe bs) = bs := by
  induction bs with
  | nil => rfl
  | cons b rest ih =>
    have hb := h b (by simp)
    have hr := ih (fun c hc => h c (by simp [hc]))
    simp only [List.length_cons, leBytes, fromLe]
    have h1 : (b + 256 * fromLe rest) % 256 = b := by omega
    have h2 : (b + 256 * fromLe rest) / 256 = fromLe rest := by omega
    rw [h1, h2, hr]

theorem pow256 (k : Nat) : 256 ^ k = 2 ^ (8 * k) := by
  rw [show (256 : Nat) = 2 ^ 8 by decide, ← Nat.pow_mul]

theorem nbytes_mul {L : Layout} (hv : L.valid) : 8 * nbytes L = L.n ∧ 0 < L.n := by
  have := hv.1
  unfold nbytes
  omega

theorem fromLe_toLe (L : Layout) (hv : L.valid) (a : Int) (ha : inRange L a) :
    fromLeBytes L (toLeBytes L a) = a := by
  unfold fromLeBytes toLeBytes
  rw [fromLe_leBytes, pow256, (nbytes_mul hv).1, Nat.mod_eq_of_lt (toU_lt _ _), wrapI_toU]
  exact wrapI_of_in (nbytes_mul hv).2 ha

end Codec
end Sfx
