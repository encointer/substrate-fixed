import SfxProofs.ConvertHelper
import SfxProofs.Forms
/-
  Convert.lean — C-family "conversions" (core Lean only).
  What a helper answer stands for: `ConvOf` (producer side, every destination at once; `helper_convOf` derives it from `helper_spec`) and
  `Sees sd n conv E d` (what ONE destination of signedness `sd` and width `n` sees of it: `ConvOf.sees`, `helperTo_sees`).  Every consumer goes
  through `Sees`: the four policies and the plain form once (`Sees.ovf/.sat/.fits/.bits_of_in`), hence `fromFixed_forms` for the
  `*_from_fixed` forms of `FromFixed for $Fixed` (`traits.rs:1869-1972`) against the exact result `Layout.convExact`; the comparisons
  (Cmp.lean) and the float conversions (FromFloat.lean) use the same lemmas.
  The type-level side (`From` / `LossyFrom` impls of `convert.rs`): `lossyAdmissible S D` holds exactly when every source value converts
  (`lossyAdmissible_iff`; `convExact_inRange`, and `ends_not_fit` / `exists_not_fit` for the converse), `fromLossless_spec`.
-/
namespace Sfx.ConvPf
open Layout

theorem convExact_of_le (S D : Layout) (hf : S.f ≤ D.f) (x : Int) : Layout.convExact S D x = x * 2 ^ (D.f - S.f) := by
  rw [convExact, pow_sub_mul hf, ← Int.mul_assoc, Int.mul_ediv_cancel _ (Int.ne_of_gt (two_pow_pos S.f))]

theorem convExact_of_ge (S D : Layout) (hf : D.f ≤ S.f) (x : Int) : Layout.convExact S D x = x / 2 ^ (S.f - D.f) :=
  mul_pow_ediv hf x

theorem floorShift_eq_convExact (S D : Layout) (x : Int) :
    floorShift x ((S.f : Int) - (D.f : Int)) = convExact S D x := by
  unfold floorShift
  by_cases h : S.f ≤ D.f
  · rw [if_pos (by omega), convExact_of_le S D h, Int.neg_sub, Int.toNat_sub]
  · rw [if_neg (by omega), convExact_of_ge S D (by omega), Int.toNat_sub]

theorem convExact_zero (S D : Layout) : convExact S D 0 = 0 := by
  unfold convExact; simp

theorem convExact_nonneg (S D : Layout) {x : Int} (hx : 0 ≤ x) : 0 ≤ convExact S D x := by
  rw [← floorShift_eq_convExact]; exact floorShift_nonneg _ _ hx

theorem convExact_neg (S D : Layout) {x : Int} (hx : x < 0) : convExact S D x < 0 := by
  rw [← floorShift_eq_convExact]; exact floorShift_neg_of_neg _ _ hx

theorem convExact_neg_iff (S D : Layout) (x : Int) : convExact S D x < 0 ↔ x < 0 := by
  constructor
  · intro h
    by_cases hx : x < 0
    · exact hx
    · have := convExact_nonneg S D (x := x) (by omega); omega
  · exact convExact_neg S D

theorem scaled_emod_ne_zero_iff (x : Int) (p q : Nat) :
    x * 2 ^ p % 2 ^ q ≠ 0 ↔ 0 < (q : Int) - p ∧ x % 2 ^ ((q : Int) - p).toNat ≠ 0 := by
  by_cases h : q ≤ p
  · have e : x * 2 ^ p % 2 ^ q = 0 := by
      rw [pow_sub_mul h, ← Int.mul_assoc]
      exact Int.mul_emod_left ..
    exact ⟨fun h' => absurd e h', fun h' => by omega⟩
  · have e : x * 2 ^ p % 2 ^ q = 2 ^ p * (x % 2 ^ (q - p)) := by
      rw [pow_sub_mul (Nat.le_of_not_le h), Int.mul_comm x, Int.mul_comm (2 ^ (q - p))]
      exact Int.mul_emod_mul_of_pos _ _ (two_pow_pos p)
    rw [Int.toNat_sub, e, Int.mul_ne_zero_iff]
    exact ⟨fun h' => ⟨by omega, h'.2⟩, fun h' => ⟨Int.ne_of_gt (two_pow_pos p), h'.2⟩⟩

end Sfx.ConvPf

namespace Sfx.CmpPf
open ConvPf

/-- what an answer of the integer helper says of the integer `R` it stands for, for every destination signedness and every width up to
128 at once: the sign of `R`, the direction `dir`, the bits of `R` modulo any width, whether `R` needs more than `dstBits` bits.  The
helper itself answers so for `R = ⌊x·2^(−k)⌋` (`helper_convOf`); `to_float_kind` calls it on the rounded mantissa and puts the direction
of its own rounding in `dir` (`toFloatKind_spec`). -/
def ConvOf (conv : TFH) (R dir : Int) (dstBits : Nat) : Prop :=
  conv.neg = decide (R < 0) ∧ conv.dir = dir ∧
  (∀ (sd : Bool) (n : Nat), 0 < n → n ≤ 128 → wrapI sd n conv.bits = wrapI sd n R) ∧
  conv.overflow = (if 0 < R then decide (2 ^ dstBits ≤ R) else decide (R < -(2 ^ (dstBits - 1))))

theorem ConvOf.congr {conv : TFH} {R R' d d' : Int} {n : Nat} (h : ConvOf conv R d n) (hR : R = R') (hd : d = d') :
    ConvOf conv R' d' n := by
  subst hR; subst hd; exact h

theorem convOf_zero (d : Int) (n : Nat) : ConvOf ⟨false, 0, d, false⟩ 0 d n := by
  have := two_pow_pos (n - 1)
  refine ⟨by simp, rfl, fun _ _ _ _ => rfl, ?_⟩
  simp; omega

/-- `helper_spec` with the signs read off the result `R = ⌊x · 2^(−k)⌋` instead of the source `x` (they agree, and at `R = 0` both flags are down), `x = 0` included -/
theorem helper_convOf (s : Bool) (srcN : Nat) (hN : 0 < srcN) (hN128 : srcN ≤ 128) (x : Int) (hx : inI s srcN x)
    (srcFrac : Int) (dstFrac dstInt : Nat) (hD : 0 < dstFrac + dstInt) :
    ConvOf (toFixedHelper s srcN x srcFrac dstFrac dstInt) (floorShift x (srcFrac - dstFrac))
      (if 0 < srcFrac - dstFrac ∧ x % 2 ^ (srcFrac - dstFrac).toNat ≠ 0 then -1 else 0) (dstFrac + dstInt) := by
  by_cases hx0 : x = 0
  · subst hx0
    have hR : floorShift 0 (srcFrac - dstFrac) = 0 := by
      have := floorShift_nonneg 0 (srcFrac - dstFrac) (Int.le_refl 0)
      unfold floorShift at this ⊢; split <;> simp
    rw [helper_zero, hR, Int.zero_emod, if_neg (fun h => h.2 rfl)]
    exact convOf_zero 0 _
  · obtain ⟨h1, h2, h3, h4⟩ := helper_spec s srcN hN hN128 x hx hx0 srcFrac dstFrac dstInt hD
    have hneg := floorShift_neg_of_neg x (srcFrac - dstFrac)
    have hnn := floorShift_nonneg x (srcFrac - dstFrac)
    have hs : s = false → 0 ≤ x := fun e => by subst e; exact ((inU_iff _ _).1 hx).1
    have p1 := two_pow_pos (dstFrac + dstInt)
    have p2 := two_pow_pos (dstFrac + dstInt - 1)
    generalize floorShift x (srcFrac - dstFrac) = R at *
    refine ⟨?_, h2, h3, ?_⟩
    · rw [h1]
      cases s
      · exact (decide_eq_false (by have := hnn (hs rfl); omega)).symm
      · exact decide_eq_decide.2 ⟨hneg, fun h => by have := hnn; omega⟩
    · rw [h4]
      by_cases hp : 0 < R
      · rw [if_pos hp, if_pos (by have := hneg; omega)]
      · rw [if_neg hp]
        by_cases hxp : 0 < x
        · have : R = 0 := by have := hnn (by omega); omega
          subst this
          rw [if_pos hxp, decide_eq_false (by omega), decide_eq_false (by omega)]
        · rw [if_neg hxp]

theorem bits_pos (A : Layout) (hA : fits128 A) : 0 < A.f + A.intBits := by
  unfold Layout.intBits; have := hA.2.2; have := hA.1; omega

end Sfx.CmpPf

namespace Sfx.ConvPf
open Layout

/-- what a destination of signedness `sd` and width `n` sees of an answer of `to_fixed_helper` that stands for the exact integer `E`
with direction `d`: the sign, the bits modulo the destination's width, whether `E` needs more than `n` bits, the direction.  Both
sources of such an answer (`helperTo` for a fixed-point operand, `toFloatKind` for a float) are described by it, and every consumer
(the conversion forms, the comparisons) is proved from it. -/
structure Sees (sd : Bool) (n : Nat) (conv : TFH) (E d : Int) : Prop where
  neg : conv.neg = decide (E < 0)
  bits : wrapI sd n conv.bits = wrapI sd n E
  overflow : conv.overflow = (if 0 ≤ E then decide (2 ^ n ≤ E) else decide (E < -(2 ^ (n - 1))))
  dir : conv.dir = d

theorem _root_.Sfx.CmpPf.ConvOf.sees {conv : TFH} {R d : Int} (A : Layout) (hA : fits128 A)
    (h : CmpPf.ConvOf conv R d (A.f + A.intBits)) : Sees A.signed A.n conv R d := by
  obtain ⟨h1, h2, h3, h4⟩ := h
  have hsum : A.f + A.intBits = A.n := by unfold Layout.intBits; have := hA.2.2; omega
  refine ⟨h1, h3 A.signed A.n hA.1 hA.2.1, ?_, h2⟩
  -- the helper's flag distinguishes `0 < R`, `Sees` distinguishes `0 ≤ R`: at `R = 0` both say "no overflow"
  rw [h4, hsum]
  have p1 := two_pow_pos A.n
  have p2 := two_pow_pos (A.n - 1)
  by_cases h0 : R = 0
  · subst h0
    rw [if_neg (by omega), if_pos (by omega), decide_eq_false (by omega), decide_eq_false (by omega)]
  · by_cases hp : 0 < R
    · rw [if_pos hp, if_pos (by omega)]
    · rw [if_neg hp, if_neg (by omega)]

theorem helperTo_sees (S D : Layout) (hS : fits128 S) (hD : fits128 D) (x : Int) (hx : inRange S x) :
    Sees D.signed D.n (helperTo S D x) (convExact S D x) (if (x * 2 ^ D.f) % 2 ^ S.f ≠ 0 then -1 else 0) := by
  have h := (CmpPf.helper_convOf S.signed S.n hS.1 hS.2.1 x hx (S.f : Int) D.f D.intBits (CmpPf.bits_pos D hD)).sees D hD
  rw [floorShift_eq_convExact] at h
  simp only [scaled_emod_ne_zero_iff]
  exact h

theorem wrapS_neg_iff {n : Nat} (hn : 0 < n) {E : Int} (h0 : 0 ≤ E) (h1 : E < 2 ^ n) : wrapS n E < 0 ↔ 2 ^ (n - 1) ≤ E := by
  have hp := pow_split hn
  by_cases h : E < 2 ^ (n - 1)
  · rw [wrapS_of_in hn ((inS_iff n E).2 (by omega))]; omega
  · have e : E = (E - 2 ^ n) + 1 * 2 ^ n := by omega
    rw [e, wrapS_add_mul, wrapS_of_in hn ((inS_iff n _).2 (by omega))]; omega

theorem inI_iff_flags (sd : Bool) {n : Nat} (hn : 0 < n) (E : Int) :
    inI sd n E ↔
      (if 0 ≤ E then decide (2 ^ n ≤ E) else decide (E < -(2 ^ (n - 1)))) = false ∧ (E < 0 ↔ wrapI sd n E < 0) := by
  have hp := pow_split hn
  have hpos := two_pow_pos (n - 1)
  by_cases h0 : 0 ≤ E
  · rw [if_pos h0, decide_eq_false_iff_not]
    cases sd
    · have hw := ((inU_iff n _).1 (wrapU_in n E)).1
      rw [inU_iff]
      show _ ↔ _ ∧ (E < 0 ↔ wrapU n E < 0)
      omega
    · rw [inS_iff]
      show _ ↔ _ ∧ (E < 0 ↔ wrapS n E < 0)
      by_cases h1 : E < 2 ^ n
      · have := wrapS_neg_iff hn h0 h1; omega
      · omega
  · rw [if_neg h0, decide_eq_false_iff_not]
    cases sd
    · have hw := ((inU_iff n _).1 (wrapU_in n E)).1
      rw [inU_iff]
      show _ ↔ _ ∧ (E < 0 ↔ wrapU n E < 0)
      omega
    · rw [inS_iff]
      show _ ↔ _ ∧ (E < 0 ↔ wrapS n E < 0)
      by_cases h1 : -(2 ^ (n - 1)) ≤ E
      · rw [wrapS_of_in hn ((inS_iff n E).2 (by omega))]; omega
      · omega

/-- the fit test of the comparisons -/
theorem fits_combine (sd : Bool) (n : Nat) (hn : 0 < n) (E : Int) :
    (!(if 0 ≤ E then decide (2 ^ n ≤ E) else decide (E < -(2 ^ (n - 1)))) &&
      (decide (E < 0) == decide (wrapI sd n E < 0))) = decide (inI sd n E) := by
  rw [Bool.eq_iff_iff, decide_eq_true_iff, inI_iff_flags sd hn E, Bool.and_eq_true, Bool.not_eq_true', beq_iff_eq, decide_eq_decide]

theorem flags_signed_neg {n : Nat} {E : Int} (hneg : E < 0)
    (hh : (if 0 ≤ E then decide (2 ^ n ≤ E) else decide (E < -(2 ^ (n - 1)))) = false) : inI true n E := by
  rw [if_neg (by omega), decide_eq_false_iff_not] at hh
  have := two_pow_pos (n - 1)
  exact (inS_iff n E).2 ⟨by omega, by omega⟩

/-- the combined overflow flag of `overflowing_from_fixed` -/
theorem ovf_combine (sd : Bool) (n : Nat) (hn : 0 < n) (E : Int) :
    ((if 0 ≤ E then decide (2 ^ n ≤ E) else decide (E < -(2 ^ (n - 1)))) ||
      (if sd then (!decide (E < 0) && decide (wrapI sd n E < 0)) else decide (E < 0))) = !decide (inI sd n E) := by
  rw [← fits_combine sd n hn E]
  cases hh : (if 0 ≤ E then decide (2 ^ n ≤ E) else decide (E < -(2 ^ (n - 1))))
  · cases sd
    · have hw : decide (wrapI false n E < 0) = false := decide_eq_false (Int.not_lt.2 ((inU_iff n _).1 (wrapU_in n E)).1)
      rw [hw]
      cases decide (E < 0) <;> rfl
    · by_cases hneg : E < 0
      · rw [wrapI_of_in hn (flags_signed_neg hneg hh), decide_eq_true hneg]; rfl
      · rw [decide_eq_false hneg]
        cases decide (wrapI true n E < 0) <;> rfl
  · rfl

/-- the selection made by `saturating_from_fixed` -/
theorem sat_combine (sd : Bool) (n : Nat) (hn : 0 < n) (E : Int) :
    (if (if 0 ≤ E then decide (2 ^ n ≤ E) else decide (E < -(2 ^ (n - 1)))) = true then
        (if E < 0 then minI sd n else maxI sd n)
     else if sd = true then
        (if (!decide (E < 0) && decide (wrapI sd n E < 0)) = true then maxI sd n else wrapI sd n E)
     else
        (if decide (E < 0) = true then minI sd n else wrapI sd n E)) = clampI sd n E := by
  have hov := ovf_combine sd n hn E
  by_cases hin : inI sd n E
  · rw [decide_eq_true hin] at hov
    simp only [Bool.not_true, Bool.or_eq_false_iff] at hov
    rw [hov.1, clampI_of_in hin, wrapI_of_in hn hin, if_neg Bool.false_ne_true]
    cases sd
    · have hg : decide (E < 0) = false := hov.2
      rw [if_neg Bool.false_ne_true, hg, if_neg Bool.false_ne_true]
    · rw [if_pos rfl]
      cases decide (E < 0) <;> rfl
  · -- out of range: the overflow flag is up; which of its two parts tells the side
    rw [decide_eq_false hin] at hov
    generalize (if 0 ≤ E then decide (2 ^ n ≤ E) else decide (E < -(2 ^ (n - 1)))) = h at hov ⊢
    by_cases hneg : E < 0
    · rw [clampI_of_nonpos hin (Int.le_of_lt hneg), if_pos hneg]
      rw [decide_eq_true hneg] at hov ⊢
      cases h
      · cases sd
        · rfl
        · exact Bool.noConfusion hov
      · rfl
    · rw [clampI_of_nonneg hin (Int.not_lt.1 hneg), if_neg hneg]
      rw [decide_eq_false hneg] at hov ⊢
      cases h
      · cases sd
        · exact Bool.noConfusion hov
        · have hw : decide (wrapI true n E < 0) = true := hov
          rw [hw]; rfl
      · rfl

section
variable {sd : Bool} {n : Nat} {conv : TFH} {E d : Int}

theorem Sees.ovf (h : Sees sd n conv E d) (hn : 0 < n) :
    (wrapI sd n conv.bits,
      conv.overflow || (if sd then (!conv.neg && decide (wrapI sd n conv.bits < 0)) else conv.neg)) = ovfI sd n E := by
  rw [h.bits, h.neg, h.overflow]
  exact Prod.ext rfl (ovf_combine sd n hn E)

/-- `side` is whatever the caller uses to pick the bound on overflow (the sign of the source); it only has to agree with the sign of `E` -/
theorem Sees.sat (h : Sees sd n conv E d) (hn : 0 < n) (side : Bool) (hneg : E < 0 → side = true) (hpos : 0 < E → side = false) :
    (if conv.overflow then (if side then minI sd n else maxI sd n)
     else if sd then (if !conv.neg && decide (wrapI sd n conv.bits < 0) then maxI sd n else wrapI sd n conv.bits)
     else (if conv.neg then minI sd n else wrapI sd n conv.bits)) = clampI sd n E := by
  have hc := sat_combine sd n hn E
  rw [h.bits, h.neg]
  rw [← h.overflow] at hc
  by_cases hov : conv.overflow = true
  · rw [if_pos hov] at hc ⊢
    rw [← hc]
    by_cases hE : E < 0
    · rw [hneg hE, if_pos hE]; rfl
    · have : 0 < E := by
        have ho := h.overflow
        rw [hov] at ho
        have := two_pow_pos n
        by_cases h0 : 0 ≤ E
        · rw [if_pos h0] at ho; have := of_decide_eq_true ho.symm; omega
        · omega
      rw [hpos this, if_neg hE]; rfl
  · rw [if_neg hov] at hc ⊢
    rw [← hc]

theorem Sees.fits (h : Sees sd n conv E d) (hn : 0 < n) :
    (!conv.overflow && (conv.neg == decide (wrapI sd n conv.bits < 0))) = decide (inI sd n E) := by
  rw [h.bits, h.neg, h.overflow]
  exact fits_combine sd n hn E

theorem Sees.bits_of_in (h : Sees sd n conv E d) (hn : 0 < n) (hin : inI sd n E) : wrapI sd n conv.bits = E := by
  rw [h.bits]; exact wrapI_of_in hn hin

end

theorem fromFixed_forms (S D : Layout) (hS : fits128 S) (hD : fits128 D) (x : Int) (hx : inRange S x) :
    Layout.overflowingFromFixed S D x = D.ovf (Layout.convExact S D x) ∧
    Layout.checkedFromFixed S D x = D.chk (Layout.convExact S D x) ∧
    Layout.wrappingFromFixed S D x = D.wrap (Layout.convExact S D x) ∧
    Layout.saturatingFromFixed S D x = D.clamp (Layout.convExact S D x) ∧
    Layout.fromFixed S D x = .ok (D.wrap (Layout.convExact S D x)) (!decide (inRange D (Layout.convExact S D x))) := by
  have h := helperTo_sees S D hS hD x hx
  have hovf : Layout.overflowingFromFixed S D x = D.ovf (convExact S D x) := h.ovf hD.1
  refine ⟨hovf, ?_, ?_, ?_, ?_⟩
  · unfold Layout.checkedFromFixed; rw [hovf]; exact chkI_of_ovfI hD.1 _
  · unfold Layout.wrappingFromFixed; rw [hovf]; rfl
  · have := h.sat hD.1 (decide (x < 0)) (fun hE => decide_eq_true ((convExact_neg_iff S D x).1 hE))
      (fun hE => decide_eq_false (fun hx0 => by have := convExact_neg S D hx0; omega))
    simp only [decide_eq_true_eq] at this
    exact this
  · unfold Layout.fromFixed; rw [hovf]; rfl

theorem overflowingFromFixed_spec (S D : Layout) (hS : S.valid) (hD : D.valid) (x : Int) (hx : inRange S x) :
    Layout.overflowingFromFixed S D x = D.ovf (Layout.convExact S D x) :=
  (fromFixed_forms S D (valid_fits128 hS) (valid_fits128 hD) x hx).1

theorem checkedFromFixed_spec (S D : Layout) (hS : S.valid) (hD : D.valid) (x : Int) (hx : inRange S x) :
    Layout.checkedFromFixed S D x = D.chk (Layout.convExact S D x) :=
  (fromFixed_forms S D (valid_fits128 hS) (valid_fits128 hD) x hx).2.1

theorem wrappingFromFixed_spec (S D : Layout) (hS : S.valid) (hD : D.valid) (x : Int) (hx : inRange S x) :
    Layout.wrappingFromFixed S D x = D.wrap (Layout.convExact S D x) :=
  (fromFixed_forms S D (valid_fits128 hS) (valid_fits128 hD) x hx).2.2.1

theorem saturatingFromFixed_spec (S D : Layout) (hS : S.valid) (hD : D.valid) (x : Int) (hx : inRange S x) :
    Layout.saturatingFromFixed S D x = D.clamp (Layout.convExact S D x) :=
  (fromFixed_forms S D (valid_fits128 hS) (valid_fits128 hD) x hx).2.2.2.1

theorem fromFixed_spec (S D : Layout) (hS : S.valid) (hD : D.valid) (x : Int) (hx : inRange S x) :
    Layout.fromFixed S D x = .ok (D.wrap (Layout.convExact S D x)) (!decide (inRange D (Layout.convExact S D x))) :=
  (fromFixed_forms S D (valid_fits128 hS) (valid_fits128 hD) x hx).2.2.2.2

theorem ofInt_valid (si : Bool) {ni : Nat} (h : ni = 8 ∨ ni = 16 ∨ ni = 32 ∨ ni = 64 ∨ ni = 128) : (Layout.ofInt si ni).valid :=
  ⟨h, Nat.zero_le _⟩

theorem convExact_toInt (S : Layout) (si : Bool) (ni : Nat) (x : Int) :
    Layout.convExact S (Layout.ofInt si ni) x = x / 2 ^ S.f := by
  unfold Layout.convExact Layout.ofInt; simp

theorem convExact_fromInt (D : Layout) (si : Bool) (ni : Nat) (k : Int) :
    Layout.convExact (Layout.ofInt si ni) D k = k * 2 ^ D.f := by
  unfold Layout.convExact Layout.ofInt; simp

/-- `to_num::<iN/uN>` and its checked / saturating / wrapping / overflowing forms -/
theorem toInt_spec (S : Layout) (hS : S.valid) (si : Bool) (ni : Nat) (hni : ni = 8 ∨ ni = 16 ∨ ni = 32 ∨ ni = 64 ∨ ni = 128)
    (x : Int) (hx : inRange S x) :
    Layout.overflowingFromFixed S (Layout.ofInt si ni) x = ovfI si ni (x / 2 ^ S.f) ∧
    Layout.checkedFromFixed S (Layout.ofInt si ni) x = chkI si ni (x / 2 ^ S.f) ∧
    Layout.wrappingFromFixed S (Layout.ofInt si ni) x = wrapI si ni (x / 2 ^ S.f) ∧
    Layout.saturatingFromFixed S (Layout.ofInt si ni) x = clampI si ni (x / 2 ^ S.f) ∧
    Layout.fromFixed S (Layout.ofInt si ni) x = .ok (wrapI si ni (x / 2 ^ S.f)) (!decide (inI si ni (x / 2 ^ S.f))) := by
  have h := fromFixed_forms S _ (valid_fits128 hS) (valid_fits128 (ofInt_valid si hni)) x hx
  rw [convExact_toInt] at h
  exact h

/-- `from_num(iN/uN)` and its checked / saturating / wrapping / overflowing forms -/
theorem fromInt_spec (D : Layout) (hD : D.valid) (si : Bool) (ni : Nat) (hni : ni = 8 ∨ ni = 16 ∨ ni = 32 ∨ ni = 64 ∨ ni = 128)
    (k : Int) (hk : inI si ni k) :
    Layout.overflowingFromFixed (Layout.ofInt si ni) D k = D.ovf (k * 2 ^ D.f) ∧
    Layout.checkedFromFixed (Layout.ofInt si ni) D k = D.chk (k * 2 ^ D.f) ∧
    Layout.wrappingFromFixed (Layout.ofInt si ni) D k = D.wrap (k * 2 ^ D.f) ∧
    Layout.saturatingFromFixed (Layout.ofInt si ni) D k = D.clamp (k * 2 ^ D.f) ∧
    Layout.fromFixed (Layout.ofInt si ni) D k = .ok (D.wrap (k * 2 ^ D.f)) (!decide (inRange D (k * 2 ^ D.f))) := by
  have h := fromFixed_forms _ D (valid_fits128 (ofInt_valid si hni)) (valid_fits128 hD) k hk
  rw [convExact_fromInt] at h
  exact h

/-- the integer-bit condition of `convert.rs` (the only condition of `LossyFrom`): the destination has at least as many
integer bits, one more when an unsigned source goes to a signed destination; signed → unsigned is never admitted -/
def lossyAdmissible (S D : Layout) : Prop :=
  if S.signed = D.signed then S.n - S.f ≤ D.n - D.f else (S.signed = false ∧ D.signed = true ∧ S.n - S.f + 1 ≤ D.n - D.f)

/-- the type-level admissibility of `From<Src> for Dst` -/
def fromAdmissible (S D : Layout) : Prop :=
  S.f ≤ D.f ∧ (if S.signed = D.signed then S.n - S.f ≤ D.n - D.f else (S.signed = false ∧ D.signed = true ∧ S.n - S.f + 1 ≤ D.n - D.f))

theorem fromAdmissible_iff (S D : Layout) : fromAdmissible S D ↔ S.f ≤ D.f ∧ lossyAdmissible S D := Iff.rfl

/-- `From<T> for T` -/
theorem fromAdmissible_refl (D : Layout) : fromAdmissible D D := by
  unfold fromAdmissible
  exact ⟨Nat.le_refl _, by rw [if_pos rfl]; exact Nat.le_refl _⟩

/-- how the where-clauses of `convert.rs` give the integer-bit condition: a bound `B` on the integer plus fractional bits of the
destination that its width covers (`B ≤ n`, or `B + 1 ≤ n` from unsigned to signed).  The sign clause comes from a row of an impl table
and is a Boolean: `p` stands for the bound of a same-signedness row, `q` for the bound of an unsigned → signed row. -/
theorem lossyAdmissible_of_row (S D : Layout) (B : Nat) (p q : Bool)
    (hrow : (if S.signed == D.signed then p else (!S.signed && D.signed && q)) = true)
    (hp : p = true → B ≤ D.n) (hq : q = true → B + 1 ≤ D.n) (hfd : D.f ≤ B) (hint : S.n - S.f ≤ B - D.f) :
    lossyAdmissible S D := by
  unfold lossyAdmissible
  generalize S.signed = ss at hrow ⊢
  generalize D.signed = ds at hrow ⊢
  cases ss <;> cases ds
  · have := hp hrow
    rw [if_pos rfl]
    omega
  · have := hq hrow
    rw [if_neg Bool.false_ne_true]
    exact ⟨rfl, rfl, by omega⟩
  · exact Bool.noConfusion hrow
  · have := hp hrow
    rw [if_pos rfl]
    omega

theorem pow_le_mul_of_le {x : Int} {a p b : Nat} (h : 2 ^ a ≤ x) (hab : b ≤ a + p) : 2 ^ b ≤ x * 2 ^ p :=
  Int.le_trans (pow_le_pow hab) (by rw [pow_add']; exact Int.mul_le_mul_of_nonneg_right h (Int.le_of_lt (two_pow_pos p)))

theorem mul_pow_lt_neg_of_lt {x : Int} {a p b : Nat} (h : x ≤ -(2 ^ a)) (hab : b < a + p) : x * 2 ^ p < -(2 ^ b) := by
  have h1 := Int.mul_le_mul_of_nonneg_right h (Int.le_of_lt (two_pow_pos p))
  rw [Int.neg_mul, ← pow_add'] at h1
  have := pow_lt_pow hab
  omega

theorem two_pow_pred_le {n : Nat} (hn : 0 < n) : (2 : Int) ^ (n - 1) ≤ 2 ^ n - 1 := by
  have := pow_split hn
  have := two_pow_pos (n - 1)
  omega

theorem inI_mul_pow {s : Bool} {n : Nat} (hn : 0 < n) {x : Int} (h : inI s n x) (p : Nat) : inI s (n + p) (x * 2 ^ p) :=
  (inI_ediv_pow_iff s hn _ p).1 (by rw [Int.mul_ediv_cancel _ (Int.ne_of_gt (two_pow_pos p))]; exact h)

theorem inS_succ_of_inU {n : Nat} {x : Int} (h : inI false n x) : inI true (n + 1) x := by
  rw [inU_iff] at h
  rw [inS_iff, Nat.add_sub_cancel]
  omega

/-- the source may be any width (e.g. the one bit of `bool`); the scaled source bits need `S.n + D.f` bits (one more from unsigned to
signed), the quotient `S.f` fewer -/
theorem convExact_inRange (S D : Layout) (hSn : 0 < S.n) (hDn : 0 < D.n) (hDf : D.f ≤ D.n) (h : lossyAdmissible S D) (x : Int)
    (hx : inRange S x) : inRange D (Layout.convExact S D x) := by
  unfold lossyAdmissible at h
  unfold inRange at hx ⊢
  unfold convExact
  rw [inI_ediv_pow_iff _ hDn]
  by_cases hs : S.signed = D.signed
  · rw [if_pos hs] at h
    exact inI_mono (by omega) (hs ▸ inI_mul_pow hSn hx D.f)
  · rw [if_neg hs] at h
    obtain ⟨h1, h2, h3⟩ := h
    rw [h1] at hx
    rw [h2]
    exact inI_mono (by omega) (inI_mul_pow (Nat.succ_pos _) (inS_succ_of_inU hx) D.f)

theorem ediv_pow_inS {y : Int} {q n : Nat} (hn : 0 < n) (h : inI true n (y / 2 ^ q)) :
    -(2 ^ (n - 1 + q)) ≤ y ∧ y < 2 ^ (n - 1 + q) := by
  have := (inS_iff _ _).1 ((inI_ediv_pow_iff true hn y q).1 h)
  rwa [show n + q - 1 = n - 1 + q by omega] at this

theorem ends_not_fit (S D : Layout) (hSn : 0 < S.n) (hSf : S.f ≤ S.n) (hDn : 0 < D.n) (hDf : D.f ≤ D.n) (h : ¬ lossyAdmissible S D) :
    ¬ inRange D (Layout.convExact S D S.min) ∨ ¬ inRange D (Layout.convExact S D S.max) := by
  unfold lossyAdmissible at h
  unfold inRange convExact Layout.min Layout.max minI maxI
  cases hs : S.signed <;> cases hd : D.signed <;>
    simp only [hs, hd, Bool.false_eq_true, Bool.true_eq_false, if_true, if_false, false_and, true_and] at h ⊢
  · have e : D.n + S.f ≤ S.n - 1 + D.f := by omega
    refine .inr fun hin => ?_
    have := pow_le_mul_of_le (two_pow_pred_le hSn) e
    have := (inU_iff _ _).1 ((inI_ediv_pow_iff false hDn _ _).1 hin)
    omega
  · have e : D.n - 1 + S.f ≤ S.n - 1 + D.f := by omega
    refine .inr fun hin => ?_
    have := pow_le_mul_of_le (two_pow_pred_le hSn) e
    have := ediv_pow_inS hDn hin
    omega
  · refine .inl fun hin => ?_
    have := Int.mul_neg_of_neg_of_pos (Int.neg_neg_of_pos (two_pow_pos (S.n - 1))) (two_pow_pos D.f)
    have := (inU_iff _ _).1 ((inI_ediv_pow_iff false hDn _ _).1 hin)
    omega
  · have e : D.n - 1 + S.f < S.n - 1 + D.f := by omega
    refine .inl fun hin => ?_
    have := mul_pow_lt_neg_of_lt (Int.le_refl (-(2 ^ (S.n - 1)))) e
    have := ediv_pow_inS hDn hin
    omega

theorem exists_not_fit (S D : Layout) (hSn : 0 < S.n) (hSf : S.f ≤ S.n) (hDn : 0 < D.n) (hDf : D.f ≤ D.n) (h : ¬ lossyAdmissible S D) :
    ∃ x, inRange S x ∧ ¬ inRange D (Layout.convExact S D x) :=
  (ends_not_fit S D hSn hSf hDn hDf h).elim (fun h1 => ⟨_, inRange_min S, h1⟩) (fun h1 => ⟨_, inRange_max S, h1⟩)

theorem lossyAdmissible_iff (S D : Layout) (hSn : 0 < S.n) (hSf : S.f ≤ S.n) (hDn : 0 < D.n) (hDf : D.f ≤ D.n) :
    lossyAdmissible S D ↔ ∀ x, inRange S x → inRange D (Layout.convExact S D x) := by
  refine ⟨convExact_inRange S D hSn hDn hDf, fun h => Classical.byContradiction fun hn => ?_⟩
  obtain ⟨x, hx, hnx⟩ := exists_not_fit S D hSn hSf hDn hDf hn
  exact hnx (h x hx)

/-- `LossyFrom`: `src.to_num()` never overflows and returns the exact result (only fractional bits can be lost) -/
theorem lossyFrom_spec (S D : Layout) (hS : S.valid) (hD : D.valid) (h : lossyAdmissible S D) (x : Int) (hx : inRange S x) :
    Layout.fromFixed S D x = .ok (Layout.convExact S D x) false :=
  plain_of_inRange (fromFixed_spec S D hS hD x hx) hD.pos
    (convExact_inRange S D hS.pos hD.pos hD.2 h x hx)

/-- `From<Src> for Dst`: a plain left shift, no check fires, the result is in range and is the exact result -/
theorem fromLossless_spec (S D : Layout) (hS : S.valid) (hD : D.valid) (h : fromAdmissible S D) (x : Int) (hx : inRange S x) :
    Layout.fromLossless S D x = .ok (x * 2 ^ (D.f - S.f)) false ∧ inRange D (x * 2 ^ (D.f - S.f)) ∧
      Layout.convExact S D x = x * 2 ^ (D.f - S.f) := by
  obtain ⟨hf, hadm⟩ := h
  have hlt : D.f - S.f < D.n := by
    have := hS.pos
    have := hD.2
    split at hadm <;> omega
  have hE := convExact_of_le S D hf x
  have hin : inRange D (x * 2 ^ (D.f - S.f)) := by
    rw [← hE]; exact convExact_inRange S D hS.pos hD.pos hD.2 hadm x hx
  refine ⟨?_, hin, hE⟩
  rw [Layout.fromLossless, usub_nbits D.f S.f (by have := hD.le128; have := hD.2; omega) hf, ok_false_bind,
    Int.toNat_natCast]
  exact ushl_of_in hlt hin

/-- value preservation of the lossless shift: `(x·2^(D.f−S.f)) / 2^D.f = x / 2^S.f` as rationals -/
theorem fromLossless_value (S D : Layout) (hf : S.f ≤ D.f) (x : Int) :
    (x * 2 ^ (D.f - S.f)) * 2 ^ S.f = x * 2 ^ D.f := by
  have : D.f = (D.f - S.f) + S.f := by omega
  rw [Int.mul_assoc, ← pow_add', ← this]

/-- a value converted to its own type: itself, no overflow -/
theorem ovf_self (D : Layout) (hv : D.valid) (v : Int) (hvr : inRange D v) :
    Layout.overflowingFromFixed D D v = (v, false) := by
  have e : Layout.convExact D D v = v := Int.mul_ediv_cancel v (Int.ne_of_gt (two_pow_pos D.f))
  rw [overflowingFromFixed_spec D D hv hv v hvr, e]
  exact Layout.ovf_of_in D hv.pos hvr

end Sfx.ConvPf

open Sfx.ConvPf in
#print axioms helper_spec
open Sfx.ConvPf in
#print axioms helper_neg
open Sfx.ConvPf in
#print axioms helper_dir
open Sfx.ConvPf in
#print axioms helper_bits
open Sfx.ConvPf in
#print axioms helper_overflow
open Sfx.ConvPf in
#print axioms helper_zero
open Sfx.ConvPf in
#print axioms overflowingFromFixed_spec
open Sfx.ConvPf in
#print axioms checkedFromFixed_spec
open Sfx.ConvPf in
#print axioms wrappingFromFixed_spec
open Sfx.ConvPf in
#print axioms saturatingFromFixed_spec
open Sfx.ConvPf in
#print axioms fromFixed_spec
open Sfx.ConvPf in
#print axioms toInt_spec
open Sfx.ConvPf in
#print axioms fromInt_spec
open Sfx.ConvPf in
#print axioms convExact_inRange
open Sfx.ConvPf in
#print axioms lossyFrom_spec
open Sfx.ConvPf in
#print axioms fromLossless_spec
open Sfx.ConvPf in
#print axioms fromLossless_value
