import SfxModel.Convert
import SfxProofs.PrimLemmas
/-
  ConvertHelper.lean — specification of `IntHelper::to_fixed_helper` (model: `toFixedHelper`), core Lean only.
  With `k = srcFrac − dstFrac` and `V = ⌊x · 2^(−k)⌋`:
    neg ⇔ x < 0;  dir = Less ⇔ bits were discarded;  bits ≡ V (mod 2^128);
    overflow ⇔ V needs more than `dstFrac + dstInt` bits (unsigned reading for x > 0, two's complement for x < 0).
-/
namespace Sfx.ConvPf

/-- `⌊x · 2^(−k)⌋`: the source bits moved by the difference of fractional bits -/
def floorShift (x k : Int) : Int := if k ≤ 0 then x * 2 ^ (-k).toNat else x / 2 ^ k.toNat

theorem floorShift_neg (x : Int) (j : Nat) : floorShift x (-(j : Int)) = x * 2 ^ j := by
  unfold floorShift
  have h : (-(-(j : Int))).toNat = j := by omega
  rw [if_pos (by omega), h]

theorem floorShift_pos (x : Int) (j : Nat) (hj : 0 < j) : floorShift x (j : Int) = x / 2 ^ j := by
  unfold floorShift
  have h : ((j : Int)).toNat = j := by omega
  rw [if_neg (by omega), h]

theorem shift_cases (k : Int) : (∃ j : Nat, k = -(j : Int)) ∨ (∃ j : Nat, 0 < j ∧ k = (j : Int)) := by
  by_cases h : k ≤ 0
  · exact .inl ⟨(-k).toNat, by omega⟩
  · exact .inr ⟨k.toNat, by omega, by omega⟩

theorem bitLen_le_iff_int (y : Int) (hy : 0 ≤ y) (m : Nat) : bitLen y.toNat ≤ m ↔ y < 2 ^ m := by
  rw [bitLen_le_iff]
  have h2 : ((2 ^ m : Nat) : Int) = (2 : Int) ^ m := by norm_cast
  omega

theorem pow_le_iff_lt_bitLen {x : Int} (hx : 0 ≤ x) (m : Nat) : 2 ^ m ≤ x ↔ m < bitLen x.toNat := by
  have := bitLen_le_iff_int x hx m
  omega

theorem pow_le_floorShift_iff {x : Int} (hx : 0 < x) (k : Int) (d : Nat) :
    2 ^ d ≤ floorShift x k ↔ (d : Int) + k < bitLen x.toNat := by
  rcases shift_cases k with ⟨j, rfl⟩ | ⟨j, hj, rfl⟩
  · rw [floorShift_neg]
    by_cases hjd : j ≤ d
    · obtain ⟨m, rfl⟩ : ∃ m : Nat, d = m + j := ⟨d - j, by omega⟩
      rw [pow_add', Int.mul_le_mul_right (two_pow_pos j), pow_le_iff_lt_bitLen (Int.le_of_lt hx)]
      omega
    · have h1 : (2 : Int) ^ d ≤ 2 ^ j := pow_le_pow (by omega)
      have h2 : 1 * (2 : Int) ^ j ≤ x * 2 ^ j := Int.mul_le_mul_of_nonneg_right hx (Int.le_of_lt (two_pow_pos j))
      exact ⟨fun _ => by omega, fun _ => by omega⟩
  · rw [floorShift_pos _ _ hj, Int.le_ediv_iff_mul_le (two_pow_pos j), ← pow_add', pow_le_iff_lt_bitLen (Int.le_of_lt hx)]
    omega

theorem floorShift_lt_neg_pow_iff {x : Int} (hx : x < 0) (k : Int) (d : Nat) :
    floorShift x k < -(2 ^ d) ↔ (d : Int) + k < bitLen (-x - 1).toNat := by
  have key : ∀ m : Nat, x < -(2 ^ m) ↔ m < bitLen (-x - 1).toNat := fun m => by
    rw [← pow_le_iff_lt_bitLen (by omega)]; omega
  rcases shift_cases k with ⟨j, rfl⟩ | ⟨j, hj, rfl⟩
  · rw [floorShift_neg]
    by_cases hjd : j ≤ d
    · obtain ⟨m, rfl⟩ : ∃ m : Nat, d = m + j := ⟨d - j, by omega⟩
      rw [pow_add', ← Int.neg_mul, Int.mul_lt_mul_right (two_pow_pos j), key]
      omega
    · have h1 : (2 : Int) ^ d < 2 ^ j := pow_lt_pow (by omega)
      have h2 : x * (2 : Int) ^ j ≤ (-1) * 2 ^ j := Int.mul_le_mul_of_nonneg_right (by omega) (Int.le_of_lt (two_pow_pos j))
      exact ⟨fun _ => by omega, fun _ => by omega⟩
  · rw [floorShift_pos _ _ hj, Int.ediv_lt_iff_lt_mul (two_pow_pos j), Int.neg_mul, ← pow_add', key]
    omega

theorem floorShift_nonneg (x k : Int) (hx : 0 ≤ x) : 0 ≤ floorShift x k := by
  rcases shift_cases k with ⟨j, rfl⟩ | ⟨j, hj, rfl⟩
  · rw [floorShift_neg]; exact Int.mul_nonneg hx (Int.le_of_lt (two_pow_pos j))
  · rw [floorShift_pos _ _ hj]; exact Int.ediv_nonneg hx (Int.le_of_lt (two_pow_pos j))

theorem floorShift_neg_of_neg (x k : Int) (hx : x < 0) : floorShift x k < 0 := by
  rcases shift_cases k with ⟨j, rfl⟩ | ⟨j, hj, rfl⟩
  · rw [floorShift_neg]
    have h2 : x * (2 : Int) ^ j ≤ (-1) * 2 ^ j := Int.mul_le_mul_of_nonneg_right (by omega) (Int.le_of_lt (two_pow_pos j))
    have := two_pow_pos j
    omega
  · rw [floorShift_pos _ _ hj]
    have := (Int.ediv_lt_iff_lt_mul (a := x) (b := 0) (two_pow_pos j)).2 (by omega)
    exact this

theorem ediv_of_small_neg {x P : Int} (h1 : -P ≤ x) (h2 : x < 0) : x / P = -1 :=
  Int.ediv_eq_neg_one_of_neg_of_le h2 (by omega)

theorem emod_ne_zero_of_small {x P : Int} (hx0 : x ≠ 0) (h1 : -P < x) (h2 : x < P) : x % P ≠ 0 := by
  have hP : 0 < P := by omega
  have e := Int.emod_add_mul_ediv x P
  by_cases hn : 0 ≤ x
  · rw [Int.ediv_eq_zero_of_lt hn h2] at e; omega
  · rw [ediv_of_small_neg (by omega) (by omega)] at e; omega

theorem wrapI_mul_pow_of_le (sd : Bool) {n m : Nat} (hn : 0 < n) (h : n ≤ m) (x : Int) : wrapI sd n (x * 2 ^ m) = 0 := by
  obtain ⟨e, rfl⟩ : ∃ e, m = n + e := ⟨m - n, by omega⟩
  exact wrapI_unique hn (x * 2 ^ e) (by rw [pow_add', Int.mul_comm (2 ^ n) (2 ^ e), Int.mul_assoc]; omega) (inI_zero sd n)

theorem leadingZeros_pos {s : Bool} {n : Nat} {x : Int} (hx : inI s n x) (hpos : 0 < x) :
    (leadingZeros n x : Int) = (n : Int) - bitLen x.toNat ∧ bitLen x.toNat ≤ n := by
  have hlt : x < 2 ^ n := by
    cases s
    · exact ((inU_iff n x).1 hx).2
    · exact Int.lt_of_lt_of_le ((inS_iff n x).1 hx).2 (pow_le_pow (Nat.sub_le n 1))
  have hb : bitLen x.toNat ≤ n := (bitLen_le_iff_int x (by omega) n).2 hlt
  rw [leadingZeros_of_lt (by omega) hlt]
  omega

/-- negative source: `(!x).leading_zeros() − 1 = N − 1 − bitlen(−x−1)` -/
theorem leadingZeros_neg {n : Nat} (hn : 0 < n) {x : Int} (hx : inI true n x) (hneg : x < 0) :
    (leadingZeros n (notI true n x) : Int) - 1 = (n : Int) - 1 - bitLen (-x - 1).toNat ∧ bitLen (-x - 1).toNat ≤ n - 1 := by
  have hx' := (inS_iff n x).1 hx
  have hnot : notI true n x = -x - 1 := wrapI_of_in hn ((inS_iff n _).2 (by omega))
  have hlt1 : -x - 1 < 2 ^ (n - 1) := by omega
  have hb : bitLen (-x - 1).toNat ≤ n - 1 := (bitLen_le_iff_int (-x - 1) (by omega) (n - 1)).2 hlt1
  rw [hnot, leadingZeros_of_lt (by omega) (Int.lt_of_lt_of_le hlt1 (pow_le_pow (Nat.sub_le n 1)))]
  omega

/-- the `leading` count of the helper -/
def leadingOf (s : Bool) (srcN : Nat) (x : Int) : Int :=
  if s && decide (x < 0) then (leadingZeros srcN (notI true srcN x) : Int) - 1 else (leadingZeros srcN x : Int)

/-- the five-way `match need_to_shr` -/
def bitsLost (s : Bool) (x needShr : Int) : Int × Bool :=
  if needShr ≤ -128 then (0, false)
  else if needShr < 0 then (wrapI s 128 (x * 2 ^ (-needShr).toNat), false)
  else if needShr = 0 then (x, false)
  else if needShr ≤ 127 then
    (shrI x needShr.toNat, decide (wrapI s 128 (shrI x needShr.toNat * 2 ^ needShr.toNat) ≠ x))
  else ((if s then shrI x 127 else 0), true)

theorem tfh_eq (s : Bool) (srcN : Nat) (x : Int) (hx0 : x ≠ 0) (srcFrac : Int) (dstFrac dstInt : Nat) :
    toFixedHelper s srcN x srcFrac dstFrac dstInt =
      ⟨s && decide (x < 0),
       if s && decide (0 ≤ x) then wrapU 128 (bitsLost s x (srcFrac - dstFrac)).1 else (bitsLost s x (srcFrac - dstFrac)).1,
       if (bitsLost s x (srcFrac - dstFrac)).2 then -1 else 0,
       decide ((srcN : Int) - ((dstFrac : Int) + dstInt) > (srcFrac - dstFrac) + leadingOf s srcN x)⟩ := by
  unfold toFixedHelper
  rw [if_neg hx0]
  cases s
  · rfl
  · by_cases h : x ≥ 0
    · have h' : ¬ x < 0 := by omega
      simp [h, h', bitsLost, leadingOf]
    · have h' : x < 0 := by omega
      have h'' : ¬ 0 ≤ x := by omega
      simp [h', h'', bitsLost, leadingOf]

theorem bitsLost_spec (s : Bool) (x k : Int) (hx : inI s 128 x) (hx0 : x ≠ 0) :
    (∀ (sd : Bool) (n : Nat), 0 < n → n ≤ 128 → wrapI sd n (bitsLost s x k).1 = wrapI sd n (floorShift x k)) ∧
    (bitsLost s x k).2 = decide (0 < k ∧ x % 2 ^ k.toNat ≠ 0) := by
  unfold bitsLost
  rcases shift_cases k with ⟨j, rfl⟩ | ⟨j, hj, rfl⟩
  · -- a left shift by `j` loses nothing; from 128 on nothing is left in any width
    have hl : false = decide (0 < -(j : Int) ∧ x % 2 ^ (-(j : Int)).toNat ≠ 0) :=
      (decide_eq_false fun h => absurd h.1 (by omega)).symm
    have e : (-(-(j : Int))).toNat = j := by omega
    rw [floorShift_neg]
    by_cases h1 : -(j : Int) ≤ -128
    · rw [if_pos h1]
      exact ⟨fun sd n hn _ => by rw [wrapI_mul_pow_of_le sd hn (by omega), wrapI_zero sd hn], hl⟩
    rw [if_neg h1]
    by_cases h2 : -(j : Int) < 0
    · rw [if_pos h2, e]
      exact ⟨fun sd n _ hn128 => wrapI_wrapI_of_le sd s hn128 _, hl⟩
    · have hj0 : j = 0 := by omega
      subst hj0
      rw [if_neg h2, if_pos (by omega), Int.pow_zero, Int.mul_one]
      exact ⟨fun _ _ _ _ => rfl, hl⟩
  · have e : ((j : Int)).toNat = j := Int.toNat_natCast j
    have hP := two_pow_pos j
    rw [if_neg (by omega), if_neg (by omega), if_neg (by omega), floorShift_pos _ _ hj, e]
    by_cases h4 : (j : Int) ≤ 127
    · rw [if_pos h4]
      refine ⟨fun _ _ _ _ => rfl, decide_eq_decide.2 ?_⟩
      show wrapI s 128 (x / 2 ^ j * 2 ^ j) ≠ x ↔ _
      constructor
      · intro h
        refine ⟨Int.natCast_pos.2 hj, fun h0 => h ?_⟩
        rw [Int.ediv_mul_cancel (Int.dvd_of_emod_eq_zero h0)]
        exact wrapI_of_in (by decide) hx
      · -- a multiple of `2^j` below `x` by less than `2^127` is not `x` modulo `2^128`
        intro h hw
        obtain ⟨c, hc⟩ := wrapI_eq_add_mul s 128 (x / 2 ^ j * 2 ^ j)
        obtain ⟨em, _, _⟩ := euclid x hP
        have : (2 : Int) ^ j ≤ 2 ^ 127 := pow_le_pow (by omega)
        rw [hc] at hw
        have := h.2
        omega
    · rw [if_neg h4]
      have hle : (2 : Int) ^ 128 ≤ 2 ^ j := pow_le_pow (by omega)
      cases s
      · rw [inU_iff] at hx
        exact ⟨fun sd n _ _ => by rw [Int.ediv_eq_zero_of_lt hx.1 (show x < 2 ^ j by omega)]; rfl,
          (decide_eq_true ⟨Int.natCast_pos.2 hj, emod_ne_zero_of_small hx0 (by omega) (by omega)⟩).symm⟩
      · rw [inS_iff] at hx
        refine ⟨fun sd n _ _ => ?_,
          (decide_eq_true ⟨Int.natCast_pos.2 hj, emod_ne_zero_of_small hx0 (by omega) (by omega)⟩).symm⟩
        show wrapI sd n (x / 2 ^ 127) = _
        by_cases hneg : x < 0
        · rw [ediv_of_small_neg (P := 2 ^ 127) (by omega) hneg, ediv_of_small_neg (P := 2 ^ j) (by omega) hneg]
        · rw [Int.ediv_eq_zero_of_lt (by omega) (by omega), Int.ediv_eq_zero_of_lt (by omega) (by omega)]

theorem overflow_flag (s : Bool) (srcN : Nat) (hN : 0 < srcN) (x : Int) (hx : inI s srcN x) (hx0 : x ≠ 0) (k : Int)
    (d : Nat) (hd : 0 < d) :
    decide ((srcN : Int) - (d : Int) > k + leadingOf s srcN x) =
      (if 0 < x then decide (2 ^ d ≤ floorShift x k) else decide (floorShift x k < -(2 ^ (d - 1)))) := by
  by_cases hpos : 0 < x
  · have hl : leadingOf s srcN x = (leadingZeros srcN x : Int) := by
      unfold leadingOf
      have : ¬ x < 0 := by omega
      simp [this]
    rw [if_pos hpos, hl, (leadingZeros_pos hx hpos).1, decide_eq_decide, pow_le_floorShift_iff hpos]
    omega
  · have hneg : x < 0 := by omega
    have hs : s = true := by
      cases s
      · rw [inU_iff] at hx; omega
      · rfl
    subst hs
    have hl : leadingOf true srcN x = (leadingZeros srcN (notI true srcN x) : Int) - 1 := by
      unfold leadingOf
      simp [hneg]
    rw [if_neg hpos, hl, (leadingZeros_neg hN hx hneg).1, decide_eq_decide, floorShift_lt_neg_pow_iff hneg]
    omega

theorem helper_spec (s : Bool) (srcN : Nat) (hN : 0 < srcN) (hN128 : srcN ≤ 128) (x : Int) (hx : inI s srcN x) (hx0 : x ≠ 0)
    (srcFrac : Int) (dstFrac dstInt : Nat) (hD : 0 < dstFrac + dstInt) :
    (toFixedHelper s srcN x srcFrac dstFrac dstInt).neg = (s && decide (x < 0)) ∧
    (toFixedHelper s srcN x srcFrac dstFrac dstInt).dir
        = (if 0 < srcFrac - dstFrac ∧ x % 2 ^ (srcFrac - dstFrac).toNat ≠ 0 then -1 else 0) ∧
    (∀ (sd : Bool) (n : Nat), 0 < n → n ≤ 128 →
        wrapI sd n (toFixedHelper s srcN x srcFrac dstFrac dstInt).bits = wrapI sd n (floorShift x (srcFrac - dstFrac))) ∧
    (toFixedHelper s srcN x srcFrac dstFrac dstInt).overflow
        = (if 0 < x then decide (2 ^ (dstFrac + dstInt) ≤ floorShift x (srcFrac - dstFrac))
           else decide (floorShift x (srcFrac - dstFrac) < -(2 ^ (dstFrac + dstInt - 1)))) := by
  have hx128 : inI s 128 x := inI_mono hN128 hx
  rw [tfh_eq s srcN x hx0]
  refine ⟨rfl, ?_, ?_, ?_⟩
  · show (if (bitsLost s x (srcFrac - dstFrac)).2 then (-1 : Int) else 0) = _
    rw [(bitsLost_spec s x _ hx128 hx0).2]
    simp only [decide_eq_true_eq]
  · intro sd n hn hn128
    show wrapI sd n (if s && decide (0 ≤ x) then wrapU 128 (bitsLost s x (srcFrac - dstFrac)).1
      else (bitsLost s x (srcFrac - dstFrac)).1) = _
    rw [← (bitsLost_spec s x _ hx128 hx0).1 sd n hn hn128]
    split
    · exact wrapI_wrapI_of_le sd false hn128 _
    · rfl
  · show decide ((srcN : Int) - ((dstFrac : Int) + dstInt) > (srcFrac - dstFrac) + leadingOf s srcN x) = _
    have := overflow_flag s srcN hN x hx hx0 (srcFrac - dstFrac) (dstFrac + dstInt) hD
    rw [← this]
    apply decide_eq_decide.2
    have : ((dstFrac + dstInt : Nat) : Int) = (dstFrac : Int) + dstInt := by omega
    rw [this]

theorem helper_neg (s : Bool) (srcN : Nat) (hN : 0 < srcN) (hN128 : srcN ≤ 128) (x : Int) (hx : inI s srcN x) (hx0 : x ≠ 0)
    (srcFrac : Int) (dstFrac dstInt : Nat) (hD : 0 < dstFrac + dstInt) :
    (toFixedHelper s srcN x srcFrac dstFrac dstInt).neg = (s && decide (x < 0)) :=
  (helper_spec s srcN hN hN128 x hx hx0 srcFrac dstFrac dstInt hD).1

theorem helper_dir (s : Bool) (srcN : Nat) (hN : 0 < srcN) (hN128 : srcN ≤ 128) (x : Int) (hx : inI s srcN x) (hx0 : x ≠ 0)
    (srcFrac : Int) (dstFrac dstInt : Nat) (hD : 0 < dstFrac + dstInt) :
    (toFixedHelper s srcN x srcFrac dstFrac dstInt).dir
      = (if 0 < srcFrac - dstFrac ∧ x % 2 ^ (srcFrac - dstFrac).toNat ≠ 0 then -1 else 0) :=
  (helper_spec s srcN hN hN128 x hx hx0 srcFrac dstFrac dstInt hD).2.1

theorem helper_bits (s : Bool) (srcN : Nat) (hN : 0 < srcN) (hN128 : srcN ≤ 128) (x : Int) (hx : inI s srcN x) (hx0 : x ≠ 0)
    (srcFrac : Int) (dstFrac dstInt : Nat) (hD : 0 < dstFrac + dstInt) :
    ∀ (sd : Bool) (n : Nat), 0 < n → n ≤ 128 →
      wrapI sd n (toFixedHelper s srcN x srcFrac dstFrac dstInt).bits
        = wrapI sd n (if srcFrac - dstFrac ≤ 0 then x * 2 ^ (-(srcFrac - dstFrac)).toNat
                      else x / 2 ^ (srcFrac - dstFrac).toNat) :=
  (helper_spec s srcN hN hN128 x hx hx0 srcFrac dstFrac dstInt hD).2.2.1

theorem helper_overflow (s : Bool) (srcN : Nat) (hN : 0 < srcN) (hN128 : srcN ≤ 128) (x : Int) (hx : inI s srcN x) (hx0 : x ≠ 0)
    (srcFrac : Int) (dstFrac dstInt : Nat) (hD : 0 < dstFrac + dstInt) :
    (toFixedHelper s srcN x srcFrac dstFrac dstInt).overflow
      = (if 0 < x then
           decide (2 ^ (dstFrac + dstInt) ≤
             (if srcFrac - dstFrac ≤ 0 then x * 2 ^ (-(srcFrac - dstFrac)).toNat else x / 2 ^ (srcFrac - dstFrac).toNat))
         else
           decide ((if srcFrac - dstFrac ≤ 0 then x * 2 ^ (-(srcFrac - dstFrac)).toNat else x / 2 ^ (srcFrac - dstFrac).toNat)
             < -(2 ^ (dstFrac + dstInt - 1)))) :=
  (helper_spec s srcN hN hN128 x hx hx0 srcFrac dstFrac dstInt hD).2.2.2

theorem helper_zero (s : Bool) (srcN : Nat) (srcFrac : Int) (dstFrac dstInt : Nat) :
    toFixedHelper s srcN 0 srcFrac dstFrac dstInt = ⟨false, 0, 0, false⟩ := by
  unfold toFixedHelper; rfl

end Sfx.ConvPf
