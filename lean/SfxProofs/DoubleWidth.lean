import SfxProofs.WideDivBase
/-
  DoubleWidth.lean — an `n`-bit integer type and the type of twice its width (core Lean only): a double-width value
  and its high half, products of two single-width values, and the overflow test "the high half is the sign
  extension of the low half" that `combine_lo_then_shl` and both `div_overflow`s end with.
-/
namespace Sfx

theorem inI_double_iff (s : Bool) {n : Nat} (hn : 0 < n) (x : Int) :
    inI s (2 * n) x ↔ inI s n (x / 2 ^ n) := by
  rw [Nat.two_mul]; exact (inI_ediv_pow_iff s hn x n).symm

theorem wrapI_double_split (s : Bool) {n : Nat} (hn : 0 < n) (X : Int) :
    wrapI s (2 * n) X / 2 ^ n = wrapI s n (X / 2 ^ n) ∧ wrapI s (2 * n) X % 2 ^ n = X % 2 ^ n := by
  have hN := two_pow_pos n
  obtain ⟨k, hk⟩ := wrapI_eq_add_mul s (2 * n) X
  have hk' : wrapI s (2 * n) X = X + (k * 2 ^ n) * 2 ^ n := by
    rw [hk, pow_double, Int.mul_assoc]
  have hdiv : wrapI s (2 * n) X / 2 ^ n = X / 2 ^ n + k * 2 ^ n := by
    rw [hk', Int.add_mul_ediv_right _ _ (Int.ne_of_gt hN)]
  constructor
  · have hin := (inI_double_iff s hn _).1 (wrapI_in (s := s) (n := 2 * n) (by omega) X)
    rw [hdiv] at hin ⊢
    exact (wrapI_unique hn (-k) (by rw [Int.neg_mul]; omega) hin).symm
  · rw [hk', Int.add_mul_emod_self_right]

/-- `((x as Double) >> n) as Single` only depends on `x >> n` -/
theorem wrapI_shr_double (s : Bool) {n : Nat} (hn : 0 < n) (x : Int) :
    wrapI s n (wrapI s (2 * n) x / 2 ^ n) = wrapI s n (x / 2 ^ n) := by
  rw [(wrapI_double_split s hn x).1, wrapI_wrapI]

theorem inU_double_of_halves {n : Nat} {x y : Int} (hx : inI false n x) (hy : inI false n y) :
    inI false (2 * n) (x * 2 ^ n + y) := by
  rw [inU_iff] at *
  have h1 := ((⟨hy.1, hy.2, rfl⟩ : Split (2 ^ n) x y _).hi_lt_iff (2 ^ n)).1 hx.2
  have h2 : 0 ≤ x * 2 ^ n := Int.mul_nonneg hx.1 (by omega)
  rw [← pow_double] at h1
  omega

theorem mul_add_bounds {m X H x y c : Int} (hm : m ≤ 0) (hX : 0 ≤ X) (hx : m ≤ x) (hx' : x ≤ X)
    (hy : 0 ≤ y) (hy' : y < H) (hc : 0 ≤ c) (hc' : c < H) :
    m * H ≤ x * y + c ∧ x * y + c < (X + 1) * H := by
  have h1 : m * y ≤ x * y := Int.mul_le_mul_of_nonneg_right hx hy
  have h2 : m * (H - 1) ≤ m * y := Int.mul_le_mul_of_nonpos_left hm (by omega)
  have h3 : x * y ≤ X * y := Int.mul_le_mul_of_nonneg_right hx' hy
  have h4 : X * y ≤ X * (H - 1) := Int.mul_le_mul_of_nonneg_left (by omega) hX
  rw [Int.mul_sub, Int.mul_one] at h2 h4
  rw [Int.add_mul, Int.one_mul]
  constructor <;> omega

theorem mul_add_bounds_signed {M x y c : Int} (hM : 1 ≤ M) (hx : -M ≤ x) (hx' : x ≤ M) (hy : -M ≤ y) (hy' : y ≤ M)
    (hc : -M ≤ c) (hc' : c < M) : -(M * (2 * M)) ≤ x * y + c ∧ x * y + c < M * (2 * M) := by
  have h0 : M * 1 ≤ M * M := Int.mul_le_mul_of_nonneg_left hM (by omega)
  rw [Int.mul_left_comm]
  rcases Int.le_total 0 y with h | h
  · have h1 : -M * y ≤ x * y := Int.mul_le_mul_of_nonneg_right hx h
    have h2 : x * y ≤ M * y := Int.mul_le_mul_of_nonneg_right hx' h
    have h3 : M * y ≤ M * M := Int.mul_le_mul_of_nonneg_left hy' (by omega)
    rw [Int.neg_mul] at h1
    constructor <;> omega
  · have h1 : x * y ≤ -M * y := Int.mul_le_mul_of_nonpos_right hx h
    have h2 : M * y ≤ x * y := Int.mul_le_mul_of_nonpos_right hx' h
    have h3 : M * -M ≤ M * y := Int.mul_le_mul_of_nonneg_left hy (by omega)
    rw [Int.neg_mul] at h1
    rw [Int.mul_neg] at h3
    constructor <;> omega

theorem inI_double_mul_unsigned (s : Bool) {n : Nat} (hn : 0 < n) {x y c : Int} (hx : inI s n x) (hy : inI false n y)
    (hc : inI false n c) : inI s (2 * n) (x * y + c) := by
  rw [inU_iff] at hy hc
  have := mul_add_bounds (minI_nonpos s n) (maxI_nonneg s n) hx.1 hx.2 hy.1 hy.2 hc.1 hc.2
  rw [(window s hn).1, Int.sub_add_cancel, Int.add_mul] at this
  rw [Nat.two_mul, inI_iff s (by omega), minI_add s hn, pow_add']
  exact this

theorem inI_double_mul (s : Bool) {n : Nat} (hn : 0 < n) {x y c : Int} (hx : inI s n x) (hy : inI s n y)
    (hc : inI s n c) : inI s (2 * n) (x * y + c) := by
  cases s
  · exact inI_double_mul_unsigned false hn hx hy hc
  · rw [inS_iff] at hx hy hc
    have hM := two_pow_pos (n - 1)
    rw [inS_iff, pow_double_pred hn, pow_split hn]
    exact mul_add_bounds_signed (by omega) hx.1 (by omega) hy.1 (by omega) hc.1 hc.2

theorem prod_div_in (s : Bool) (n : Nat) (hn : 0 < n) (a b : Int) (ha : inI s n a) (hb : inI s n b) :
    inI s n (a * b / 2 ^ n) := by
  have := inI_double_mul s hn ha hb (inI_zero s n)
  rw [Int.add_zero] at this
  exact (inI_double_iff s hn _).1 this

/-- `Double::from(a) << k` is exact for `k ≤ n`: its high half is `a >> (n - k)` -/
theorem inI_double_shl (s : Bool) {n k : Nat} (hn : 0 < n) (hk : k ≤ n) {a : Int} (ha : inI s n a) :
    inI s (2 * n) (a * 2 ^ k) := by
  rw [inI_double_iff s hn, mul_pow_ediv hk]
  exact shr_in (n - k) ha

/-- the overflow test of `combine_lo_then_shl` / `div_overflow`: the bits of `E` above bit `n` agree with the
sign of the wrapped value iff `E` is representable -/
theorem ovf_test (s : Bool) {n : Nat} (hn : 0 < n) (E : Int) :
    (if s then decide (E / 2 ^ n ≠ (if wrapI s n E < 0 then -1 else 0)) else decide (E / 2 ^ n ≠ 0))
      = !decide (inI s n E) := by
  -- `E = w - k·2^n` with `w` the wrapped value, so `E / 2^n` is the sign extension of `w` minus `k`
  obtain ⟨k, hk⟩ := wrapI_eq_add_mul s n E
  have hw := wrapI_in (s := s) hn E
  have h1 : wrapI s n E / 2 ^ n = E / 2 ^ n + k := by
    rw [hk, Int.add_mul_ediv_right _ _ (Int.ne_of_gt (two_pow_pos n))]
  have key : E / 2 ^ n = (if wrapI s n E < 0 then -1 else 0) ↔ inI s n E := by
    rw [← ediv_of_in hn hw, h1]
    refine ⟨fun h => ?_, fun h => by rw [wrapI_of_in hn h] at h1; omega⟩
    have hk0 : k = 0 := by omega
    rw [hk0, Int.zero_mul, Int.add_zero] at hk
    exact hk ▸ hw
  cases s
  · rw [if_neg (Int.not_lt.2 (unsigned_nonneg hw))] at key
    simp [key]
  · simp [key]

/-- wrapping to the double width does not change whether a value fits the single width, also for the one value
`2^(2n-1)` (the quotient `MIN / -1` of the double width) that wraps -/
theorem inI_wrapI_double_iff (s : Bool) {n : Nat} (hn : 0 < n) {T : Int}
    (hT : inI s (2 * n) T ∨ T = 2 ^ (2 * n - 1)) : inI s n (wrapI s (2 * n) T) ↔ inI s n T := by
  have h2n : 0 < 2 * n := by omega
  rcases hT with h | rfl
  · rw [wrapI_of_in h2n h]
  · cases s
    · rw [wrapI_of_in h2n ((inU_iff _ _).2 ⟨Int.le_of_lt (two_pow_pos _), pow_lt_pow (a := 2 * n - 1) (b := 2 * n) (by omega)⟩)]
    · have hP := two_pow_pos (n - 1)
      have h1 : (2 : Int) ≤ 2 ^ n := pow_le_pow (a := 1) hn
      have h2 : 2 ^ (n - 1) * 2 ≤ (2 : Int) ^ (n - 1) * 2 ^ n := Int.mul_le_mul_of_nonneg_left h1 (Int.le_of_lt hP)
      rw [wrapI_two_pow_top h2n, inS_iff, inS_iff, pow_double_pred hn]
      omega

/-- the end of both `div_overflow`s: the double-width quotient `Q` (the exact quotient `T` reduced to the double
width) is cut to the single width, and the flag says whether its high half is the sign extension of the answer -/
theorem ovf_of_double_quot (s : Bool) {n : Nat} (hn : 0 < n) {T Q : Int} (hQ : Q = wrapI s (2 * n) T)
    (hT : inI s (2 * n) T ∨ T = 2 ^ (2 * n - 1)) :
    (wrapI s n Q,
      if s then decide (Q / 2 ^ n ≠ (if wrapI s n Q < 0 then -1 else 0)) else decide (Q / 2 ^ n ≠ 0))
      = ovfI s n T := by
  rw [ovf_test s hn Q, hQ, wrapI_wrapI_of_le s s (Nat.le_mul_of_pos_left n (by decide)), decide_eq_decide.2 (inI_wrapI_double_iff s hn hT)]
  rfl

/-- the exact quotient fits the double width, except `MIN / -1` at `f = n`: `|a·2^f / b| ≤ |a·2^f| ≤ 2^(2n−1)` -/
theorem divSpec_double (s : Bool) {n f : Nat} (hn : 0 < n) (hf : f ≤ n) {a b : Int} (ha : inI s n a)
    (hb : inI s n b) : inI s (2 * n) (divSpec f a b) ∨ divSpec f a b = 2 ^ (2 * n - 1) := by
  have hx := inI_double_shl s hn hf ha
  have h4 := Int.natAbs_tdiv_le_natAbs (a * 2 ^ f) b
  unfold divSpec
  cases s
  · rw [inU_iff] at hx hb ⊢
    exact Or.inl ⟨Int.tdiv_nonneg hx.1 hb.1, by omega⟩
  · rw [inS_iff] at hx ⊢
    omega

end Sfx
