import SfxProofs.TransFacts
import SfxProofs.Convert
import SfxProofs.ExpArith
import SfxProofs.ExpAccDefs
import SfxProofs.LogArith
/-
  Exp.lean — properties C12 (totality: no panic, no debug-only check) and C15 (conventions and accuracy of `powi`; the integer trace of
  `exp`) for `transcendental::{exp, pow, powi}` (models `Trans.exp`, `Trans.pow`, `Trans.powi`).  Each function is walked once, in the `Tot`
  calculus, with what is known of a returned value as postcondition (`exp_spec`: in range and the trace `ExpSpec`; `powiLoop_spec`: in range and
  the error bound); totality is the projection.  `pow` calls `ln`, so only its conventions are here.
  `Monoid.toNPow` is erased locally so that `(2 : Int) ^ k` in the statements is core's `Int.pow`, as in the Mathlib-free files.
-/
attribute [-instance] Monoid.toNPow

namespace Sfx.ExpPf
open Sfx.Trans Sfx.SqrtPf Sfx.TransFacts Sfx.ConvPf Sfx.LogAccPf Sfx.ExpAccPf

theorem chk_some (D : Layout) {E r : Int} (h : D.chk E = some r) : r = E ∧ inRange D E := by
  by_cases hE : inRange D E
  · rw [Layout.chk_of_in D hE] at h; injection h with h; exact ⟨h.symm, hE⟩
  · rw [Layout.chk_of_not_in D hE] at h; cases h

/-- started with the counter at `n`, the computation does not panic, fires no debug-only check, and a returned value satisfies `P` -/
def TotAt {α : Type} (m : TR α) (n : Nat) (P : α → Prop) : Prop :=
  (∃ v n', m n = .ok (some v, n') false ∧ P v) ∨ (∃ n', m n = .ok (none, n') false)

-- `TotAt` from every counter: the form in which `exp`, `pow`, `powi` are specified (neither the `Err` condition nor the count is stated)
def Tot {α : Type} (m : TR α) (P : α → Prop) : Prop := ∀ n, TotAt m n P

theorem totAt_iff {α : Type} {m : TR α} {n : Nat} {P : α → Prop} :
    TotAt m n P ↔ Ret m n (fun o _ => ∀ v, o = some v → P v) := by
  constructor
  · rintro (⟨v, n', he, hp⟩ | ⟨n', he⟩)
    · exact ⟨some v, n', he, fun w hw => by cases hw; exact hp⟩
    · exact ⟨none, n', he, fun w hw => by cases hw⟩
  · rintro ⟨o, n', hr, hq⟩
    cases o with
    | none => exact Or.inr ⟨n', hr⟩
    | some v => exact Or.inl ⟨v, n', hr, hq v rfl⟩

theorem Tot.bind {α β : Type} {m : TR α} {k : α → TR β} {P : α → Prop} {Q : β → Prop}
    (hm : Tot m P) (hk : ∀ v, P v → Tot (k v) Q) : Tot (m >>= k) Q := fun n =>
  totAt_iff.2 <| (totAt_iff.1 (hm n)).bind (fun v n1 h => totAt_iff.1 (hk v (h v rfl) n1)) fun _ _ w hw => by cases hw

theorem TotAt.post {α : Type} {m : TR α} {n : Nat} {P : α → Prop} (h : TotAt m n P) {r : α} {n' : Nat}
    {dbg : Bool} (he : m n = .ok (some r, n') dbg) : P r := ((totAt_iff.1 h).post he).1 r rfl

theorem Tot.mono {α : Type} {m : TR α} {P Q : α → Prop} (hm : Tot m P) (h : ∀ v, P v → Q v) : Tot m Q := fun n =>
  totAt_iff.2 <| (totAt_iff.1 (hm n)).mono fun _ _ hq v hv => h v (hq v hv)

theorem Tot.pure {α : Type} {P : α → Prop} {v : α} (h : P v) : Tot (pure v : TR α) P :=
  fun n => Or.inl ⟨v, n, rfl, h⟩

theorem Tot.tick : Tot tick (fun _ => True) := fun n => Or.inl ⟨(), n + 1, rfl, trivial⟩

theorem Tot.liftO {α : Type} {P : α → Prop} {o : Outcome α} {v : α} (h : o = .ok v false) (hp : P v) : Tot (liftO o) P := by
  subst h; exact fun n => Or.inl ⟨v, n, rfl, hp⟩

theorem Tot.liftO_bind {α β : Type} {o : Outcome α} {v : α} (h : o = .ok v false) {k : α → TR β} {Q : β → Prop}
    (hk : Tot (k v) Q) : Tot (Trans.liftO o >>= k) Q := fun n => by
  subst h
  unfold TotAt
  rw [SqrtPf.liftO_bind]; exact hk n

theorem Tot.tick_bind {β : Type} {k : Unit → TR β} {Q : β → Prop} (hk : Tot (k ()) Q) : Tot (Trans.tick >>= k) Q :=
  Tot.bind Tot.tick fun _ _ => hk

theorem Tot.liftOpt_chk (D : Layout) (E : Int) {o : Outcome (Option Int)} (h : o = .ok (D.chk E) false) :
    Tot (liftOpt o) (fun r => r = E ∧ inRange D E) := by
  subst h
  intro n
  by_cases hE : inRange D E
  · refine Or.inl ⟨E, n, ?_, rfl, hE⟩
    rw [Layout.chk_of_in D hE]; rfl
  · refine Or.inr ⟨n, ?_⟩
    rw [Layout.chk_of_not_in D hE]; rfl

theorem Tot.liftOpt_chk' (D : Layout) (E : Int) {o : Outcome (Option Int)} (h : o = .ok (D.chk E) false) :
    Tot (liftOpt o) (inRange D) :=
  (Tot.liftOpt_chk D E h).mono (fun r hr => by rw [hr.1]; exact hr.2)

theorem Tot.liftOpt_none {α : Type} {P : α → Prop} {o : Outcome (Option α)} (h : o = .ok none false) : Tot (liftOpt o) P := by
  subst h; exact fun n => Or.inr ⟨n, rfl⟩

theorem Tot.ite {α : Type} {P : α → Prop} {c : Prop} [Decidable c] {a b : TR α} (ha : c → Tot a P) (hb : ¬ c → Tot b P) :
    Tot (if c then a else b) P := by
  by_cases h : c
  · rw [if_pos h]; exact ha h
  · rw [if_neg h]; exact hb h

theorem Tot.checkedDiv (D : Layout) (hv : D.valid) (a b : Int) (ha : inRange D a) (hb : inRange D b) :
    Tot (liftOpt (D.checkedDiv a b)) (inRange D) := by
  by_cases hb0 : b = 0
  · subst hb0; exact Tot.liftOpt_none rfl
  · exact Tot.liftOpt_chk' D _ (checkedDiv_eq D hv a b ha hb hb0)

theorem Tot.checkedMul (D : Layout) (hv : D.valid) (a b : Int) (ha : inRange D a) (hb : inRange D b) :
    Tot (liftOpt (D.checkedMul a b)) (inRange D) :=
  Tot.liftOpt_chk' D _ (checkedMul_eq D hv a b ha hb)

theorem units_le_top {f n : Nat} (m : Nat) (h : f + m + 1 ≤ n) : (2 : Int) ^ m * 2 ^ f ≤ 2 ^ (n - 1) := by
  rw [← pow_add']; exact pow_le_pow (by omega)

theorem small_inRange (D : Layout) (hs : D.signed = true) (hint : 9 ≤ D.intBits) (k : Int) (h0 : 0 ≤ k)
    (h1 : k ≤ 255) : inRange D (k * 2 ^ D.f) := by
  have hpos := two_pow_pos D.f
  have h8 : (2 : Int) ^ (8 + D.f) = 256 * 2 ^ D.f := by rw [pow_add']; rfl
  have hk : k * 2 ^ D.f ≤ 255 * 2 ^ D.f := Int.mul_le_mul_of_nonneg_right h1 (Int.le_of_lt hpos)
  have hk0 : 0 ≤ k * 2 ^ D.f := Int.mul_nonneg h0 (Int.le_of_lt hpos)
  exact inRange_bits D hs 8 hint (by omega) (by omega)

/-- what `exp` / `pow` / `powi` need from the layout `D` -/
structure Facts (D : Layout) : Prop where
  valid : D.valid
  f2 : 2 ≤ D.f
  zero : Trans.fromNumI D 0 = .ok 0 false
  one : Trans.fromNumI D 1 = .ok (2 ^ D.f) false
  oneR : inRange D (2 ^ D.f)
  numU : ∀ i : Nat, 2 ≤ i → i < D.f → Trans.fromNumU D i = .ok (i * 2 ^ D.f) false ∧ inRange D (i * 2 ^ D.f)
  e : Trans.fromS Trans.C D Trans.E = .ok (Trans.E * 2 ^ (D.f - 23)) false ∧ inRange D (Trans.E * 2 ^ (D.f - 23))

theorem facts (D : Layout) (hv : D.valid) (hs : D.signed = true) (hf : 23 ≤ D.f) (hint : 9 ≤ D.intBits) : Facts D := by
  have h1 : inRange D (2 ^ D.f) := by
    have := small_inRange D hs hint 1 (by omega) (by omega)
    rwa [Int.one_mul] at this
  refine ⟨hv, by omega, fromNum0 D hv, fromNum1 D hv h1, h1, fun i hi2 hif => ?_, ?_⟩
  · have hn128 := hv.le128
    have hfn := hv.2
    have hr : inRange D ((i : Int) * 2 ^ D.f) := small_inRange D hs hint i (by omega) (by omega)
    refine ⟨fromNumU_ok D hv i ?_ hr, hr⟩
    rw [inU_iff]
    have : (2 : Int) ^ 32 = 4294967296 := by decide
    omega
  · exact fromS_spec Trans.C D C_valid hv (Or.inr (admissible_C D hs hf hint)) Trans.E inC_E

/-- the loop of `exp` on a nonnegative operand (`exp` negates first) -/
theorem expLoop_spec (D : Layout) (hc : Facts D) (x : Int) (hx : inRange D x) (hx0 : 0 ≤ x) :
    ∀ (k i : Nat) (term result : Int), 2 ≤ i → i + k ≤ D.f → inRange D term → 0 ≤ term → inRange D result →
      Tot (expLoop D x k i term result) (fun r => inRange D r ∧ r = expPure (2 ^ D.f) x k i term result)
  | 0, _, _, result, _, _, _, _, hr => Tot.pure ⟨hr, rfl⟩
  | k + 1, i, term, result, hi, hik, ht, ht0, _ => by
    have hP := two_pow_pos D.f
    obtain ⟨hnum, hnumR⟩ := hc.numU i hi (by omega)
    have hm0 : 0 ≤ mulSpec D.f term x := Int.ediv_nonneg (Int.mul_nonneg ht0 hx0) hP.le
    have hd : mulSpec D.f term x * 2 ^ D.f / ((i : Int) * 2 ^ D.f) = term * x / 2 ^ D.f / (i : Int) :=
      Int.mul_ediv_mul_of_pos_left _ _ hP
    refine .tick_bind <| (Tot.liftOpt_chk D _ (checkedMul_eq D hc.valid term x ht hx)).bind fun t1 h1 => .liftO_bind hnum ?_
    obtain ⟨rfl, h1⟩ := h1
    refine (Tot.liftOpt_chk D _ (checkedDiv_nn D hc.valid _ _ h1 hnumR hm0 (Int.mul_pos (by omega) hP))).bind fun t2 h2 =>
      (Tot.liftOpt_chk D _ (checkedAdd_eq D result t2)).bind fun r2 h3 => ?_
    obtain ⟨rfl, h2⟩ := h2
    obtain ⟨rfl, h3⟩ := h3
    rw [expPure_succ, ← hd]
    exact expLoop_spec D hc x hx hx0 k (i + 1) _ _ (by omega) (by omega) h2 (hd ▸ Int.ediv_nonneg hm0 (by omega)) h3

/-- `exp` after the two early returns, the optional negation and the conversion `D::from(operand)` -/
def expBody (D : Layout) (neg : Bool) (x : Int) : TR Int :=
  liftO (fromNumI D 1) >>= fun one => liftOpt (D.checkedAdd x one) >>= fun result =>
  expLoop D x (D.f - 2) 2 x result >>= fun result =>
  if neg then (liftO (fromNumI D 1) >>= fun one => liftOpt (D.checkedDiv one result)) else pure result

theorem expBody_spec (D : Layout) (hc : Facts D) (neg : Bool) (x : Int) (hx : inRange D x) (hx0 : 0 ≤ x) :
    Tot (expBody D neg x) (fun r => inRange D r ∧
      r = if neg then 2 ^ D.f * 2 ^ D.f / expPure (2 ^ D.f) x (D.f - 2) 2 x (x + 2 ^ D.f)
      else expPure (2 ^ D.f) x (D.f - 2) 2 x (x + 2 ^ D.f)) := by
  have hP := two_pow_pos D.f
  have hge := expPure_ge (2 ^ D.f) x hP.le hx0 (D.f - 2) 2 x (x + 2 ^ D.f) hx0
  refine .liftO_bind hc.one <| (Tot.liftOpt_chk D _ (checkedAdd_eq D x _)).bind fun s hs => ?_
  obtain ⟨rfl, hE⟩ := hs
  refine (expLoop_spec D hc x hx hx0 (D.f - 2) 2 x _ (by omega) (by have := hc.f2; omega) hx hx0 hE).bind fun v hv => ?_
  obtain ⟨hvr, rfl⟩ := hv
  cases neg
  · exact Tot.pure ⟨hvr, rfl⟩
  · exact .liftO_bind hc.one <| (Tot.liftOpt_chk D _ (checkedDiv_nn D hc.valid _ _ hc.oneR hvr hP.le (by omega))).mono
      fun r hr => ⟨hr.1 ▸ hr.2, hr.1⟩

theorem exp_spec (D : Layout) (hv : D.valid) (hs : D.signed = true) (hf : 23 ≤ D.f) (hint : 9 ≤ D.intBits)
    (x : Int) (hx : inRange D x) : Tot (Trans.exp D D x) (fun r => inRange D r ∧ ExpSpec D.f x r) := by
  have hc := facts D hv hs hf hint
  have cf := TransFacts.convFacts D hv (by rw [hs]; simp; omega)
  unfold ExpSpec expSum
  rw [pow2_eq, pow2_eq]
  refine .ite (fun h0 => ?_) fun h0 => .ite (fun h1 => ?_) fun h1 => ?_
  · rw [cf.eq0 x hx] at h0
    exact Tot.liftO hc.one ⟨hc.oneR, Or.inl ⟨of_decide_eq_true h0, rfl⟩⟩
  · rw [cf.eq1 x hx] at h1
    exact Tot.liftO hc.e.1 ⟨hc.e.2, Or.inr (Or.inl ⟨of_decide_eq_true h1, rfl⟩)⟩
  rw [cf.eq0 x hx] at h0
  rw [cf.eq1 x hx] at h1
  -- the rest of the function is `expBody`, on `x` or, after the checked negation, on `-x`
  show Tot ((if D.ltFixed C x ZERO then liftOpt (D.checkedNeg x) else pure x) >>= fun x' =>
    liftO (fromS D D x') >>= fun x'' => expBody D (D.ltFixed C x ZERO) x'') _
  rw [cf.lt0 x hx]
  by_cases hneg : x < 0
  · refine Tot.bind (.ite (fun _ => Tot.liftOpt_chk D _ (checkedNeg_eq D x)) fun h => absurd (decide_eq_true hneg) h) fun x' hx' => ?_
    obtain ⟨rfl, hE⟩ := hx'
    exact .liftO_bind (fromS_same D _) <| (expBody_spec D hc _ (-x) hE (by omega)).mono fun r hr =>
      ⟨hr.1, Or.inr (Or.inr (Or.inr ⟨hneg, by rw [hr.2, if_pos (by simp [hneg])]⟩))⟩
  · refine Tot.bind (P := fun v => v = x) (.ite (fun h => absurd (of_decide_eq_true h) hneg) fun _ => Tot.pure rfl) fun x' hx' => ?_
    subst hx'
    exact .liftO_bind (fromS_same D x') <| (expBody_spec D hc _ x' hx (by omega)).mono fun r hr =>
      ⟨hr.1, Or.inr (Or.inr (Or.inl ⟨by simp at h0 h1; omega, by rw [hr.2, if_neg (by simp [hneg])]⟩))⟩

theorem exp_tot (D : Layout) (hv : D.valid) (hs : D.signed = true) (hf : 23 ≤ D.f) (hint : 9 ≤ D.intBits)
    (x : Int) (hx : inRange D x) : Tot (Trans.exp D D x) (inRange D) :=
  (exp_spec D hv hs hf hint x hx).mono fun _ h => h.1

/-- a returned value of `exp::<D, D>` is the trace -/
theorem exp_trace (D : Layout) (hv : D.valid) (hs : D.signed = true) (hf : 23 ≤ D.f) (hint : 9 ≤ D.intBits)
    (x : Int) (hx : inRange D x) {r : Int} {it : Nat} {dbg : Bool}
    (h : Trans.run (Trans.exp D D x) = .ok (some r, it) dbg) : ExpSpec D.f x r :=
  ((exp_spec D hv hs hf hint x hx 0).post h).2

/-- `max(1, |x|)` on the grid of `D`: `max(2^f, |x|)` -/
def Mx (D : Layout) (x : Int) : Int := max (2 ^ D.f) (x.natAbs : Int)

theorem powi_err_step (D : Layout) (x r0 : Int) (j : Nat)
    (h : ((r0 * (2 ^ D.f) ^ j - x ^ (j + 1)).natAbs : Int) ≤ (j : Int) * Mx D x ^ j) :
    ((mulSpec D.f r0 x * (2 ^ D.f) ^ (j + 1) - x ^ (j + 1 + 1)).natAbs : Int) ≤ ((j + 1 : Nat) : Int) * Mx D x ^ (j + 1) := by
  have hP := two_pow_pos D.f
  obtain ⟨b0, b1⟩ : mulSpec D.f r0 x * 2 ^ D.f ≤ r0 * x ∧ r0 * x < mulSpec D.f r0 x * 2 ^ D.f + 2 ^ D.f := floor_bracket (r0 * x) hP
  have hFM : 2 ^ D.f ≤ Mx D x := by unfold Mx; omega
  obtain ⟨s1, s2⟩ := powi_step x r0 (mulSpec D.f r0 x) (2 ^ D.f) (Mx D x) ((2 ^ D.f) ^ j) (Mx D x ^ j) (x ^ (j + 1)) j
    hP hFM (by unfold Mx; omega) (by unfold Mx; omega) (Int.pow_nonneg (Int.le_of_lt hP))
    (pow_le_pow_base _ _ (Int.le_of_lt hP) hFM j) (by omega) (by omega) (by omega) (by omega)
  rw [Int.pow_succ (2 ^ D.f) j, Int.pow_succ (Mx D x) j, Int.pow_succ x (j + 1), Int.natCast_succ]
  omega

theorem powiLoop_spec (D : Layout) (hv : D.valid) (x : Int) (hx : inRange D x) :
    ∀ (k j : Nat) (r0 : Int), inRange D r0 → ((r0 * (2 ^ D.f) ^ j - x ^ (j + 1)).natAbs : Int) ≤ (j : Int) * Mx D x ^ j →
      Tot (powiLoop D x k r0) fun r => inRange D r ∧
        ((r * (2 ^ D.f) ^ (j + k) - x ^ (j + k + 1)).natAbs : Int) ≤ ((j + k : Nat) : Int) * Mx D x ^ (j + k)
  | 0, _, r0, hr0, h => Tot.pure ⟨hr0, h⟩
  | k + 1, j, r0, hr0, h => .tick_bind <| (Tot.liftOpt_chk D _ (checkedMul_eq D hv r0 x hr0 hx)).bind fun r1 h1 => by
    obtain ⟨rfl, hE⟩ := h1
    have ih := powiLoop_spec D hv x hx k (j + 1) _ hE (powi_err_step D x r0 j h)
    rwa [show j + 1 + k = j + (k + 1) by omega] at ih

theorem powiLoop_spec_x (D : Layout) (hv : D.valid) (x : Int) (hx : inRange D x) (k : Nat) :
    Tot (powiLoop D x k x) fun r => inRange D r ∧ ((r * 2 ^ (D.f * k) - x ^ (k + 1)).natAbs : Int) ≤ (k : Int) * Mx D x ^ k := by
  have e0 : x * (2 ^ D.f) ^ 0 - x ^ (0 + 1) = 0 := by
    rw [Int.pow_zero, Int.pow_succ, Int.pow_zero]; omega
  have h := powiLoop_spec D hv x hx k 0 x hx (by rw [e0]; omega)
  rwa [Nat.zero_add, ← Int.pow_mul] at h

theorem powi_tot (D : Layout) (hv : D.valid) (h1 : inRange D (2 ^ D.f)) (x : Int) (hx : inRange D x) (n : Int) :
    Tot (Trans.powi D D x n) (inRange D) :=
  have hone := fromNum1 D hv h1
  .liftO_bind (fromNum0 D hv) <| .ite (fun _ => .liftO (fromNum0 D hv) (inI_zero D.signed D.n)) fun _ =>
    .ite (fun _ => .liftO hone h1) fun _ => .ite (fun _ => .liftO (fromS_same D x) hx) fun _ => .liftO_bind (fromS_same D x) <|
    ((powiLoop_spec_x D hv x hx _).mono fun _ h => h.1).bind fun r hr =>
    .ite (fun _ => .liftO_bind hone (Tot.checkedDiv D hv _ _ h1 hr)) fun _ => .pure hr

/-- `0^n = 0`, `x^0 = 1`, `x^1 = x` (for `x ≠ 0`): the three early returns of `powi::<S, D>`, from what `from_num` and the conversion
of the operand (`w` is `x` in `D`) return; no loop iteration, no check fires -/
theorem powi_conventions (S D : Layout) (zS : Trans.fromNumI S 0 = .ok 0 false) (zD : Trans.fromNumI D 0 = .ok 0 false)
    (oD : Trans.fromNumI D 1 = .ok (2 ^ D.f) false) {x w : Int} (hw : Trans.fromS S D x = .ok w false) (n : Int) :
    Trans.run (Trans.powi S D 0 n) = .ok (some 0, 0) false ∧
    (x ≠ 0 → Trans.run (Trans.powi S D x 0) = .ok (some (2 ^ D.f), 0) false ∧
      Trans.run (Trans.powi S D x 1) = .ok (some w, 0) false) :=
  ⟨Runs.liftO_bind zS <| .ite_pos rfl <| .liftO zD, fun hx =>
    ⟨Runs.liftO_bind zS <| .ite_neg hx <| .ite_pos rfl <| .liftO oD,
     Runs.liftO_bind zS <| .ite_neg hx <| .ite_neg (by decide) <| .ite_pos rfl <| .liftO hw⟩⟩

/-- `0^y = 0`, `x^0 = 1`, `x^1 = x` (for `x ≠ 0`): the three early returns of `pow::<S, D>`; the comparisons run in the source layout
(`1` is `2^S.f`) -/
theorem pow_conventions (S D : Layout) (zS : Trans.fromNumI S 0 = .ok 0 false) (oS : Trans.fromNumI S 1 = .ok (2 ^ S.f) false)
    (zD : Trans.fromNumI D 0 = .ok 0 false) (oD : Trans.fromNumI D 1 = .ok (2 ^ D.f) false) {x w : Int}
    (hw : Trans.fromS S D x = .ok w false) (y : Int) :
    Trans.run (Trans.pow S D 0 y) = .ok (some 0, 0) false ∧
    (x ≠ 0 → Trans.run (Trans.pow S D x 0) = .ok (some (2 ^ D.f), 0) false ∧
      Trans.run (Trans.pow S D x (2 ^ S.f)) = .ok (some w, 0) false) := by
  have hP := two_pow_pos S.f
  exact ⟨Runs.liftO_bind zS <| .ite_pos rfl <| .liftO zD, fun hx =>
    ⟨Runs.liftO_bind zS <| .ite_neg hx <| .liftO_bind zS <| .ite_pos rfl <| .liftO oD,
     Runs.liftO_bind zS <| .ite_neg hx <| .liftO_bind zS <| .ite_neg (by omega) <| .liftO_bind oS <| .ite_pos rfl <| .liftO hw⟩⟩

theorem powi_body (D : Layout) (hv : D.valid) (hone : inRange D (2 ^ D.f)) (x : Int) (hx0 : x ≠ 0) (n : Int) (h0 : n ≠ 0) (h1 : n ≠ 1) :
    Trans.powi D D x n = powiLoop D x (n.natAbs - 1) x >>= fun r =>
      if n < 0 then liftOpt (D.checkedDiv (2 ^ D.f) r) else pure r := by
  unfold Trans.powi
  simp only [fromNum0 D hv, fromNum1 D hv hone, liftO_bind, fromS_same, if_neg hx0, if_neg h0, if_neg h1]

theorem powi_pos_fun (D : Layout) (hv : D.valid) (h1 : inRange D (2 ^ D.f)) (x : Int) (hx0 : x ≠ 0) (n : Int) (hn : 2 ≤ n) :
    Trans.powi D D x n = powiLoop D x (n.toNat - 1) x := by
  rw [powi_body D hv h1 x hx0 n (by omega) (by omega), show n.natAbs - 1 = n.toNat - 1 by omega]
  simp only [show ¬ n < 0 by omega, if_false]
  exact bind_pure' _

theorem powi_neg_fun (D : Layout) (hv : D.valid) (h1 : inRange D (2 ^ D.f)) (x : Int) (hx0 : x ≠ 0) (n : Int) (hn : n < 0) :
    Trans.powi D D x n = powiLoop D x (n.natAbs - 1) x >>= fun r => liftOpt (D.checkedDiv (2 ^ D.f) r) := by
  rw [powi_body D hv h1 x hx0 n (by omega) (by omega)]
  simp only [hn, if_true]

theorem powi_one (D : Layout) (hv : D.valid) (x : Int) (hx0 : x ≠ 0) : Trans.powi D D x 1 = (pure x : TR Int) := by
  unfold Trans.powi
  rw [fromNum0 D hv, liftO_bind, if_neg hx0, if_neg (by decide), if_pos rfl, fromS_same]
  rfl

/-- a negative exponent: the result is the checked reciprocal `1 / x^|n|` of the result for `|n|` -/
theorem powi_negative (D : Layout) (hv : D.valid) (hone : inRange D (2 ^ D.f))
    (x : Int) (hx0 : x ≠ 0) (n : Int) (hn : n < 0) :
    Trans.powi D D x n = Trans.powi D D x (-n) >>= fun r => liftOpt (D.checkedDiv (2 ^ D.f) r) := by
  rw [powi_neg_fun D hv hone x hx0 n hn]
  by_cases h1 : n = -1
  · subst h1
    have e : (-(-1 : Int)) = 1 := by decide
    rw [e, powi_one D hv x hx0]
    rfl
  · rw [powi_pos_fun D hv hone x hx0 (-n) (by omega)]
    have hk : n.natAbs - 1 = (-n).toNat - 1 := by omega
    rw [hk]

/-- on evaluated runs: `Err` if the result for `|n|` is `Err`, is zero, or has no representable reciprocal;
otherwise the reciprocal truncated toward zero; the iteration count is unchanged -/
theorem powi_negative_run (D : Layout) (hv : D.valid) (h1 : inRange D (2 ^ D.f))
    (x : Int) (hx : inRange D x) (hx0 : x ≠ 0) (n : Int) (hn : n < 0) :
    (∃ r' it, Trans.run (Trans.powi D D x (-n)) = .ok (some r', it) false ∧ inRange D r' ∧
      Trans.run (Trans.powi D D x n) = .ok (if r' = 0 then none else D.chk (divSpec D.f (2 ^ D.f) r'), it) false) ∨
    (∃ it, Trans.run (Trans.powi D D x (-n)) = .ok (none, it) false ∧ Trans.run (Trans.powi D D x n) = .ok (none, it) false) := by
  unfold Trans.run
  rw [powi_negative D hv h1 x hx0 n hn]
  rcases powi_tot D hv h1 x hx (-n) 0 with ⟨r', it, he, hr'⟩ | ⟨it, he⟩
  · refine Or.inl ⟨r', it, he, hr', ?_⟩
    rw [bind_of_eq _ _ _ _ _ he]
    by_cases h0 : r' = 0
    · rw [if_pos h0, h0]
      rfl
    · rw [if_neg h0, checkedDiv_eq D hv _ _ h1 hr' h0]; rfl
  · exact Or.inr ⟨it, he, bind_of_none _ _ _ _ he⟩

/-- C15 (accuracy of the loop of `powi`): after `k` truncated products the result `r` satisfies
`|r·2^(f·k) − x^(k+1)| ≤ k · M^k` with `M = max(2^f, |x|)`; in value terms (divide by `2^(f·(k+1))`)
`|r/2^f − (x/2^f)^(k+1)| ≤ k ulp · max(1, |x/2^f|)^k`. -/
theorem powiLoop_err_bound_tight (D : Layout) (hv : D.valid) (x : Int) (hx : inRange D x) (k m : Nat) (r : Int) (m' : Nat)
    (dbg : Bool) (he : powiLoop D x k x m = .ok (some r, m') dbg) :
    ((r * 2 ^ (D.f * k) - x ^ (k + 1)).natAbs : Int) ≤ (k : Int) * Mx D x ^ k :=
  ((powiLoop_spec_x D hv x hx k m).post he).2

theorem Mx_pow_nonneg (D : Layout) (x : Int) (k : Nat) : 0 ≤ Mx D x ^ k := by
  have hP := two_pow_pos D.f
  exact Int.pow_nonneg (by unfold Mx; omega)

theorem powiLoop_err_bound (D : Layout) (hv : D.valid) (x : Int) (hx : inRange D x) (k m : Nat) (r : Int) (m' : Nat)
    (dbg : Bool) (he : powiLoop D x k x m = .ok (some r, m') dbg) :
    ((r * 2 ^ (D.f * k) - x ^ (k + 1)).natAbs : Int) ≤ (k : Int) * Mx D x ^ k * 2 ^ (D.f * k) := by
  have h := powiLoop_err_bound_tight D hv x hx k m r m' dbg he
  have h2 := le_mul_of_one_le ((k : Int) * Mx D x ^ k) (2 ^ (D.f * k))
    (Int.mul_nonneg (by omega) (Mx_pow_nonneg D x k)) (by have := two_pow_pos (D.f * k); omega)
  omega

/-- C15 (accuracy of `powi` for an exponent `n ≥ 2`): a returned result is within `(n−1) ulp · max(1,|x|)^(n−1)` of `x^n` -/
theorem powi_accuracy_tight (D : Layout) (hv : D.valid) (h1 : inRange D (2 ^ D.f))
    (x : Int) (hx : inRange D x) (n : Int) (hn : 2 ≤ n) (r : Int) (it : Nat) (dbg : Bool)
    (he : Trans.run (Trans.powi D D x n) = .ok (some r, it) dbg) :
    ((r * 2 ^ (D.f * (n.toNat - 1)) - x ^ n.toNat).natAbs : Int) ≤ ((n.toNat - 1 : Nat) : Int) * Mx D x ^ (n.toNat - 1) := by
  have hk : n.toNat = n.toNat - 1 + 1 := by omega
  by_cases hx0 : x = 0
  · subst hx0
    have e := (powi_conventions D D (fromNum0 D hv) (fromNum0 D hv) (fromNum1 D hv h1) (fromS_same D 0) n).1
    rw [e] at he
    cases he
    have hz : (0 : Int) ^ n.toNat = 0 := Int.zero_pow (by omega)
    rw [hz, Int.zero_mul]
    have := Int.mul_nonneg (a := ((n.toNat - 1 : Nat) : Int)) (by omega) (Mx_pow_nonneg D 0 (n.toNat - 1))
    omega
  · unfold Trans.run at he
    rw [powi_pos_fun D hv h1 x hx0 n hn] at he
    have h := powiLoop_err_bound_tight D hv x hx (n.toNat - 1) 0 r it dbg he
    rwa [← hk] at h

theorem powi_accuracy (D : Layout) (hv : D.valid) (hs : D.signed = true) (hf : 23 ≤ D.f) (hint : 9 ≤ D.intBits)
    (x : Int) (hx : inRange D x) (n : Int) (hn : 2 ≤ n) (r : Int) (it : Nat) (dbg : Bool)
    (he : Trans.run (Trans.powi D D x n) = .ok (some r, it) dbg) :
    ((r * 2 ^ (D.f * (n.toNat - 1)) - x ^ n.toNat).natAbs : Int) ≤
      ((n.toNat - 1 : Nat) : Int) * Mx D x ^ (n.toNat - 1) * 2 ^ (D.f * (n.toNat - 1)) := by
  have h := powi_accuracy_tight D hv (facts D hv hs hf hint).oneR x hx n hn r it dbg he
  have h2 := le_mul_of_one_le (((n.toNat - 1 : Nat) : Int) * Mx D x ^ (n.toNat - 1)) (2 ^ (D.f * (n.toNat - 1)))
    (Int.mul_nonneg (by omega) (Mx_pow_nonneg D x _)) (by have := two_pow_pos (D.f * (n.toNat - 1)); omega)
  omega

/-- the integer bound of `C15_partial` (powi, `n ≥ 2`) with the powers of two abstracted: `F = 2^f`, `M = max(F, |x|)`,
`n = k + 1` -/
theorem powi_int_bound (D : Layout) (hv : D.valid) (h1 : inRange D (2 ^ D.f)) (x : Int)
    (hx : inRange D x) (n : Int) (hn : 2 ≤ n) (r : Int) (it : Nat)
    (dbg : Bool) (he : Trans.run (Trans.powi D D x n) = .ok (some r, it) dbg) :
    ∃ (F M : Int) (k : Nat), F = 2 ^ D.f ∧ M = max F (x.natAbs : Int) ∧ n.toNat = k + 1 ∧ (k : Int) = n - 1 ∧
      ((r * F ^ k - x ^ (k + 1)).natAbs : Int) ≤ (k : Int) * M ^ k := by
  have hb := powi_accuracy_tight D hv h1 x hx n hn r it dbg he
  refine ⟨2 ^ D.f, Mx D x, n.toNat - 1, rfl, rfl, by omega, by omega, ?_⟩
  have hk : n.toNat - 1 + 1 = n.toNat := by omega
  rw [hk, ← Int.pow_mul]
  exact hb

/-- the hypotheses of the main theorems are satisfiable, e.g. by `I9F23` and `I32F32` -/
example : (⟨true, 32, 23⟩ : Layout).valid ∧ (23 ≤ (⟨true, 32, 23⟩ : Layout).f) ∧ 9 ≤ (⟨true, 32, 23⟩ : Layout).intBits := by decide
example : (⟨true, 64, 32⟩ : Layout).valid ∧ (23 ≤ (⟨true, 64, 32⟩ : Layout).f) ∧ 9 ≤ (⟨true, 64, 32⟩ : Layout).intBits := by decide

/-- `pow::<S, D>` evaluates `S::from_num(1)`: for a source layout without room for 1 (e.g. `I1F31`, admissible as `D: From<S>` for
`D = I32F32`) the `debug_assert!` of `from_num` fires — this is why the reduction `PairsPf.pow_widen_fun` asks room for `1` of the source
layout too (`LogPf.Ctx S`) -/
theorem pow_source_room_counterexample : Trans.fromNumI ⟨true, 32, 31⟩ 1 = .ok (-2147483648) true := by decide

end Sfx.ExpPf

#print axioms Sfx.ExpPf.powi_conventions
#print axioms Sfx.ExpPf.pow_conventions
#print axioms Sfx.ExpPf.powiLoop_err_bound_tight
#print axioms Sfx.ExpPf.powiLoop_err_bound
#print axioms Sfx.ExpPf.powi_accuracy_tight
#print axioms Sfx.ExpPf.powi_accuracy
#print axioms Sfx.ExpPf.powi_negative
#print axioms Sfx.ExpPf.powi_negative_run
#print axioms Sfx.ExpPf.pow_source_room_counterexample
