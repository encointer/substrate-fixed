import SfxProofs.Pairs
import SfxProofs.ExpAccWideReal
import SfxProofs.ExpAccSharpReal
import SfxProofs.C15Witness
import SfxProps.C15
/-
  ExpAcc.lean — property C15 (exp clause) for `transcendental::exp` (model `Trans.exp`) over Mathlib's reals.  With
  `val f y = (y : ℝ) / 2 ^ f`, `X = val S.f x`, for every supported destination `D` (valid, signed, `23 ≤ f`, `9 ≤ intBits`) and every
  supported source `S` with `D: From<S>` (`S = D` included), ONE theorem (`exp_accuracy`):

      TailOK D.f |X|  ∧  exp::<S, D>(x) = Ok(r)   →   |val D.f r - e^X| ≤ e^X / 2^20 + 64 ulp

  * `TailOK f T`: the tail `Rm T f = Σ_{i ≥ f} T^i / i!` of the Maclaurin series that the code omits (it sums the terms `0 … f-1`, `Sm X f`;
    see `Rm_hasSum`) is at most `2^-23 e^T`.  Known finding D10 is "the tail exceeds `2^-24 e^T`", so every operand outside D10 qualifies
    (`TailOK.of_24`), with a factor 2 to spare;
  * the WIDE region `4 |X| ≤ f` lies inside it (`TailOK.of_wide`): `f / 4 = 5.75 > ln 256` for `f = 23`, so every `I9F23` operand whose
    result does not overflow is covered; `8` for `I32F32` (the clause fails from ≈ 11.8 on), `16` for `I64F64`, `22` for `I40F88`;
    `|X| ≤ 4` and `|X| ≤ 1` (`exp_accuracy_four`, `exp_accuracy_small`) are inside that;
  * for `0 < X ≤ 4` the sharper one-sided bound `0 ≤ e^X - val r ≤ (2f + 6) ulp` (`exp_accuracy_pos_sharp`), by a route of its own,
    not an instance of `exp_accuracy`;
  * inside D10 the clause is FALSE: formal counterexample `exp::<I32F32>(20.0)` (`C15.exp_clause_counterexample`).  The model returns
    2066907302758576256 / 2^32 ≈ 481239358.98, while e^20 > 2.7182818283^20 > 485165190: off by 0.8 %, allowed: e^20 / 2^20 + 64 ulp ≈ 463.

  Here the integer trace `ExpSpec` of an `Ok` result for `S = D` meets the real analysis of that trace (`exp_real_tail`); `S ≠ D` goes
  through the widened operand, which has the same value (`exp_pairs_run`).  After it: the `|X| ≤ 4` clause for pairs in C15's words
  (`PairsPf.C15_exp_le_four_pairs`), and in `ExpBandPf` the tail hypothesis said of the partial sum (`exp_accuracy_band_sum`) with a
  witness in the band `4 |X| > f`: `I32F32`, `x = 9.0` (`band_witness_hyp`, `band_witness_result`).
  The powers of integers in the statements below (`2 ^ D.f : ℕ` in the hypotheses `hsmall`, `9 * 2 ^ 32 : Int` in the witness) are
  elaborated here with Mathlib's `Monoid.npow` instance (definitionally equal to core's), like the powers in `SfxProps/C15.lean`.
-/
namespace Sfx.ExpAccPf
open Sfx.ExpPf Sfx.LogAccPf Sfx.GridReal Sfx.C15 Sfx.C12 Sfx.ConvPf

theorem exp_pairs_run (S D : Layout) (hS : LogPf.Ctx S) (hD : LogPf.Ctx D) (hadm : fromAdmissible S D) (x : Int) (hx : inRange S x)
    {r : Int} {it : Nat} {dbg : Bool} (he : Trans.run (Trans.exp S D x) = .ok (some r, it) dbg) :
    ∃ w : Int, inRange D w ∧ val D.f w = val S.f x ∧ Trans.run (Trans.exp D D w) = .ok (some r, it) dbg := by
  by_cases hmin : x = S.min
  · rw [hmin, PairsPf.exp_widen_min S D hS] at he
    cases he
  · obtain ⟨w, hw, hwin, hrun⟩ := PairsPf.exp_widen_ex S D hS hD hadm x hx hmin
    exact ⟨w, hwin, by rw [hw]; exact cast_widen S.f D.f hadm.1 x, hrun ▸ he⟩

/-- C15 (exp clause) for `exp::<S, D>` on every operand outside known finding D10 -/
theorem exp_accuracy (S D : Layout) (hS : LogPf.Ctx S) (hD : Supp D) (hadm : fromAdmissible S D) (x : Int) (hx : inRange S x)
    (h : TailOK D.f |val S.f x|) : ∀ r it dbg, Trans.run (Trans.exp S D x) = .ok (some r, it) dbg →
      |val D.f r - Real.exp (val S.f x)| ≤ Real.exp (val S.f x) / (2 : ℝ) ^ 20 + 64 / (2 : ℝ) ^ D.f := by
  intro r it dbg he
  obtain ⟨w, hwin, hval, he'⟩ := exp_pairs_run S D hS hD.ctx hadm x hx he
  rw [← hval] at h ⊢
  exact exp_real_tail D.f hD.f_ge w r h (exp_trace D hD.valid hD.signed hD.f_ge hD.int_ge w hwin he')

theorem exp_accuracy_four (D : Layout) (hv : D.valid) (hs : D.signed = true) (hf : 23 ≤ D.f) (hint : 9 ≤ D.intBits)
    (x : Int) (hx : inRange D x) (hsmall : x.natAbs ≤ 4 * 2 ^ D.f) (r : Int) (it : Nat) (dbg : Bool) :
    Trans.run (Trans.exp D D x) = .ok (some r, it) dbg →
      |(r : ℝ) / 2 ^ D.f - Real.exp ((x : ℝ) / 2 ^ D.f)| ≤ Real.exp ((x : ℝ) / 2 ^ D.f) / 2 ^ 20 + 64 / 2 ^ D.f :=
  exp_accuracy D D ⟨hv, hs, by omega⟩ ⟨hv, hs, hf, hint⟩ (fromAdmissible_refl D) x hx
    (.of_le_four hf (abs_nonneg _) (by show |(x : ℝ) / 2 ^ D.f| ≤ 4
                                       simpa using natAbs_le_val (f := D.f) (a := 1) (b := 4) (by rwa [Nat.one_mul]))) r it dbg

theorem exp_accuracy_small (D : Layout) (hv : D.valid) (hs : D.signed = true) (hf : 23 ≤ D.f) (hint : 9 ≤ D.intBits)
    (x : Int) (hx : inRange D x) (hsmall : x.natAbs ≤ 2 ^ D.f) (r : Int) (it : Nat) (dbg : Bool) :
    Trans.run (Trans.exp D D x) = .ok (some r, it) dbg →
      |(r : ℝ) / 2 ^ D.f - Real.exp ((x : ℝ) / 2 ^ D.f)| ≤ Real.exp ((x : ℝ) / 2 ^ D.f) / 2 ^ 20 + 64 / 2 ^ D.f :=
  exp_accuracy_four D hv hs hf hint x hx (hsmall.trans (Nat.le_mul_of_pos_left _ (by norm_num))) r it dbg

/-- `hx1`: at `x = 1` the result is the constant `E`, not the sum -/
theorem exp_accuracy_pos_sharp (D : Layout) (hv : D.valid) (hs : D.signed = true) (hf : 23 ≤ D.f) (hint : 9 ≤ D.intBits)
    (x : Int) (hx : inRange D x) (hx0 : 0 < x) (hx1 : (x : ℝ) / 2 ^ D.f ≠ 1) (hx4 : (x : ℝ) / 2 ^ D.f ≤ 4)
    (r : Int) (it : Nat) (dbg : Bool) :
    Trans.run (Trans.exp D D x) = .ok (some r, it) dbg →
      0 ≤ Real.exp ((x : ℝ) / 2 ^ D.f) - (r : ℝ) / 2 ^ D.f ∧
      Real.exp ((x : ℝ) / 2 ^ D.f) - (r : ℝ) / 2 ^ D.f ≤ (2 * (D.f : ℝ) + 6) / 2 ^ D.f := by
  intro h
  have hG : (0 : ℝ) < 2 ^ D.f := by positivity
  rcases exp_trace D hv hs hf hint x hx h with ⟨h0, _⟩ | ⟨h1, _⟩ | ⟨_, hr⟩ | ⟨hn, _⟩
  · omega
  · exfalso
    apply hx1
    rw [h1, pow2_cast, div_self hG.ne']
  · rw [hr]
    exact pos_sharp D.f hf x hx0 hx4
  · omega

/-! the hypotheses are satisfied by the supported layouts -/
example (x r : Int) (it : Nat) (dbg : Bool) (hx : inRange ⟨true, 32, 23⟩ x) (h : x.natAbs ≤ 2 ^ 23) :=
  exp_accuracy_small ⟨true, 32, 23⟩ (by decide) rfl (by decide) (by decide) x hx h r it dbg
example (x r : Int) (it : Nat) (dbg : Bool) (hx : inRange ⟨true, 128, 88⟩ x) (h : x.natAbs ≤ 4 * 2 ^ 88) :=
  exp_accuracy_four ⟨true, 128, 88⟩ (by decide) rfl (by decide) (by decide) x hx h r it dbg
example (x r : Int) (it : Nat) (dbg : Bool) (hx : inRange ⟨true, 32, 23⟩ x) (h : 4 * x.natAbs ≤ 23 * 2 ^ 23) :=
  exp_accuracy ⟨true, 32, 23⟩ _ ⟨by decide, rfl, by decide⟩ ⟨by decide, rfl, by decide, by decide⟩
    (fromAdmissible_refl _) x hx (.of_wide (by decide) (abs_nonneg _) (natAbs_le_val (f := 23) (a := 4) (b := 23) h)) r it dbg
example (x r : Int) (it : Nat) (dbg : Bool) (hx : inRange ⟨true, 128, 88⟩ x) (h : 4 * x.natAbs ≤ 88 * 2 ^ 88) :=
  exp_accuracy ⟨true, 128, 88⟩ _ ⟨by decide, rfl, by decide⟩ ⟨by decide, rfl, by decide, by decide⟩
    (fromAdmissible_refl _) x hx (.of_wide (by decide) (abs_nonneg _) (natAbs_le_val (f := 88) (a := 4) (b := 88) h)) r it dbg

end Sfx.ExpAccPf

namespace Sfx.PairsPf
open Sfx.C15 Sfx.C12 Sfx.ConvPf Sfx.ExpAccPf

theorem C15_exp_le_four_pairs (S D : Layout) (hS : Supp S) (hD : Supp D) (hadm : fromAdmissible S D) (x : Int) (hx : inRange S x)
    (hsmall : |val S.f x| ≤ 4) :
    ∀ r it dbg, Trans.run (Trans.exp S D x) = .ok (some r, it) dbg →
      |val D.f r - Real.exp (val S.f x)| ≤ Real.exp (val S.f x) / (2 : ℝ) ^ 20 + 64 / (2 : ℝ) ^ D.f :=
  ExpAccPf.exp_accuracy S D hS.ctx hD hadm x hx (.of_le_four hD.f_ge (abs_nonneg _) hsmall)

end Sfx.PairsPf

namespace Sfx.ExpBandPf
open Sfx.ExpAccPf Sfx.ConvPf

/-- the tail hypothesis in the form "the exact partial sum of the `f` terms reaches `(1 - 2^-24) e^|x|`" -/
theorem exp_accuracy_band_sum (D : Layout) (hv : D.valid) (hs : D.signed = true) (hf : 23 ≤ D.f) (hint : 9 ≤ D.intBits)
    (x : Int) (hx : inRange D x)
    (hsum : Real.exp |(x : ℝ) / 2 ^ D.f| * (1 - 1 / 2 ^ 24) ≤ Sfx.ExpAccPf.Sm |(x : ℝ) / 2 ^ D.f| D.f)
    (r : Int) (it : Nat) (dbg : Bool) :
    Trans.run (Trans.exp D D x) = .ok (some r, it) dbg →
      |(r : ℝ) / 2 ^ D.f - Real.exp ((x : ℝ) / 2 ^ D.f)| ≤ Real.exp ((x : ℝ) / 2 ^ D.f) / 2 ^ 20 + 64 / 2 ^ D.f :=
  exp_accuracy D D ⟨hv, hs, by omega⟩ ⟨hv, hs, hf, hint⟩ (fromAdmissible_refl D) x hx
    (.of_24 ((tail_hyp_iff _ _).2 hsum)) r it dbg

/-- the region `4 |x| ≤ f` needs no tail hypothesis (`TailOK.of_wide`); what the tail hypothesis buys is the band `4 |x| > f` -/
example (D : Layout) (hv : D.valid) (hs : D.signed = true) (hf : 23 ≤ D.f) (hint : 9 ≤ D.intBits) (x : Int) (hx : inRange D x) :=
  fun htail => exp_accuracy D D ⟨hv, hs, by omega⟩ ⟨hv, hs, hf, hint⟩ (fromAdmissible_refl D) x hx (.of_24 htail)

/-! non-vacuity: `I32F32`, `x = 9.0` is in the band (`4 · 9 > 32`, so `TailOK.of_wide` does not apply) and satisfies every
hypothesis; the model returns `Ok` there (`exp9_run`, `C15Witness.lean`), so the conclusion is about an actual result -/
theorem band_witness_hyp :
    Sfx.ExpAccPf.Rm |((9 * 2 ^ 32 : Int) : ℝ) / 2 ^ (⟨true, 64, 32⟩ : Layout).f| (⟨true, 64, 32⟩ : Layout).f ≤
      Real.exp |((9 * 2 ^ 32 : Int) : ℝ) / 2 ^ (⟨true, 64, 32⟩ : Layout).f| / 2 ^ 24 := by
  have e : |((9 * 2 ^ 32 : Int) : ℝ) / 2 ^ (⟨true, 64, 32⟩ : Layout).f| = 9 := by
    show |((9 * 2 ^ 32 : Int) : ℝ) / 2 ^ 32| = 9
    push_cast
    norm_num
  rw [e]
  exact tail32 le_rfl (by norm_num)

example : ¬ (4 * (9 * 2 ^ 32 : Int).natAbs ≤ (⟨true, 64, 32⟩ : Layout).f * 2 ^ (⟨true, 64, 32⟩ : Layout).f) := by decide

example (r : Int) (it : Nat) (dbg : Bool) :
    Trans.run (Trans.exp ⟨true, 64, 32⟩ ⟨true, 64, 32⟩ (9 * 2 ^ 32)) = .ok (some r, it) dbg →
      |(r : ℝ) / 2 ^ 32 - Real.exp (((9 * 2 ^ 32 : Int) : ℝ) / 2 ^ 32)| ≤
        Real.exp (((9 * 2 ^ 32 : Int) : ℝ) / 2 ^ 32) / 2 ^ 20 + 64 / 2 ^ 32 :=
  exp_accuracy ⟨true, 64, 32⟩ _ ⟨by decide, rfl, by decide⟩ ⟨by decide, rfl, by decide, by decide⟩
    (fromAdmissible_refl _) (9 * 2 ^ 32) (by decide) (.of_24 band_witness_hyp) r it dbg

theorem band_witness_result :
    |((34802480388886 : Int) : ℝ) / 2 ^ 32 - Real.exp (((9 * 2 ^ 32 : Int) : ℝ) / 2 ^ 32)| ≤
      Real.exp (((9 * 2 ^ 32 : Int) : ℝ) / 2 ^ 32) / 2 ^ 20 + 64 / 2 ^ 32 := by
  exact exp_accuracy ⟨true, 64, 32⟩ _ ⟨by decide, rfl, by decide⟩ ⟨by decide, rfl, by decide, by decide⟩
    (fromAdmissible_refl _) (9 * 2 ^ 32) (by decide) (.of_24 band_witness_hyp) _ 30 false exp9_run

end Sfx.ExpBandPf

#print axioms Sfx.ExpAccPf.exp_accuracy_small
#print axioms Sfx.ExpAccPf.exp_accuracy_four
#print axioms Sfx.ExpAccPf.exp_accuracy_pos_sharp
#print axioms Sfx.ExpAccPf.exp_accuracy
#print axioms Sfx.PairsPf.C15_exp_le_four_pairs
#print axioms Sfx.ExpBandPf.band_witness_result
#print axioms Sfx.ExpBandPf.exp_accuracy_band_sum
#print axioms Sfx.ExpBandPf.band_witness_hyp
