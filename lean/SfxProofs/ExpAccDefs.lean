import SfxProofs.LogAccDefs
/-
  ExpAccDefs.lean — core-only integer descriptions ("traces") of what `transcendental::exp` and `transcendental::pow` compute, used to
  connect the executable model (`SfxProofs/Exp.lean`, `SfxProofs/PowAccModel.lean`, core `Int` powers) with the real analysis
  (`SfxProofs/ExpAccReal.lean`, `SfxProofs/PowAccReal.lean`, Mathlib).  No `^` occurs here: `pow2 k` (`LogAccDefs.lean`) is `2 ^ k` by
  structural recursion, so that neither side depends on which `Pow` instance elaborates.
-/
namespace Sfx.ExpAccPf
open Sfx.LogAccPf

/-- the loop of `exp` on bit patterns of NONNEGATIVE values, `F = 2^f`, for `k` iterations starting at index `i`:
`term = term * x` (fixed-point product, `⌊term * x / F⌋`); `term = term / from_num(i)` (fixed-point quotient, `⌊term / i⌋`);
`result += term` -/
def expPure (F x : Int) : Nat → Nat → Int → Int → Int
  | 0, _, _, R => R
  | k + 1, i, t, R => expPure F x k (i + 1) (t * x / F / (i : Int)) (R + t * x / F / (i : Int))

theorem expPure_succ (F x : Int) (k i : Nat) (t R : Int) :
    expPure F x (k + 1) i t R = expPure F x k (i + 1) (t * x / F / (i : Int)) (R + t * x / F / (i : Int)) := rfl

theorem expPure_ge (F x : Int) (hF : 0 ≤ F) (hx0 : 0 ≤ x) :
    ∀ (k i : Nat) (t R : Int), 0 ≤ t → R ≤ expPure F x k i t R
  | 0, _, _, R, _ => Int.le_refl R
  | k + 1, i, t, R, ht => by
    have h0 : 0 ≤ t * x / F / (i : Int) := Int.ediv_nonneg (Int.ediv_nonneg (Int.mul_nonneg ht hx0) hF) (by omega)
    have := expPure_ge F x hF hx0 k (i + 1) (t * x / F / (i : Int)) (R + t * x / F / (i : Int)) h0
    rw [expPure_succ]
    omega

/-- the truncated sum of `exp` for a positive operand `y`: `1 + y + Σ_{i=2}^{f-1} term_i` with the truncated recurrence of `expPure` -/
def expSum (f : Nat) (y : Int) : Int := expPure (pow2 f) y (f - 2) 2 y (y + pow2 f)

/-- every `Ok(r)` of `exp::<D, D>(x)`, `f = frac_nbits`:
* `x = 0`: exactly one;
* `x = 1`: the `I9F23` constant `E = 22802600 / 2^23` widened;
* `x > 0`: the truncated sum `expSum f x`;
* `x < 0`: the truncated reciprocal `⌊2^(2f) / expSum f |x|⌋`. -/
def ExpSpec (f : Nat) (x r : Int) : Prop :=
  (x = 0 ∧ r = pow2 f) ∨
  (x = pow2 f ∧ r = 22802600 * pow2 (f - 23)) ∨
  (0 < x ∧ r = expSum f x) ∨
  (x < 0 ∧ r = pow2 f * pow2 f / expSum f (-x))

/-- every `Ok(r)` of `pow::<D, D>(x, y)` for a base `x ≠ 0`: the early returns `x^0 = 1` and `x^1 = x`, or `exp` of the truncated product
`⌊ln(x) · y / 2^f⌋` with `ln(x)` as `ln::<D, D>` computes it -/
def PowSpec (f : Nat) (x y r : Int) : Prop :=
  (y = 0 ∧ r = pow2 f) ∨ (y = pow2 f ∧ r = x) ∨ ∃ l, LnSpec f x l ∧ ExpSpec f (l * y / pow2 f) r

end Sfx.ExpAccPf
