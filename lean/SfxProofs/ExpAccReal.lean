import Mathlib.Analysis.Complex.ExponentialBounds
import Mathlib.Tactic.Linarith
import Mathlib.Tactic.Ring
import Mathlib.Tactic.Positivity
import Mathlib.Tactic.NormNum
import Mathlib.Tactic.FieldSimp
import Mathlib.Tactic.IntervalCases
import SfxProofs.ExpAccDefs
import SfxProofs.GridReal
import SfxProofs.LogArith
/-
  ExpAccReal.lean — real analysis of the integer trace of `ExpAccDefs.lean` (no model definitions are involved here).

  With `X = y / 2^f > 0`, `T_j = X^j / j!`, `e_j = 2^f T_j - term_j ≥ 0` the error of term `j` and `E_j` the error of the sum after term
  `j`, both in ulps and one-sided (every operation truncates, all quantities are ≥ 0):
    * one iteration `term ← ⌊⌊term·y / 2^f⌋ / i⌋` is a single floor, so `e_j·X/(j+1) ≤ e_{j+1} ≤ e_j·X/(j+1) + 1` (`step_err`);
    * with the backward weights `w_j = (Σ_{i≥j} T_i) / T_j` (`w_j = 1 + X/(j+1) · w_{j+1}`) the potential `E_j + (w_j - 1) e_j` grows by at
      most `w_{j+1}` per iteration (`loop_pot`): the truncated sum loses at most `Σ_{j=2}^{f-1} w_j` ulp (`sum_err`);
    * `w_j ≤ 2` once `j + 1 ≥ 2X`; before that `T_j ≥ ((j+1)/2)^j / j!`, so `w_j ≤ 2 + c e^X` for every `X` whenever `j! 2^j ≤ c (j+1)^j`,
      a condition that is inherited by `j + 1` (Bernoulli);
    * the total error is at most the weights plus the omitted tail (`delta_le`); whoever bounds it by `a + b e^X` ulp with `Allowed f a b`
      gets the exp clause of C15 for both signs of the operand (`exp_real_of_delta`); for `x < 0` the error of the sum is divided by `e^X · sum` in the truncated reciprocal
      (`recip_clause`).
-/
namespace Sfx.ExpAccPf
open Finset Sfx.LogAccPf Sfx.GridReal

/-- term `n` of the Maclaurin series of `e^X` -/
noncomputable def Tm (X : ℝ) (n : ℕ) : ℝ := X ^ n / (n.factorial : ℝ)
-- the partial sum of the terms `0 … n-1` (the code sums `n = frac_nbits` of them)
noncomputable def Sm (X : ℝ) (n : ℕ) : ℝ := ∑ m ∈ range n, X ^ m / (m.factorial : ℝ)
-- the tail that the partial sum omits, `Σ_{i ≥ n} X^i / i!` (`Rm_hasSum`)
noncomputable def Rm (X : ℝ) (n : ℕ) : ℝ := Real.exp X - Sm X n
/-- `w_n = (Σ_{i ≥ n} X^i/i!) / (X^n/n!)`: by how much one unit of truncation error in term `n` ends up in the (infinite) sum -/
noncomputable def wt (X : ℝ) (n : ℕ) : ℝ := Rm X n / Tm X n

theorem Tm_succ (X : ℝ) (n : ℕ) : Tm X (n + 1) = Tm X n * (X / ((n : ℝ) + 1)) := by
  unfold Tm
  rw [Nat.factorial_succ, pow_succ, Nat.cast_mul, Nat.cast_succ, mul_comm ((n : ℝ) + 1), mul_div_mul_comm]

theorem Sm_succ (X : ℝ) (n : ℕ) : Sm X (n + 1) = Sm X n + Tm X n := sum_range_succ _ n

theorem Tm_one (X : ℝ) : Tm X 1 = X := by simp [Tm]
theorem Sm_two (X : ℝ) : Sm X 2 = 1 + X := by simp [Sm, sum_range_succ]

theorem Tm_nonneg {X : ℝ} (hX : 0 ≤ X) (n : ℕ) : 0 ≤ Tm X n := by unfold Tm; positivity
theorem Tm_pos {X : ℝ} (hX : 0 < X) (n : ℕ) : 0 < Tm X n := by unfold Tm; positivity
theorem Sm_nonneg {X : ℝ} (hX : 0 ≤ X) (n : ℕ) : 0 ≤ Sm X n := sum_nonneg fun i _ => by positivity
theorem Sm_le_exp {X : ℝ} (hX : 0 ≤ X) (n : ℕ) : Sm X n ≤ Real.exp X := Real.sum_le_exp_of_nonneg hX n
theorem Rm_nonneg {X : ℝ} (hX : 0 ≤ X) (n : ℕ) : 0 ≤ Rm X n := sub_nonneg.2 (Sm_le_exp hX n)
theorem Rm_succ (X : ℝ) (n : ℕ) : Rm X n = Tm X n + Rm X (n + 1) := by unfold Rm; rw [Sm_succ]; ring
theorem Rm_le_exp {X : ℝ} (hX : 0 ≤ X) (n : ℕ) : Rm X n ≤ Real.exp X := sub_le_self _ (Sm_nonneg hX n)

theorem exp_le_Sm_add {X : ℝ} (hX : 0 ≤ X) (n : ℕ) (h : X / ((n : ℝ) + 1) ≤ 1 / 2) :
    Real.exp X ≤ Sm X n + Tm X n * 2 := by
  have hc : ‖(X : ℂ)‖ / (n.succ : ℝ) ≤ 1 / 2 := by
    rw [Complex.norm_real, Real.norm_eq_abs, abs_of_nonneg hX]
    push_cast
    exact h
  have hb := Complex.exp_bound' hc
  have e1 : Complex.exp (X : ℂ) - ∑ m ∈ range n, (X : ℂ) ^ m / (m.factorial : ℂ) =
      ((Real.exp X - ∑ m ∈ range n, X ^ m / (m.factorial : ℝ) : ℝ) : ℂ) := by
    push_cast
    rfl
  rw [e1, Complex.norm_real, Real.norm_eq_abs, Complex.norm_real, Real.norm_eq_abs, abs_of_nonneg hX] at hb
  have := (abs_le.1 hb).2
  unfold Sm Tm
  linarith only [this]

theorem Rm_le_two_Tm {X : ℝ} (hX : 0 ≤ X) (n : ℕ) (h : 2 * X ≤ (n : ℝ) + 1) : Rm X n ≤ Tm X n * 2 := by
  have := exp_le_Sm_add hX n (by rw [div_le_iff₀ (by positivity)]; linarith only [h])
  unfold Rm
  linarith only [this]

theorem wt_mul_Tm {X : ℝ} (hX : 0 < X) (n : ℕ) : wt X n * Tm X n = Rm X n := div_mul_cancel₀ _ (Tm_pos hX n).ne'

theorem wt_nonneg {X : ℝ} (hX : 0 < X) (n : ℕ) : 0 ≤ wt X n := div_nonneg (Rm_nonneg hX.le n) (Tm_pos hX n).le

theorem wt_rec {X : ℝ} (hX : 0 < X) (n : ℕ) : wt X n = 1 + X / ((n : ℝ) + 1) * wt X (n + 1) := by
  unfold wt
  rw [Rm_succ X n, Tm_succ]
  have h1 := (Tm_pos hX n).ne'
  have h2 : ((n : ℝ) + 1) ≠ 0 := by positivity
  have h3 := hX.ne'
  field_simp

theorem wt_late {X : ℝ} (hX : 0 < X) (n : ℕ) (h : 2 * X ≤ (n : ℝ) + 1) : wt X n ≤ 2 := by
  unfold wt
  rw [div_le_iff₀ (Tm_pos hX n), mul_comm]
  exact Rm_le_two_Tm hX.le n h

theorem sum_le_const (a : ℕ → ℝ) (k : ℕ) (c : ℝ) (h : ∀ i, i < k → a i ≤ c) : ∑ i ∈ range k, a i ≤ (k : ℝ) * c := by
  have := Finset.sum_le_sum (s := range k) (f := a) (g := fun _ => c) (fun i hi => h i (Finset.mem_range.1 hi))
  simpa using this

/-- the two truncations of one iteration amount to a single floor -/
theorem step_floor (F x t : Int) (i : Nat) (hF : 0 < F) (hi : 0 < i) :
    (((t * x / F / (i : Int) : Int) : ℝ) ≤ (t : ℝ) * ((x : ℝ) / (F : ℝ)) / (i : ℝ)) ∧
    ((t : ℝ) * ((x : ℝ) / (F : ℝ)) / (i : ℝ) < ((t * x / F / (i : Int) : Int) : ℝ) + 1) := by
  obtain ⟨g1, g2⟩ := floor_val one_pos (t * x) (F * (i : Int)) (Int.mul_pos hF (by exact_mod_cast hi))
  rw [Int.ediv_ediv_of_nonneg hF.le, mul_div_assoc', div_div]
  push_cast at g1 g2
  simp only [div_one] at g1 g2
  exact ⟨g2, sub_lt_iff_lt_add.1 g1⟩

/-- error of the computed term `t` of index `j`, in ulps (`F = 2^f`, `X = x / F`) -/
noncomputable def errT (F x : Int) (j : ℕ) (t : Int) : ℝ := (F : ℝ) * Tm ((x : ℝ) / F) j - t
/-- error of the computed sum `R` after term `j`, in ulps -/
noncomputable def errS (F x : Int) (j : ℕ) (R : Int) : ℝ := (F : ℝ) * Sm ((x : ℝ) / F) (j + 1) - R

theorem step_err (F x t R : Int) (j : Nat) (hF : 0 < F) :
    errT F x j t * (((x : ℝ) / F) / ((j : ℝ) + 1)) ≤ errT F x (j + 1) (t * x / F / ((j + 1 : Nat) : Int)) ∧
    errT F x (j + 1) (t * x / F / ((j + 1 : Nat) : Int)) ≤ errT F x j t * (((x : ℝ) / F) / ((j : ℝ) + 1)) + 1 ∧
    errS F x (j + 1) (R + t * x / F / ((j + 1 : Nat) : Int)) =
      errS F x j R + errT F x (j + 1) (t * x / F / ((j + 1 : Nat) : Int)) := by
  obtain ⟨f1, f2⟩ := step_floor F x t (j + 1) hF (Nat.succ_pos j)
  unfold errT errS
  generalize t * x / F / ((j + 1 : Nat) : Int) = t' at *
  rw [Sm_succ _ (j + 1), Tm_succ]
  push_cast at f1 f2 ⊢
  rw [mul_div_assoc] at f1 f2
  generalize ((x : ℝ) / F) / ((j : ℝ) + 1) = c at *
  refine ⟨by linarith only [f1], by linarith only [f2], by ring⟩

theorem loop_pot (F x : Int) (hF : 0 < F) (hx : 0 < x) :
    ∀ (k j : ℕ) (t R : Int), 0 ≤ t → 0 ≤ errT F x j t → 0 ≤ errS F x j R →
      0 ≤ errS F x (j + k) (expPure F x k (j + 1) t R) ∧
      errS F x (j + k) (expPure F x k (j + 1) t R) ≤
        errS F x j R + (wt ((x : ℝ) / F) j - 1) * errT F x j t + ∑ i ∈ range k, wt ((x : ℝ) / F) (j + 1 + i)
  | 0, j, t, R, _, he, hE => by
    have hX : 0 < (x : ℝ) / F := div_pos (Int.cast_pos.2 hx) (Int.cast_pos.2 hF)
    have hw : 0 ≤ (wt ((x : ℝ) / F) j - 1) * errT F x j t := by
      rw [wt_rec hX j, add_sub_cancel_left]
      exact mul_nonneg (mul_nonneg (by positivity) (wt_nonneg hX (j + 1))) he
    refine ⟨hE, ?_⟩
    show errS F x j R ≤ _
    rw [Finset.range_zero, Finset.sum_empty]
    linarith only [hw]
  | k + 1, j, t, R, ht, he, hE => by
    have hX : 0 < (x : ℝ) / F := div_pos (Int.cast_pos.2 hx) (Int.cast_pos.2 hF)
    obtain ⟨s1, s2, s3⟩ := step_err F x t R j hF
    have s0 : 0 ≤ t * x / F / ((j + 1 : Nat) : Int) :=
      Int.ediv_nonneg (Int.ediv_nonneg (Int.mul_nonneg ht hx.le) hF.le) (Int.natCast_nonneg _)
    have hc0 : 0 ≤ ((x : ℝ) / F) / ((j : ℝ) + 1) := by positivity
    have he' := le_trans (mul_nonneg he hc0) s1
    have hE' : 0 ≤ errS F x (j + 1) (R + t * x / F / ((j + 1 : Nat) : Int)) := by rw [s3]; linarith only [hE, he']
    obtain ⟨i1, i2⟩ := loop_pot F x hF hx k (j + 1) _ _ s0 he' hE'
    rw [expPure_succ, show j + (k + 1) = j + 1 + k by omega]
    refine ⟨i1, le_trans i2 ?_⟩
    have hmul := mul_le_mul_of_nonneg_left s2 (wt_nonneg hX (j + 1))
    have hsum : ∑ i ∈ range k, wt ((x : ℝ) / F) (j + 1 + (i + 1)) = ∑ i ∈ range k, wt ((x : ℝ) / F) (j + 1 + 1 + i) :=
      Finset.sum_congr rfl fun i _ => by congr 1; omega
    rw [Finset.sum_range_succ', hsum, s3, wt_rec hX j, Nat.add_zero]
    linarith only [hmul]

theorem sum_err (f : ℕ) (hf : 2 ≤ f) (y : Int) (hy : 0 < y) :
    0 ≤ (2 : ℝ) ^ f * Sm ((y : ℝ) / 2 ^ f) f - (expSum f y : Int) ∧
    (2 : ℝ) ^ f * Sm ((y : ℝ) / 2 ^ f) f - (expSum f y : Int) ≤ ∑ i ∈ range (f - 2), wt ((y : ℝ) / 2 ^ f) (2 + i) := by
  have hG : (0 : ℝ) < 2 ^ f := by positivity
  have e1 : errT (pow2 f) y 1 y = 0 := by
    unfold errT
    rw [Tm_one, pow2_cast, mul_div_cancel₀ _ hG.ne', sub_self]
  have e2 : errS (pow2 f) y 1 (y + pow2 f) = 0 := by
    unfold errS
    rw [Sm_two, pow2_cast, mul_add, mul_div_cancel₀ _ hG.ne']
    push_cast
    rw [pow2_cast]
    ring
  have h := loop_pot (pow2 f) y (pow2_pos f) hy (f - 2) 1 y (y + pow2 f) hy.le e1.ge e2.ge
  rw [e1, e2, mul_zero, add_zero, zero_add] at h
  unfold errS at h
  rw [show 1 + (f - 2) + 1 = f by omega, pow2_cast] at h
  exact h

theorem delta_le (f : ℕ) (hf : 2 ≤ f) (y : Int) (hy : 0 < y) {W T : ℝ}
    (hw : ∑ i ∈ range (f - 2), wt ((y : ℝ) / 2 ^ f) (2 + i) ≤ W)
    (ht : (2 : ℝ) ^ f * Rm ((y : ℝ) / 2 ^ f) f ≤ T) :
    0 ≤ (2 : ℝ) ^ f * Real.exp ((y : ℝ) / 2 ^ f) - (expSum f y : Int) ∧
    (2 : ℝ) ^ f * Real.exp ((y : ℝ) / 2 ^ f) - (expSum f y : Int) ≤ W + T := by
  obtain ⟨s0, s1⟩ := sum_err f hf y hy
  have hX : 0 ≤ (y : ℝ) / 2 ^ f := div_nonneg (Int.cast_nonneg hy.le) (by positivity)
  have hlo := mul_nonneg (show (0 : ℝ) ≤ 2 ^ f by positivity) (Rm_nonneg hX f)
  unfold Rm at ht hlo
  rw [mul_sub] at ht hlo
  exact ⟨by linarith only [s0, hlo], by linarith only [s1, hw, ht]⟩

/-- from ulps to the form of the clause: `v` is the computed bit pattern, `t` the exact value, `G = 2^f` -/
theorem clause_of_ulp {G v t : ℝ} (hG : 0 < G) (h : |v - G * t| ≤ 64 + G / 2 ^ 20 * t) : |v / G - t| ≤ t / 2 ^ 20 + 64 / G := by
  rw [show t / 2 ^ 20 + 64 / G = (64 + G / 2 ^ 20 * t) / G by field_simp; ring]
  exact (abs_val_le_iff hG).2 h

/-- positive operands: `S` is the truncated sum, `y = e^X ≥ 1`, `G = 2^f` -/
theorem pos_clause {G y S a b : ℝ} (hG : 0 < G) (hy : 1 ≤ y) (d0 : 0 ≤ G * y - S) (d1 : G * y - S ≤ a + b * y)
    (hb : b ≤ G / 2 ^ 20) (hab : a + b ≤ 64 + G / 2 ^ 20) : |S / G - y| ≤ y / 2 ^ 20 + 64 / G := by
  have h1 := mul_le_mul_of_nonneg_right hb (sub_nonneg.2 hy)
  have h0 : 0 ≤ G / 2 ^ 20 * y := mul_nonneg (by positivity) (zero_le_one.trans hy)
  exact clause_of_ulp hG (abs_le.2 ⟨by linarith only [h1, d1, hab], by linarith only [h0, d0]⟩)

theorem recip_key {G S r y z a b : ℝ} (hG : 0 < G) (hy1 : 1 ≤ y) (hz : z * y = 1) (d1 : G * y - S ≤ a + b * y)
    (h1 : r * S ≤ G * G) (ha : 0 ≤ a) : (r - G * z) * (y * S) ≤ (a + b) * (y * G) := by
  have h3 := mul_le_mul_of_nonneg_right h1 (zero_le_one.trans hy1)
  have h4 := mul_le_mul_of_nonneg_left (mul_le_mul_of_nonneg_left hy1 ha) hG.le
  have h5 := mul_le_mul_of_nonneg_left d1 hG.le
  rw [show (r - G * z) * (y * S) = r * S * y - G * (z * y) * S by ring, hz, mul_one]
  linarith only [h3, h4, h5]

/-- negative operands: the truncated reciprocal `r = ⌊G² / S⌋` of the truncated sum `S ∈ [G y - (a + b y), G y]`, `S ≥ G`, against
`G z`, `z = 1 / y`.  `(r - G z) y S ≤ G (G y - S)`: the error of `S` is divided by `y S / G`, which is at least `y` (first case of
`hcase`) and at least `y² / 2` when `a + b ≤ G / 2` (second case) -/
theorem recip_clause {G S r y z a b : ℝ} (hG : 0 < G) (hy1 : 1 ≤ y) (hz : z * y = 1) (hS : G ≤ S) (d0 : 0 ≤ G * y - S)
    (d1 : G * y - S ≤ a + b * y) (h1 : r * S ≤ G * G) (h2 : G * G < (r + 1) * S) (ha : 0 ≤ a)
    (hcase : a + b ≤ 64 ∨ (2 * (a + b) ≤ 64 + G / 2 ^ 20 ∧ a + b ≤ G / 2)) :
    |r / G - z| ≤ z / 2 ^ 20 + 64 / G := by
  have hy : 0 < y := lt_of_lt_of_le one_pos hy1
  have hz' : z = 1 / y := eq_one_div_of_mul_eq_one_left hz
  have hz0 : 0 < z := by rw [hz']; exact one_div_pos.2 hy
  have hz1 : z ≤ 1 := by rw [hz']; exact (div_le_one hy).2 hy1
  have hS0 : 0 < S := lt_of_lt_of_le hG hS
  have hGz : 0 ≤ G / 2 ^ 20 * z := by positivity
  refine clause_of_ulp hG (abs_le.2 ⟨?_, ?_⟩)
  · -- (r + 1) S > G² = G² z y ≥ G z S
    have h3 : G * z * S ≤ G * z * (G * y) := mul_le_mul_of_nonneg_left (sub_nonneg.1 d0) (by positivity)
    rw [show G * z * (G * y) = G * G * (z * y) by ring, hz, mul_one] at h3
    have h5 := lt_of_mul_lt_mul_right (lt_of_le_of_lt h3 h2) hS0.le
    linarith only [h5, hGz]
  · by_cases hu0 : r - G * z ≤ 0
    · linarith only [hu0, hGz]
    · have hu : 0 ≤ r - G * z := (not_le.1 hu0).le
      have hkey := recip_key hG hy1 hz d1 h1 ha
      rcases hcase with hA | ⟨hB1, hB2⟩
      · -- S ≥ G
        have h3 : (r - G * z) * (y * G) ≤ (r - G * z) * (y * S) :=
          mul_le_mul_of_nonneg_left (mul_le_mul_of_nonneg_left hS hy.le) hu
        have h5 := le_of_mul_le_mul_right (h3.trans hkey) (mul_pos hy hG)
        linarith only [h5, hA, hGz]
      · -- S ≥ G y / 2
        have h3 := mul_le_mul_of_nonneg_right hB2 hy.le
        have h4 : G * y / 2 ≤ S := by linarith only [h3, d1, mul_le_mul_of_nonneg_left hy1 ha]
        have h6 : (r - G * z) * y * (y * G / 2) ≤ 2 * (a + b) * (y * G / 2) :=
          calc (r - G * z) * y * (y * G / 2) = (r - G * z) * (y * (G * y / 2)) := by ring
            _ ≤ (r - G * z) * (y * S) := mul_le_mul_of_nonneg_left (mul_le_mul_of_nonneg_left h4 hy.le) hu
            _ ≤ (a + b) * (y * G) := hkey
            _ = 2 * (a + b) * (y * G / 2) := by ring
        have h7 := le_of_mul_le_mul_right h6 (by positivity)
        have h8 := mul_le_mul_of_nonneg_right (h7.trans hB1) hz0.le
        rw [mul_assoc, mul_comm y z, hz, mul_one] at h8
        linarith only [h8, hz1]

/-- a one-sided error `a + b e^X` ulp of the truncated sum is within the allowance `64 ulp + 2^-20 e^X` of C15: for `x > 0` as it
stands, for `x < 0` after the truncated reciprocal (`recip_clause`).  `b_le` and `ab_le` are the positive side (`pos_clause`:
`a + b y ≤ 64 + 2^(f-20) y` for every `y ≥ 1`); `recip` is the negative side: either the error of the sum is already below `64 ulp`,
or `a + b ≤ 2^f / 2`, so that the sum is at least half of `2^f e^X` and its error is divided by `e^X / 2` -/
structure Allowed (f : ℕ) (a b : ℝ) : Prop where
  a0 : 0 ≤ a
  b_le : b ≤ 2 ^ f / 2 ^ 20
  ab_le : a + b ≤ 64 + 2 ^ f / 2 ^ 20
  recip : a + b ≤ 64 ∨ (2 * (a + b) ≤ 64 + 2 ^ f / 2 ^ 20 ∧ a + b ≤ 2 ^ f / 2)

/-- the constant `E` (the `I9F23` truncation of `e`) -/
theorem e_const : |(22802600 : ℝ) / 2 ^ 23 - Real.exp 1| ≤ Real.exp 1 / 2 ^ 20 := by
  rw [abs_le]
  constructor <;> linarith only [Real.exp_one_gt_d9, Real.exp_one_lt_d9]

/-- the exp clause of C15 for bit patterns: operand `x`, result `r`, `f` fractional bits -/
def ExpClause (f : ℕ) (x r : Int) : Prop :=
  |(r : ℝ) / 2 ^ f - Real.exp ((x : ℝ) / 2 ^ f)| ≤ Real.exp ((x : ℝ) / 2 ^ f) / 2 ^ 20 + 64 / 2 ^ f

theorem exp_real_of_delta (f : ℕ) (hf : 23 ≤ f) (x r : Int) {a b : ℝ} (hab : Allowed f a b)
    (hδ : 0 < |x| →
      0 ≤ (2 : ℝ) ^ f * Real.exp ((|x| : Int) / 2 ^ f) - (expSum f |x| : Int) ∧
      (2 : ℝ) ^ f * Real.exp ((|x| : Int) / 2 ^ f) - (expSum f |x| : Int) ≤ a + b * Real.exp ((|x| : Int) / 2 ^ f))
    (h : ExpSpec f x r) : ExpClause f x r := by
  unfold ExpClause
  have hG : (0 : ℝ) < 2 ^ f := by positivity
  have h64 : (0 : ℝ) ≤ 64 / 2 ^ f := by positivity
  rcases h with ⟨hx, hr⟩ | ⟨hx, hr⟩ | ⟨hx, hr⟩ | ⟨hx, hr⟩
  · rw [hx, hr, pow2_cast, Int.cast_zero, zero_div, Real.exp_zero, div_self hG.ne', sub_self, abs_zero]
    positivity
  · have hsplit : (2 : ℝ) ^ f = 2 ^ 23 * 2 ^ (f - 23) := (pow_mul_pow_sub 2 hf).symm
    have e2 : ((22802600 * pow2 (f - 23) : Int) : ℝ) / 2 ^ f = 22802600 / 2 ^ 23 := by
      push_cast
      rw [pow2_cast, hsplit, mul_div_mul_right _ _ (by positivity)]
    rw [hx, hr, pow2_cast, div_self hG.ne', e2]
    exact e_const.trans (le_add_of_nonneg_right h64)
  · obtain ⟨d0, d1⟩ := hδ (abs_pos.2 hx.ne')
    rw [abs_of_pos hx] at d0 d1
    have hy1 : 1 ≤ Real.exp ((x : ℝ) / 2 ^ f) := Real.one_le_exp (div_nonneg (Int.cast_nonneg hx.le) hG.le)
    rw [hr]
    exact pos_clause hG hy1 d0 d1 hab.b_le hab.ab_le
  · have hy : 0 < -x := by omega
    obtain ⟨d0, d1⟩ := hδ (abs_pos.2 (by omega))
    rw [abs_of_neg (by omega : x < 0)] at d0 d1
    have hge : -x + pow2 f ≤ expSum f (-x) := expPure_ge (pow2 f) (-x) (pow2_pos f).le hy.le (f - 2) 2 (-x) _ hy.le
    have hP := pow2_pos f
    have eneg : (x : ℝ) / 2 ^ f = -((((-x : Int) : ℝ)) / 2 ^ f) := by push_cast; ring
    rw [hr, eneg]
    generalize expSum f (-x) = S at *
    have hS0 : 0 < S := by omega
    obtain ⟨r1, r2⟩ := ediv_bounds (pow2 f * pow2 f) S hS0
    rw [Int.cast_mul, pow2_cast] at r1 r2
    have hSG : (2 : ℝ) ^ f ≤ (S : ℝ) := by
      have : ((pow2 f : Int) : ℝ) ≤ (S : ℝ) := Int.cast_le.2 (by omega)
      rwa [pow2_cast] at this
    have hX0 : 0 ≤ ((-x : Int) : ℝ) / 2 ^ f := div_nonneg (Int.cast_nonneg hy.le) hG.le
    have hzy : Real.exp (-(((-x : Int) : ℝ) / 2 ^ f)) * Real.exp (((-x : Int) : ℝ) / 2 ^ f) = 1 := by
      rw [← Real.exp_add, neg_add_cancel, Real.exp_zero]
    exact recip_clause hG (Real.one_le_exp hX0) hzy hSG d0 d1 r1 r2 hab.a0 hab.recip

end Sfx.ExpAccPf
