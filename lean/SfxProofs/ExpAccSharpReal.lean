import SfxProofs.ExpAccReal
/-
  ExpAccSharpReal.lean — the sharper, one-sided bound of the truncated sum of `exp` for operands `0 < X ≤ 4`: `0 ≤ e^X - val(sum) ≤ (2f + 6) ulp`
  (`pos_sharp`, read on the model by `ExpAccPf.exp_accuracy_pos_sharp`).  Nothing else rests on this file: the clause of C15 goes through the
  operand-uniform weights of `ExpAccWideReal.lean`, which give a bound proportional to `e^X` (≈ 350 ulp at `X = 4`, `f = 23`) and cannot yield this one.
  Here `w_j ≤ 2` from `j = 7` on and `w_6, …, w_2` by the recurrence `wt_rec` (`wsum_four`), and the omitted tail is below one ulp (`tail_small`).
  `budget` is the arithmetic that places `(2f + 6) ulp` inside the allowance of the clause.
-/
namespace Sfx.ExpAccPf
open Finset

theorem wt_step_le {X M B : ℝ} (hX : 0 < X) (hM : X ≤ M) (n : ℕ) (hB : wt X (n + 1) ≤ B) :
    wt X n ≤ 1 + M / ((n : ℝ) + 1) * B := by
  rw [wt_rec hX n]
  have : X / ((n : ℝ) + 1) ≤ M / ((n : ℝ) + 1) := div_le_div_of_nonneg_right hM (by positivity)
  have := mul_le_mul this hB (wt_nonneg hX (n + 1)) (div_nonneg (hX.le.trans hM) (by positivity))
  linarith only [this]

/-- `w_j ≤ 2` from `j = 7` on, `w_6, …, w_2` by the recurrence (`≤ 17.72` together) -/
theorem wsum_four (f : ℕ) (hf : 8 ≤ f) {X : ℝ} (hX : 0 < X) (h4 : X ≤ 4) :
    ∑ i ∈ range (f - 2), wt X (2 + i) ≤ 2 * (f : ℝ) + 4 := by
  have w7 : wt X 7 ≤ 2 := wt_late hX 7 (by norm_num; linarith only [h4])
  have w6 : wt X 6 ≤ 15 / 7 := (wt_step_le hX h4 6 w7).trans (by norm_num)
  have w5 : wt X 5 ≤ 17 / 7 := (wt_step_le hX h4 5 w6).trans (by norm_num)
  have w4 : wt X 4 ≤ 103 / 35 := (wt_step_le hX h4 4 w5).trans (by norm_num)
  have w3 : wt X 3 ≤ 138 / 35 := (wt_step_le hX h4 3 w4).trans (by norm_num)
  have w2 : wt X 2 ≤ 219 / 35 := (wt_step_le hX h4 2 w3).trans (by norm_num)
  obtain ⟨k, hk⟩ : ∃ k, f - 2 = 5 + k := ⟨f - 7, by omega⟩
  have s2 : ∑ i ∈ range k, wt X (2 + (5 + i)) ≤ (k : ℝ) * 2 :=
    sum_le_const _ k _ fun i _ => wt_late hX _ (by push_cast; linarith only [h4, (Nat.cast_nonneg i : (0 : ℝ) ≤ i)])
  have hkr : (k : ℝ) = (f : ℝ) - 7 := by
    rw [show f = k + 7 by omega]; push_cast; ring
  rw [hk, Finset.sum_range_add]
  simp only [Finset.sum_range_succ, Finset.range_zero, Finset.sum_empty]
  rw [hkr] at s2
  linarith only [w2, w3, w4, w5, w6, s2]

theorem fact_bound : ∀ f : ℕ, 23 ≤ f → 2 * 8 ^ f ≤ f.factorial := by
  intro f hf
  induction f, hf using Nat.le_induction with
  | base => decide +kernel
  | succ n hn ih =>
    rw [Nat.factorial_succ, pow_succ]
    have : 8 ≤ n + 1 := by omega
    calc 2 * (8 ^ n * 8) = 8 * (2 * 8 ^ n) := by ring
      _ ≤ (n + 1) * n.factorial := Nat.mul_le_mul this ih

theorem tail_small (f : ℕ) (hf : 23 ≤ f) (X : ℝ) (h0 : 0 ≤ X) (h4 : X ≤ 4) : (2 : ℝ) ^ f * (Tm X f * 2) ≤ 1 := by
  have hb : ((2 * 8 ^ f : ℕ) : ℝ) ≤ (f.factorial : ℝ) := by exact_mod_cast fact_bound f hf
  push_cast at hb
  have hfac : (0 : ℝ) < (f.factorial : ℝ) := by positivity
  have hX : (2 * X) ^ f ≤ 8 ^ f := pow_le_pow_left₀ (by positivity) (by linarith only [h4]) f
  unfold Tm
  rw [show (2 : ℝ) ^ f * (X ^ f / (f.factorial : ℝ) * 2) = (2 * (2 * X) ^ f) / (f.factorial : ℝ) by rw [mul_pow]; ring,
    div_le_one hfac]
  linarith only [hb, hX]

theorem pos_sharp (f : ℕ) (hf : 23 ≤ f) (x : Int) (hx : 0 < x) (hx4 : (x : ℝ) / 2 ^ f ≤ 4) :
    0 ≤ Real.exp ((x : ℝ) / 2 ^ f) - (expSum f x : ℝ) / 2 ^ f ∧
      Real.exp ((x : ℝ) / 2 ^ f) - (expSum f x : ℝ) / 2 ^ f ≤ (2 * (f : ℝ) + 6) / 2 ^ f := by
  have hG : (0 : ℝ) < 2 ^ f := by positivity
  have hX : 0 < (x : ℝ) / 2 ^ f := div_pos (Int.cast_pos.2 hx) hG
  have hfr : (23 : ℝ) ≤ (f : ℝ) := Nat.ofNat_le_cast.2 hf
  obtain ⟨d0, d1⟩ := delta_le f (by omega) x hx (wsum_four f (by omega) hX hx4)
    ((mul_le_mul_of_nonneg_left (Rm_le_two_Tm hX.le f (by linarith only [hfr, hx4])) hG.le).trans
      (tail_small f hf _ hX.le hx4))
  have e : Real.exp ((x : ℝ) / 2 ^ f) - (expSum f x : ℝ) / 2 ^ f =
      (2 ^ f * Real.exp ((x : ℝ) / 2 ^ f) - (expSum f x : ℝ)) / 2 ^ f := by field_simp
  rw [e]
  exact ⟨div_nonneg d0 hG.le, div_le_div_of_nonneg_right (by linarith only [d1]) hG.le⟩

/-- `(2f + 6) ulp ≤ 64 ulp + 2^-20 / K` for `K ≤ 256` -/
theorem budget (f : ℕ) (K : ℝ) (hK0 : 0 < K) (hK : K ≤ 256) :
    K * (2 * (f : ℝ) + 6) * 2 ^ 20 ≤ 64 * K * 2 ^ 20 + 2 ^ f := by
  have h2 : (0 : ℝ) < 2 ^ f := by positivity
  by_cases h29 : f ≤ 29
  · have h1 : (f : ℝ) ≤ 29 := by exact_mod_cast h29
    have h3 := mul_nonneg hK0.le (sub_nonneg.2 h1)
    linarith only [h2, h3]
  · have key : ∀ n : ℕ, 29 ≤ n → K * (2 * (n : ℝ) - 58) * 2 ^ 20 ≤ 2 ^ n ∧ (2 : ℝ) ^ 29 ≤ 2 ^ n := by
      intro n hn
      induction n, hn using Nat.le_induction with
      | base => constructor <;> norm_num
      | succ m hm ih =>
        obtain ⟨a, b⟩ := ih
        rw [pow_succ (2 : ℝ) m]
        push_cast
        exact ⟨by linarith only [a, b, hK], by linarith only [b]⟩
    linarith only [(key f (by omega)).1]

end Sfx.ExpAccPf
