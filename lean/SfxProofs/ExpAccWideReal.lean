import SfxProofs.ExpAccReal
import Mathlib.Analysis.SpecialFunctions.Stirling
import Mathlib.Analysis.Real.Pi.Bounds
/-
  ExpAccWideReal.lean — real analysis of the integer trace of `exp` (`ExpAccDefs.lean`) for every operand outside known finding D10.
  (No model definitions are involved here.)
    * weights: `w_j ≤ 2 + c_j e^X` with `c_j = j! 2^j / (j+1)^j` holds for EVERY `X > 0` (`wt_le_two_add`); with `c_2 = 8/9`, `c_3 = 3/4`,
      `c_6 ≤ 2/5`, `c_9 ≤ 19/100`, `c_13 ≤ 13/200` on the blocks `2 | 3..5 | 6..8 | 9..12 | 13..` the truncation error is at most
      `2 (f - 2) + (4589/900 + 13/200 (f - 13)) e^X` ulp whatever the operand (`wsum_all`);
    * so the operand enters only through the tail `Rm |X| f = Σ_{i ≥ f} |X|^i / i!` that the code omits: `a = 2 (f - 2)` and
      `b = 4589/900 + 13/200 (f - 13) + τ` are `Allowed` for `τ = 2^(f-23)` (`allowed_tail`: `6.75 ≤ 8` at `f = 23`; on the negative side
      `a + b ≤ 64` up to `f = 26`, `2 (a + b) ≤ 64 + 2^(f-20)` from `27` on), i.e. the clause holds whenever `Rm |X| f ≤ e^|X| / 2^23`
      (`TailOK`, `exp_real_tail`);
    * the region `|X| ≤ f / 4` lies inside (`TailOK.of_wide`): the tail is `≤ 2 X^f / f!`, `X^f ≤ (f/4)^f e^(X - f/4)` (from `s ≤ e^(s-1)`),
      `f! ≥ 12 (f/e)^f` (Stirling, `f ≥ 23`), so it is at most `(e^(3/4)/2)^f / 6 · e^X ≤ 1.05855^f / 6 · e^X ≤ 2^(f-23) e^X` ulp.
-/
namespace Sfx.ExpAccPf
open Finset Sfx.GridReal

theorem wt_le_of_Tm {X : ℝ} (hX : 0 < X) (n : ℕ) {c : ℝ} (hc : 0 ≤ c) (h : 1 ≤ c * Tm X n) : wt X n ≤ c * Real.exp X := by
  have h1 : wt X n * 1 ≤ wt X n * (c * Tm X n) := mul_le_mul_of_nonneg_left h (wt_nonneg hX n)
  have h2 : c * Rm X n ≤ c * Real.exp X := mul_le_mul_of_nonneg_left (Rm_le_exp hX.le n) hc
  rw [← wt_mul_Tm hX n] at h2
  linarith only [h1, h2]

theorem bern (n : ℕ) : 2 * ((n : ℝ) + 1) ^ (n + 1) ≤ ((n : ℝ) + 2) ^ (n + 1) := by
  have hn : (0 : ℝ) < (n : ℝ) + 1 := by positivity
  have ha : (-2 : ℝ) ≤ 1 / ((n : ℝ) + 1) := by
    have : (0 : ℝ) ≤ 1 / ((n : ℝ) + 1) := by positivity
    linarith only [this]
  have h := one_add_mul_le_pow ha (n + 1)
  have e1 : (1 : ℝ) + ((n + 1 : ℕ) : ℝ) * (1 / ((n : ℝ) + 1)) = 2 := by
    push_cast; field_simp; norm_num
  have e2 : (1 : ℝ) + 1 / ((n : ℝ) + 1) = ((n : ℝ) + 2) / ((n : ℝ) + 1) := by field_simp; ring
  rw [e1, e2, div_pow] at h
  rw [le_div_iff₀ (by positivity)] at h
  exact h

theorem fact_le_half_pow {c : ℝ} (hc : 0 ≤ c) {j0 : ℕ} (h0 : (j0.factorial : ℝ) * 2 ^ j0 ≤ c * ((j0 : ℝ) + 1) ^ j0) :
    ∀ j : ℕ, j0 ≤ j → (j.factorial : ℝ) * 2 ^ j ≤ c * ((j : ℝ) + 1) ^ j := by
  intro j hj
  induction j, hj using Nat.le_induction with
  | base => exact h0
  | succ n _ ih =>
    have hb := mul_le_mul_of_nonneg_left (bern n) hc
    have h1 := mul_le_mul_of_nonneg_left ih (show (0 : ℝ) ≤ 2 * ((n : ℝ) + 1) by positivity)
    rw [Nat.factorial_succ]
    push_cast
    calc ((n : ℝ) + 1) * (n.factorial : ℝ) * 2 ^ (n + 1) = 2 * ((n : ℝ) + 1) * ((n.factorial : ℝ) * 2 ^ n) := by ring
      _ ≤ 2 * ((n : ℝ) + 1) * (c * ((n : ℝ) + 1) ^ n) := h1
      _ = c * (2 * ((n : ℝ) + 1) ^ (n + 1)) := by ring
      _ ≤ c * ((n : ℝ) + 2) ^ (n + 1) := hb
      _ = c * ((n : ℝ) + 1 + 1) ^ (n + 1) := by ring

/-- every index: either `w_j ≤ 2`, or `X > (j+1)/2` and `X^j / j! ≥ ((j+1)/2)^j / j! ≥ 1 / c` -/
theorem wt_le_two_add {X : ℝ} (hX : 0 < X) (j : ℕ) {c : ℝ} (hc : 0 ≤ c)
    (h : (j.factorial : ℝ) * 2 ^ j ≤ c * ((j : ℝ) + 1) ^ j) : wt X j ≤ 2 + c * Real.exp X := by
  have hy : 0 ≤ c * Real.exp X := mul_nonneg hc (Real.exp_pos X).le
  by_cases hl : 2 * X ≤ (j : ℝ) + 1
  · linarith only [wt_late hX j hl, hy]
  · have h1 : ((j : ℝ) + 1) ^ j ≤ (2 * X) ^ j := pow_le_pow_left₀ (by positivity) (not_le.1 hl).le j
    have hfac : (0 : ℝ) < (j.factorial : ℝ) * 2 ^ j := by positivity
    have hT : 1 ≤ c * Tm X j := by
      have e : c * Tm X j = c * (2 * X) ^ j / ((j.factorial : ℝ) * 2 ^ j) := by
        unfold Tm; rw [mul_pow]; field_simp
      rw [e, one_le_div hfac]
      exact h.trans (mul_le_mul_of_nonneg_left h1 hc)
    linarith only [wt_le_of_Tm hX j hc hT]

theorem exp_nat_lower (n : ℕ) : (2.7182818283 : ℝ) ^ n ≤ Real.exp n := by
  rw [← mul_one (n : ℝ), Real.exp_nat_mul]
  exact pow_le_pow_left₀ (by norm_num) Real.exp_one_gt_d9.le n

/-- a block of `k` consecutive weights from index `j0` on; `g` is the way the indices are written where the sum was split -/
theorem wsum_block {X : ℝ} (hX : 0 < X) (g : ℕ → ℕ) (k j0 : ℕ) {c : ℝ} (hc : 0 ≤ c)
    (h0 : (j0.factorial : ℝ) * 2 ^ j0 ≤ c * ((j0 : ℝ) + 1) ^ j0) (hg : ∀ i, j0 ≤ g i) :
    ∑ i ∈ range k, wt X (g i) ≤ (k : ℝ) * (2 + c * Real.exp X) :=
  sum_le_const _ k _ fun i _ => wt_le_two_add hX _ hc (fact_le_half_pow hc h0 _ (hg i))

theorem wsum_all (f : ℕ) (hf : 23 ≤ f) {X : ℝ} (hX : 0 < X) :
    ∑ i ∈ range (f - 2), wt X (2 + i) ≤ 2 * ((f : ℝ) - 2) + (4589 / 900 + 13 / 200 * ((f : ℝ) - 13)) * Real.exp X := by
  obtain ⟨k, hk⟩ : ∃ k, f - 2 = 1 + 3 + 3 + 4 + k := ⟨f - 13, by omega⟩
  have hkr : (k : ℝ) = (f : ℝ) - 13 := by
    rw [show f = k + 13 by omega]; push_cast; ring
  rw [hk, Finset.sum_range_add, Finset.sum_range_add, Finset.sum_range_add, Finset.sum_range_add]
  have s0 := wsum_block hX (fun i => 2 + i) 1 2 (c := 8 / 9) (by norm_num) (by norm_num [Nat.factorial]) fun i => by omega
  have s1 := wsum_block hX (fun i => 2 + (1 + i)) 3 3 (c := 3 / 4) (by norm_num) (by norm_num [Nat.factorial]) fun i => by omega
  have s2 := wsum_block hX (fun i => 2 + (1 + 3 + i)) 3 6 (c := 2 / 5) (by norm_num) (by norm_num [Nat.factorial]) fun i => by omega
  have s3 := wsum_block hX (fun i => 2 + (1 + 3 + 3 + i)) 4 9 (c := 19 / 100) (by norm_num) (by norm_num [Nat.factorial])
    fun i => by omega
  have s4 := wsum_block hX (fun i => 2 + (1 + 3 + 3 + 4 + i)) k 13 (c := 13 / 200) (by norm_num) (by norm_num [Nat.factorial])
    fun i => by omega
  rw [hkr] at s4
  push_cast at s0 s1 s2 s3
  linarith only [s0, s1, s2, s3, s4]

/-- `X^f e^{-X}` is increasing up to `f` (from `s ≤ e^{s-1}`) -/
theorem pow_exp_trick (f : ℕ) (hf : 0 < f) {X : ℝ} (hX0 : 0 ≤ X) (h4 : 4 * X ≤ (f : ℝ)) :
    X ^ f ≤ ((f : ℝ) / 4) ^ f * (Real.exp X * Real.exp (-1 / 4) ^ f) := by
  have hfr : (0 : ℝ) < (f : ℝ) := Nat.cast_pos.2 hf
  have hs0 : 0 ≤ 4 * X / f := by positivity
  have h1 : 4 * X / f ≤ Real.exp (4 * X / f - 1) := by
    have := Real.add_one_le_exp (4 * X / f - 1); linarith only [this]
  have h2 : (4 * X / f) ^ f ≤ Real.exp (4 * X / f - 1) ^ f := pow_le_pow_left₀ hs0 h1 f
  have h3 : Real.exp (4 * X / f - 1) ^ f = Real.exp ((f : ℝ) * (4 * X / f - 1)) := by rw [Real.exp_nat_mul]
  have h4' : Real.exp ((f : ℝ) * (4 * X / f - 1)) ≤ Real.exp (X - (f : ℝ) / 4) := by
    apply Real.exp_le_exp.2
    have e : (f : ℝ) * (4 * X / f - 1) = 4 * X - f := by field_simp
    rw [e]; linarith only [h4]
  have h5 : Real.exp (X - (f : ℝ) / 4) = Real.exp X * Real.exp (-1 / 4) ^ f := by
    rw [← Real.exp_nat_mul, ← Real.exp_add]; congr 1; ring
  have hX : X = (f : ℝ) / 4 * (4 * X / f) := by field_simp
  have hq : (0 : ℝ) ≤ ((f : ℝ) / 4) ^ f := by positivity
  calc X ^ f = ((f : ℝ) / 4) ^ f * (4 * X / f) ^ f := by rw [← mul_pow, ← hX]
    _ ≤ ((f : ℝ) / 4) ^ f * (Real.exp X * Real.exp (-1 / 4) ^ f) :=
        mul_le_mul_of_nonneg_left (by rw [← h5]; exact le_trans h2 (by rw [h3]; exact h4')) hq

theorem q_le : Real.exp (3 / 4) / 2 ≤ 1.05855 := by
  have h2 : Real.exp 1 < (2.7182818286 : ℝ) := Real.exp_one_lt_d9
  have h3 : Real.exp (3 / 4) ^ 4 = Real.exp 1 ^ 3 := by
    rw [← Real.exp_nat_mul, ← Real.exp_nat_mul]; norm_num
  have h4 : Real.exp 1 ^ 3 < (2.7182818286 : ℝ) ^ 3 := pow_lt_pow_left₀ h2 (Real.exp_pos 1).le (by norm_num)
  have h5 : Real.exp (3 / 4) ^ 4 < (2.1171 : ℝ) ^ 4 := by
    rw [h3]; exact lt_trans h4 (by norm_num)
  have h6 : Real.exp (3 / 4) < 2.1171 := lt_of_pow_lt_pow_left₀ 4 (by norm_num) h5
  linarith only [h6]

/-- Stirling with `√(2πf) ≥ 12` for `f ≥ 23` -/
theorem stirling12 (f : ℕ) (hf : 23 ≤ f) : 12 * ((f : ℝ) / Real.exp 1) ^ f ≤ (f.factorial : ℝ) := by
  have h := Stirling.le_factorial_stirling f
  have hpi := Real.pi_gt_d2
  have hfr : (23 : ℝ) ≤ (f : ℝ) := Nat.ofNat_le_cast.2 hf
  have h12 : (12 : ℝ) ≤ √(2 * Real.pi * f) := by
    apply Real.le_sqrt_of_sq_le
    have := mul_le_mul hpi.le hfr (by norm_num) Real.pi_pos.le
    linarith only [this]
  have hp : (0 : ℝ) ≤ ((f : ℝ) / Real.exp 1) ^ f := by positivity
  calc 12 * ((f : ℝ) / Real.exp 1) ^ f ≤ √(2 * Real.pi * f) * ((f : ℝ) / Real.exp 1) ^ f := mul_le_mul_of_nonneg_right h12 hp
    _ ≤ (f.factorial : ℝ) := h

theorem tail_wide (f : ℕ) (hf : 23 ≤ f) {X : ℝ} (hX0 : 0 ≤ X) (h4 : 4 * X ≤ (f : ℝ)) :
    (2 : ℝ) ^ f * (Tm X f * 2) ≤ (1.05855 : ℝ) ^ f / 6 * Real.exp X := by
  have hy := Real.exp_pos X
  have hfr : (0 : ℝ) < (f : ℝ) := Nat.cast_pos.2 (by omega)
  have hfac : (0 : ℝ) < (f.factorial : ℝ) := by positivity
  have h1 := pow_exp_trick f (by omega) hX0 h4
  have h2 := stirling12 f hf
  have hq := q_le
  have hq0 : 0 ≤ Real.exp (3 / 4) / 2 := by positivity
  have hqf : (Real.exp (3 / 4) / 2) ^ f ≤ (1.05855 : ℝ) ^ f := pow_le_pow_left₀ hq0 hq f
  have hid : (2 : ℝ) ^ f * (((f : ℝ) / 4) ^ f * Real.exp (-1 / 4) ^ f) = ((f : ℝ) / Real.exp 1) ^ f * (Real.exp (3 / 4) / 2) ^ f := by
    rw [← mul_pow, ← mul_pow, ← mul_pow]
    congr 1
    have e1 : Real.exp (-1 / 4) = Real.exp (3 / 4) / Real.exp 1 := by
      rw [← Real.exp_sub]; congr 1; norm_num
    rw [e1]
    have := (Real.exp_pos 1).ne'
    field_simp
    ring
  unfold Tm
  rw [show (2 : ℝ) ^ f * (X ^ f / (f.factorial : ℝ) * 2) = (2 * (2 ^ f * X ^ f)) / (f.factorial : ℝ) by ring,
    div_le_iff₀ hfac]
  have h3 : (2 : ℝ) ^ f * X ^ f ≤ Real.exp X * (((f : ℝ) / Real.exp 1) ^ f * (Real.exp (3 / 4) / 2) ^ f) := by
    calc (2 : ℝ) ^ f * X ^ f ≤ 2 ^ f * (((f : ℝ) / 4) ^ f * (Real.exp X * Real.exp (-1 / 4) ^ f)) :=
          mul_le_mul_of_nonneg_left h1 (by positivity)
      _ = Real.exp X * (2 ^ f * (((f : ℝ) / 4) ^ f * Real.exp (-1 / 4) ^ f)) := by ring
      _ = _ := by rw [hid]
  have hS : (0 : ℝ) ≤ ((f : ℝ) / Real.exp 1) ^ f := by positivity
  have hA : (0 : ℝ) ≤ (1.05855 : ℝ) ^ f := by positivity
  -- combine: 2·(2^f X^f) ≤ 2 e^X S q^f ≤ 2 e^X S A^f, and A^f/6 e^X f! ≥ A^f/6 e^X 12 S
  have h4 : Real.exp X * (((f : ℝ) / Real.exp 1) ^ f * (Real.exp (3 / 4) / 2) ^ f) ≤
      Real.exp X * (((f : ℝ) / Real.exp 1) ^ f * (1.05855 : ℝ) ^ f) :=
    mul_le_mul_of_nonneg_left (mul_le_mul_of_nonneg_left hqf hS) hy.le
  have h5 : (1.05855 : ℝ) ^ f / 6 * Real.exp X * (12 * ((f : ℝ) / Real.exp 1) ^ f) ≤
      (1.05855 : ℝ) ^ f / 6 * Real.exp X * (f.factorial : ℝ) :=
    mul_le_mul_of_nonneg_left h2 (by positivity)
  linarith only [h3, h4, h5]

theorem growth : ∀ f : ℕ, 23 ≤ f → (1.05855 : ℝ) ^ f * 2 ^ 21 ≤ 2 ^ f ∧ (8 * ((f : ℝ) - 23) + 8) * 2 ^ 20 ≤ 2 ^ f := by
  intro f hf
  induction f, hf using Nat.le_induction with
  | base => constructor <;> norm_num
  | succ n hn ih =>
    obtain ⟨a, b⟩ := ih
    have hn' : (23 : ℝ) ≤ (n : ℝ) := Nat.ofNat_le_cast.2 hn
    have hA : (0 : ℝ) ≤ (1.05855 : ℝ) ^ n * 2 ^ 21 := by positivity
    rw [pow_succ (1.05855 : ℝ) n, pow_succ (2 : ℝ) n]
    push_cast
    exact ⟨by linarith only [a, hA], by linarith only [b, hn']⟩

/-- `n = f`, `G = 2^(f-20) ≥ 8 (f - 23) + 8`, the tail `G / 8 = 2^(f-23)` ulp per `e^X`; `G * 524288 = 2^f / 2` -/
theorem allowed_tail_num {n G a b : ℝ} (ha : a = 2 * (n - 2)) (hb : b = 4589 / 900 + 13 / 200 * (n - 13) + G / 8) (hn : 23 ≤ n)
    (h2 : 8 * (n - 23) + 8 ≤ G) (hc : n ≤ 26 ∨ 128 ≤ G) :
    0 ≤ a ∧ b ≤ G ∧ a + b ≤ 64 + G ∧ (a + b ≤ 64 ∨ (2 * (a + b) ≤ 64 + G ∧ a + b ≤ G * 524288)) := by
  subst ha hb
  refine ⟨by linarith only [hn], by linarith only [hn, h2], by linarith only [hn, h2], ?_⟩
  rcases hc with h26 | h128
  · by_cases h16 : G ≤ 64
    · exact Or.inl (by linarith only [h26, h16])
    · exact Or.inr ⟨by linarith only [hn, h26, h16], by linarith only [hn, h26, h16]⟩
  · exact Or.inr ⟨by linarith only [hn, h2, h128], by linarith only [hn, h2, h128]⟩

theorem allowed_tail (f : ℕ) (hf : 23 ≤ f) :
    Allowed f (2 * ((f : ℝ) - 2)) (4589 / 900 + 13 / 200 * ((f : ℝ) - 13) + 2 ^ f / 2 ^ 23) := by
  have h2 : 8 * ((f : ℝ) - 23) + 8 ≤ 2 ^ f / 2 ^ 20 := (le_div_iff₀ (by positivity)).2 (growth f hf).2
  have hc : (f : ℝ) ≤ 26 ∨ (128 : ℝ) ≤ 2 ^ f / 2 ^ 20 := by
    by_cases h26 : f ≤ 26
    · exact Or.inl (by exact_mod_cast h26)
    · refine Or.inr ?_
      rw [le_div_iff₀ (by positivity), show (128 : ℝ) * 2 ^ 20 = 2 ^ 27 by norm_num]
      exact pow_le_pow_right₀ (by norm_num) (by omega)
  obtain ⟨k1, k2, k3, k4⟩ := allowed_tail_num (G := 2 ^ f / 2 ^ 20)
    (b := 4589 / 900 + 13 / 200 * ((f : ℝ) - 13) + 2 ^ f / 2 ^ 23) rfl (by ring) (Nat.ofNat_le_cast.2 hf) h2 hc
  exact ⟨k1, k2, k3, k4.imp id fun ⟨p, q⟩ => ⟨p, q.trans (le_of_eq (by ring))⟩⟩

/-- the region where the exp clause is proved, at operand magnitude `T`: the tail of the series that the code omits is at most `2^-23 e^T`.
Known finding D10 is "the tail exceeds `2^-24 e^T`"; every operand outside D10 is inside this region (`of_24`), with a factor 2 to spare -/
def TailOK (f : ℕ) (T : ℝ) : Prop := Rm T f ≤ Real.exp T / 2 ^ 23

theorem TailOK.of_24 {f : ℕ} {T : ℝ} (h : Rm T f ≤ Real.exp T / 2 ^ 24) : TailOK f T :=
  h.trans (div_le_div_of_nonneg_left (Real.exp_pos _).le (by positivity) (by norm_num))

theorem TailOK.of_wide {f : ℕ} (hf : 23 ≤ f) {T : ℝ} (hT : 0 ≤ T) (h4 : 4 * T ≤ (f : ℝ)) : TailOK f T := by
  have hG : (0 : ℝ) < 2 ^ f := by positivity
  have hfr : (23 : ℝ) ≤ (f : ℝ) := Nat.ofNat_le_cast.2 hf
  have h1 := mul_le_mul_of_nonneg_left (Rm_le_two_Tm hT f (by linarith only [h4, hfr])) hG.le
  have h3 : (1.05855 : ℝ) ^ f / 6 ≤ 2 ^ f / 2 ^ 23 := by
    rw [le_div_iff₀ (by positivity)]
    linarith only [(growth f hf).1, (show (0 : ℝ) ≤ (1.05855 : ℝ) ^ f by positivity)]
  have h5 : 2 ^ f * Rm T f ≤ 2 ^ f * (Real.exp T / 2 ^ 23) := by
    rw [show (2 : ℝ) ^ f * (Real.exp T / 2 ^ 23) = 2 ^ f / 2 ^ 23 * Real.exp T by ring]
    exact h1.trans ((tail_wide f hf hT h4).trans (mul_le_mul_of_nonneg_right h3 (Real.exp_pos T).le))
  exact le_of_mul_le_mul_left h5 hG

theorem TailOK.of_le_four {f : ℕ} (hf : 23 ≤ f) {T : ℝ} (hT : 0 ≤ T) (h : T ≤ 4) : TailOK f T :=
  .of_wide hf hT (by have : (23 : ℝ) ≤ (f : ℝ) := Nat.ofNat_le_cast.2 hf
                     linarith only [h, this])

theorem exp_real_tail (f : ℕ) (hf : 23 ≤ f) (x r : Int) (htail : TailOK f |(x : ℝ) / 2 ^ f|) (h : ExpSpec f x r) :
    ExpClause f x r := by
  refine exp_real_of_delta f hf x r (allowed_tail f hf) (fun hy => ?_) h
  have hG : (0 : ℝ) < 2 ^ f := by positivity
  unfold TailOK at htail
  rw [abs_val] at htail
  have hX : 0 < ((|x| : Int) : ℝ) / 2 ^ f := div_pos (Int.cast_pos.2 hy) hG
  have ht : (2 : ℝ) ^ f * Rm (((|x| : Int) : ℝ) / 2 ^ f) f ≤ 2 ^ f / 2 ^ 23 * Real.exp (((|x| : Int) : ℝ) / 2 ^ f) := by
    have := mul_le_mul_of_nonneg_left htail hG.le
    rwa [← mul_div_assoc, mul_div_right_comm] at this
  obtain ⟨d0, d1⟩ := delta_le f (by omega) |x| hy (wsum_all f hf hX) ht
  exact ⟨d0, d1.trans (le_of_eq (by ring))⟩

theorem tail_hyp_iff (X : ℝ) (n : ℕ) :
    Rm X n ≤ Real.exp X / 2 ^ 24 ↔ Real.exp X * (1 - 1 / 2 ^ 24) ≤ Sm X n := by
  unfold Rm
  constructor <;> intro h <;> linarith only [h]

theorem Rm_hasSum (X : ℝ) (n : ℕ) : HasSum (fun i : ℕ => X ^ (i + n) / ((i + n).factorial : ℝ)) (Rm X n) := by
  have h : HasSum (fun i : ℕ => X ^ i / (i.factorial : ℝ)) (Real.exp X) := by
    have := NormedSpace.expSeries_div_hasSum_exp (𝔸 := ℝ) X
    rwa [← Real.exp_eq_exp_ℝ] at this
  have := (hasSum_nat_add_iff' n).2 h
  exact this

/-! ### non-vacuity: `f = 32`, `9 ≤ X ≤ 9.32` lies beyond `|X| ≤ f / 4` (`4 · 9 > 32`, tail `≤ 2 · 9.32^32 / 32! ≈ 8e-5 ≤ e^9 / 2^24 ≈ 4.8e-4`) -/

theorem tail32 {X : ℝ} (h1 : 9 ≤ X) (h2 : X ≤ 233 / 25) : Rm X 32 ≤ Real.exp X / 2 ^ 24 := by
  have hX : 0 ≤ X := le_trans (by norm_num) h1
  have h3 : (8000 : ℝ) ≤ Real.exp X :=
    le_trans (le_trans (by norm_num) (exp_nat_lower 9)) (Real.exp_le_exp.2 (by exact_mod_cast h1))
  have h5 := Rm_le_two_Tm hX 32 (by norm_num; linarith only [h2])
  have h6 : Tm X 32 * 2 ≤ 8000 / 2 ^ 24 := by
    have : Tm X 32 ≤ Tm (233 / 25) 32 := div_le_div_of_nonneg_right (pow_le_pow_left₀ hX h2 32) (by positivity)
    refine le_trans (mul_le_mul_of_nonneg_right this (by norm_num)) ?_
    unfold Tm
    norm_num [Nat.factorial]
  have h7 : (8000 : ℝ) / 2 ^ 24 ≤ Real.exp X / 2 ^ 24 := div_le_div_of_nonneg_right h3 (by positivity)
  linarith only [h5, h6, h7]

end Sfx.ExpAccPf
