import Mathlib.Tactic.Ring
import Mathlib.Tactic.Linarith
/-
  ExpArith.lean — the pure integer step behind the error bound of `transcendental::powi` (repeated truncated products).
  Statements use products only (no `^`), so the file can be used from files whose statements are elaborated with core's `Int.pow`.
-/
namespace Sfx.ExpPf

theorem mul_abs_le (x E M T : Int) (h1 : x ≤ M) (h2 : -M ≤ x) (h3 : E ≤ T) (h4 : -T ≤ E) :
    x * E ≤ M * T ∧ -(M * T) ≤ x * E := by
  have hx : (0 : Int) ≤ M + x := by linarith only [h2]
  have hE : (0 : Int) ≤ T + E := by linarith only [h4]
  have a := mul_nonneg (sub_nonneg.2 h1) hE
  have b := mul_nonneg hx (sub_nonneg.2 h3)
  have c := mul_nonneg (sub_nonneg.2 h1) (sub_nonneg.2 h3)
  have d := mul_nonneg hx hE
  exact ⟨by linarith only [a, b], by linarith only [c, d]⟩

/-- one truncated product `r' = ⌊r * x / F⌋` (`0 ≤ r * x - r' * F < F`): the scaled error `r * A - P` (with `A = F ^ k`,
`P = x ^ (k + 1)`, bound `k * B`, `B = M ^ k`) becomes `x * (r * A - P) - δ * A`, bounded by `(k + 1) * (B * M)` -/
theorem powi_step (x r r' F M A B P k : Int) (hF : 0 < F) (hFM : F ≤ M) (hxM1 : x ≤ M) (hxM2 : -M ≤ x)
    (hA : 0 ≤ A) (hAB : A ≤ B) (hd0 : 0 ≤ r * x - r' * F) (hd1 : r * x - r' * F < F)
    (h1 : -(k * B) ≤ r * A - P) (h2 : r * A - P ≤ k * B) :
    -((k + 1) * (B * M)) ≤ r' * (A * F) - P * x ∧ r' * (A * F) - P * x ≤ (k + 1) * (B * M) := by
  have e : r' * (A * F) - P * x = x * (r * A - P) - (r * x - r' * F) * A := by ring
  obtain ⟨b1, b2⟩ := mul_abs_le x (r * A - P) M (k * B) hxM1 hxM2 h2 h1
  have c0 : 0 ≤ (r * x - r' * F) * A := mul_nonneg hd0 hA
  have c1 : (r * x - r' * F) * A ≤ F * A := mul_le_mul_of_nonneg_right (le_of_lt hd1) hA
  have hM : 0 ≤ M := hF.le.trans hFM
  have c2 : F * A ≤ M * B := mul_le_mul hFM hAB hA hM
  have hBM : 0 ≤ B * M := mul_nonneg (le_trans hA hAB) hM
  rw [e]
  exact ⟨by linarith only [b2, c1, c2], by linarith only [b1, c0, hBM]⟩

end Sfx.ExpPf
