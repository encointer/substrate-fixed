import SfxModel.ExtBits
import SfxProofs.Rem
import SfxProofs.Convert
import SfxModel.Wrapping
/-
  ExtBits.lean — extension `Bits`: the model functions of `SfxModel/ExtBits.lean` part 1 (written after the Rust source and
  `core::num`) against the specification of part 2 (bit patterns, structural recursion over bit positions), one lemma per primitive
  or recursion, for every layout and all operands.  The bits of a pattern are reached from the naturals through `testBit_ofBits`
  and from the integers through `testBit_toU`.  The rows of the driver are stated in three places: shifts, counts, `signum` and
  the powers of two in `SfxProps/C11Bits.lean`, from these lemmas; the rows that hold by definition (`isPositive_spec` …
  `maxValue_spec`, collected in `rows_const`) and the deprecated remainder forms (`rows_rem`, through the `%` of C07) at the end
  of this file.
-/
namespace Sfx.ExtBitsPf
open Sfx.Layout Sfx.BitSpec

theorem ofBits_lt (g : Nat → Bool) (m : Nat) : ofBits g m < 2 ^ m := by
  induction m with
  | zero => simp [ofBits]
  | succ m ih =>
    have : 2 ^ (m + 1) = 2 ^ m + 2 ^ m := by rw [Nat.pow_succ]; omega
    unfold ofBits
    split <;> omega

theorem testBit_ofBits (g : Nat → Bool) (m i : Nat) : (ofBits g m).testBit i = (decide (i < m) && g i) := by
  induction m with
  | zero => simp [ofBits]
  | succ m ih =>
    have e : ofBits g (m + 1) = 2 ^ m * (g m).toNat + ofBits g m := by
      rw [ofBits, Nat.add_comm]; cases g m <;> simp
    rw [e, Nat.testBit_two_pow_mul_add _ (ofBits_lt g m), ih]
    by_cases h : i < m
    · simp [h, Nat.lt_succ_of_lt h]
    · by_cases h' : i = m
      · subst h'; cases g i <;> simp
      · have h1 : ¬ i < m + 1 := by omega
        have h2 : Nat.testBit 1 (i - m) = false := Nat.testBit_lt_two_pow (Nat.one_lt_two_pow (by omega))
        cases g m <;> simp [h, h1, h2]

theorem ofBits_testBit {u m : Nat} (h : u < 2 ^ m) : ofBits (fun i => u.testBit i) m = u := by
  apply Nat.eq_of_testBit_eq
  intro i
  rw [testBit_ofBits]
  by_cases hi : i < m
  · simp [hi]
  · simp [hi, testBit_of_lt_le h (Nat.le_of_not_lt hi)]

theorem decode_in {s : Bool} {n u : Nat} (hn : 0 < n) (hu : u < 2 ^ n) : inI s n (decode s n u) := by
  have hp := pow_split hn
  have hP := two_pow_pos (n - 1)
  have hc := natCast_two_pow n
  have hc1 := natCast_two_pow (n - 1)
  unfold decode
  cases s
  · rw [inU_iff]; simp; omega
  · rw [inS_iff]
    by_cases h : 2 ^ (n - 1) ≤ u
    · simp [h]; omega
    · simp [h]; omega

theorem decode_congr (s : Bool) (n u : Nat) : ∃ k : Int, decode s n u = (u : Int) + k * 2 ^ n := by
  unfold decode
  split
  · exact ⟨-1, by omega⟩
  · exact ⟨0, by omega⟩

theorem decode_eq_wrapI {s : Bool} {n u : Nat} (hn : 0 < n) (hu : u < 2 ^ n) : decode s n u = wrapI s n (u : Int) := by
  obtain ⟨k, hk⟩ := decode_congr s n u
  rw [← wrapI_of_in hn (decode_in (s := s) hn hu)]
  exact wrapI_congr s n k hk

theorem decode_toU {s : Bool} {n : Nat} (hn : 0 < n) {x : Int} (hx : inI s n x) : decode s n (toU n x) = x := by
  rw [decode_eq_wrapI hn (toU_lt n x)]
  have := wrapI_toU s n x
  rw [show (Int.ofNat (toU n x)) = ((toU n x : Nat) : Int) from rfl] at this
  rw [this, wrapI_of_in hn hx]

/-- bit `i` of an integer in two's complement of any width `> i`: the parity of `⌊x / 2^i⌋`, for either sign -/
def ibit (x : Int) (i : Nat) : Bool := decide (x / 2 ^ i % 2 = 1)

theorem ediv_emod_two_of_emod (y : Int) {n i : Nat} (hi : i < n) : y % 2 ^ n / 2 ^ i % 2 = y / 2 ^ i % 2 := by
  obtain ⟨m, rfl⟩ : ∃ m, n = i + (m + 1) := ⟨n - i - 1, by omega⟩
  -- `y % 2^n = y + 2^i · (2 · c)`: dividing by `2^i` changes the quotient by an even number
  have e : y % 2 ^ (i + (m + 1)) = y + 2 ^ i * (2 * (2 ^ m * -(y / 2 ^ (i + (m + 1))))) := by
    rw [Int.emod_def, pow_add' i, Int.pow_succ, Int.mul_comm (2 ^ m) 2, Int.mul_neg, Int.mul_neg, Int.mul_neg, Int.sub_eq_add_neg,
      Int.mul_assoc, Int.mul_assoc]
  rw [e, Int.add_mul_ediv_left _ _ (Int.ne_of_gt (two_pow_pos i)), Int.add_mul_emod_self_left]

theorem testBit_toU (n : Nat) (x : Int) (i : Nat) : (toU n x).testBit i = (decide (i < n) && ibit x i) := by
  unfold toU ibit
  by_cases hi : i < n
  · have h0 := Int.emod_nonneg x (Int.ne_of_gt (two_pow_pos n))
    rw [Nat.testBit_eq_decide_div_mod_eq, decide_eq_true hi, Bool.true_and, ← ediv_emod_two_of_emod x hi]
    apply decide_eq_decide.2
    generalize x % 2 ^ n = z at h0
    obtain ⟨m, rfl⟩ := Int.eq_ofNat_of_zero_le h0
    rw [Int.toNat_natCast, ← natCast_two_pow, ← Int.natCast_ediv]
    omega
  · rw [decide_eq_false hi, Bool.false_and]
    exact testBit_of_lt_le (toU_lt n x) (Nat.le_of_not_lt hi)

theorem ibit_shr (x : Int) (k i : Nat) : ibit (x / 2 ^ k) i = ibit x (i + k) := by
  unfold ibit
  rw [Int.ediv_ediv_of_nonneg (Int.le_of_lt (two_pow_pos k)), ← pow_add', Nat.add_comm]

theorem ibit_sign {s : Bool} {n : Nat} (hn : 0 < n) {x : Int} (hx : inI s n x) {i : Nat} (hi : n ≤ i) :
    ibit x i = (s && decide (x < 0)) := by
  unfold ibit
  rw [ediv_of_in (Nat.lt_of_lt_of_le hn hi) (inI_mono hi hx)]
  cases s
  · rw [if_neg (Int.not_lt.2 (unsigned_nonneg hx))]; rfl
  · by_cases h : x < 0 <;> simp [h]

/-- `!x = -x - 1` flips every bit -/
theorem ibit_not (x : Int) (i : Nat) : ibit (-x - 1) i = !ibit x i := by
  have hP := two_pow_pos i
  obtain ⟨h1, h2, h3⟩ := euclid x hP
  have e : (-x - 1) / 2 ^ i = -(x / 2 ^ i) - 1 := by
    have : -x - 1 = (2 ^ i - 1 - x % 2 ^ i) + (-(x / 2 ^ i) - 1) * 2 ^ i := by
      rw [Int.sub_mul, Int.neg_mul, Int.one_mul]; omega
    rw [this, Int.add_mul_ediv_right _ _ (Int.ne_of_gt hP), Int.ediv_eq_zero_of_lt (by omega) (by omega)]
    omega
  unfold ibit
  rw [e]
  by_cases h : x / 2 ^ i % 2 = 1
  · rw [decide_eq_true h, decide_eq_false (by omega)]; rfl
  · rw [decide_eq_false h, decide_eq_true (by omega)]; rfl

theorem shl_core (n u k : Nat) : (u * 2 ^ k) % 2 ^ n = shlBits n u k := by
  apply Nat.eq_of_testBit_eq
  intro i
  unfold shlBits
  rw [testBit_ofBits, Nat.testBit_mod_two_pow, Nat.testBit_mul_two_pow]

theorem shlI_eq_spec (s : Bool) {n : Nat} (hn : 0 < n) (x : Int) (k : Nat) : shlI s n x k = BitSpec.shl s n x k := by
  unfold shlI BitSpec.shl
  have hlt : shlBits n (toU n x) k < 2 ^ n := ofBits_lt _ _
  rw [decode_eq_wrapI hn hlt, ← shl_core, Int.natCast_emod, natCast_two_pow, wrapI_emod_self, Int.natCast_mul,
    natCast_two_pow]
  exact (wrapI_mul_left s false n x (2 ^ k)).symm.trans (by rw [toU_emod]; rfl)

theorem shrI_eq_spec {s : Bool} {n : Nat} (hn : 0 < n) {x : Int} (hx : inI s n x) (k : Nat) :
    shrI x k = BitSpec.shr s n x k := by
  unfold shrI BitSpec.shr
  suffices h : shrBits n (toU n x) k (s && decide (x < 0)) = toU n (x / 2 ^ k) by
    rw [h, decode_toU hn (shr_in k hx)]
  apply Nat.eq_of_testBit_eq
  intro i
  unfold shrBits
  rw [testBit_ofBits, testBit_toU n (x / 2 ^ k), ibit_shr]
  by_cases hik : i + k < n
  · rw [if_pos hik, testBit_toU, decide_eq_true hik, Bool.true_and]
  · rw [if_neg hik, ibit_sign hn hx (Nat.le_of_not_lt hik)]

theorem amount_flag (n : Nat) (m : Int) :
    (decide (m < 0) || decide ((n : Int) ≤ m)) = !decide (0 ≤ m ∧ m < (n : Int)) := by
  by_cases h1 : m < 0 <;> by_cases h2 : (n : Int) ≤ m <;> simp [h1, h2] <;> omega

theorem shlAny_flag (L : Layout) (x m : Int) :
    L.shlAny x m = .ok (shlI L.signed L.n x (m % (L.n : Int)).toNat) (!decide (0 ≤ m ∧ m < (L.n : Int))) := by
  unfold shlAny; rw [amount_flag]

theorem shrAny_flag (L : Layout) (x m : Int) :
    L.shrAny x m = .ok (shrI x (m % (L.n : Int)).toNat) (!decide (0 ≤ m ∧ m < (L.n : Int))) := by
  unfold shrAny; rw [amount_flag]

theorem natCast_emod_toNat (k n : Nat) : ((k : Int) % (n : Int)).toNat = k % n := by
  rw [← Int.natCast_emod, Int.toNat_natCast]

theorem amount_flag_nat (n k : Nat) : (decide ((k : Int) < 0) || decide ((n : Int) ≤ (k : Int))) = decide (n ≤ k) := by
  by_cases h : n ≤ k <;> simp [h] <;> omega

theorem shlU32Op_eq (L : Layout) (a : Int) (k : Nat) : L.shlU32Op a k = L.shlAny a (k : Int) := by
  unfold shlU32Op ushl shlAny
  rw [natCast_emod_toNat, amount_flag_nat]

theorem shrU32Op_eq (L : Layout) (a : Int) (k : Nat) : L.shrU32Op a k = L.shrAny a (k : Int) := by
  unfold shrU32Op ushr shrAny
  rw [natCast_emod_toNat, amount_flag_nat]

/-- `<<` agrees with the `Wrapping<F>` model's operator (`ushl` of `Prim.lean`) -/
theorem shlAny_eq_ushl (L : Layout) (a m : Int) (h0 : 0 ≤ m) : L.shlAny a m = ushl L.signed L.n a m.toNat := by
  rw [← Int.toNat_of_nonneg h0, Int.toNat_natCast]
  exact (shlU32Op_eq L a m.toNat).symm

theorem some_lt_eq_le {α : Type} (k n : Nat) (v : α) : (if k < n then some v else none) = if n ≤ k then none else some v := by
  by_cases h : k < n
  · rw [if_pos h, if_neg (by omega)]
  · rw [if_neg h, if_pos (by omega)]

/-- the arithmetic of `rotl` of `Prim.lean` (`(u·2^r) mod 2^n + u / 2^(n-r)`) moves bit `(i + (n - r)) mod n` to position `i` -/
theorem rotl_core {n u r : Nat} (hr : r ≤ n) (hu : u < 2 ^ n) :
    (u * 2 ^ r) % 2 ^ n + u / 2 ^ (n - r) = rotlBits n u r := by
  have hpow : 2 ^ n = 2 ^ (n - r) * 2 ^ r := (Nat.pow_sub_mul_pow 2 hr).symm
  have hlow : u / 2 ^ (n - r) < 2 ^ r := Nat.div_lt_of_lt_mul (by rw [← hpow]; exact hu)
  have e1 : (u * 2 ^ r) % 2 ^ n = (u % 2 ^ (n - r)) <<< r := by
    rw [Nat.shiftLeft_eq, hpow, Nat.mul_mod_mul_right]
  rw [e1, Nat.shiftLeft_add_eq_or_of_lt hlow]
  apply Nat.eq_of_testBit_eq
  intro i
  unfold rotlBits
  rw [testBit_ofBits, Nat.testBit_or, Nat.testBit_shiftLeft, Nat.testBit_mod_two_pow, Nat.testBit_div_two_pow]
  by_cases hi : i < n
  · by_cases hir : i < r
    · have h1 : ¬ i ≥ r := by omega
      have h2 : (i + (n - r)) % n = i + (n - r) := Nat.mod_eq_of_lt (by omega)
      simp [hi, h1, h2]
    · have h1 : i ≥ r := by omega
      have h2 : (i + (n - r)) % n = i - r := by
        have : i + (n - r) = (i - r) + n := by omega
        rw [this, Nat.add_mod_right, Nat.mod_eq_of_lt (by omega)]
      have h3 : i - r < n - r := by omega
      have h4 : u.testBit (i + (n - r)) = false := testBit_of_lt_le hu (by omega)
      simp [hi, h1, h2, h3, h4]
  · have h3 : ¬ i - r < n - r := by omega
    have h4 : u.testBit (i + (n - r)) = false := testBit_of_lt_le hu (by omega)
    simp [hi, h3, h4]

theorem rotlBits_full (n u : Nat) : rotlBits n u n = rotlBits n u 0 := by
  unfold rotlBits
  apply Nat.eq_of_testBit_eq
  intro i
  rw [testBit_ofBits, testBit_ofBits]
  by_cases hi : i < n
  · simp [hi]
  · simp [hi]

theorem rotl_eq_spec (s : Bool) {n : Nat} (hn : 0 < n) (x : Int) (k : Nat) : Sfx.rotl s n x k = BitSpec.rotl s n x k := by
  unfold Sfx.rotl BitSpec.rotl
  have hr : k % n < n := Nat.mod_lt _ hn
  simp only []
  rw [rotl_core (Nat.le_of_lt hr) (toU_lt n x)]
  exact (decode_eq_wrapI hn (ofBits_lt _ _)).symm

theorem rotr_eq_spec (s : Bool) {n : Nat} (hn : 0 < n) (x : Int) (k : Nat) : Sfx.rotr s n x k = BitSpec.rotr s n x k := by
  unfold Sfx.rotr
  rw [rotl_eq_spec s hn]
  unfold BitSpec.rotl BitSpec.rotr
  have hr : k % n < n := Nat.mod_lt _ hn
  by_cases h0 : k % n = 0
  · rw [h0, Nat.sub_zero, Nat.mod_self, rotlBits_full]
  · rw [Nat.mod_eq_of_lt (by omega)]

theorem testBit_rotlBits (n u r i : Nat) : (rotlBits n u r).testBit i = (decide (i < n) && u.testBit ((i + (n - r)) % n)) := by
  unfold rotlBits; rw [testBit_ofBits]

theorem popcount_zero (m : Nat) : popcount 0 m = 0 := by
  induction m with
  | zero => rfl
  | succ m ih => simp [popcount, ih]

theorem popcount_succ_low (u m : Nat) :
    popcount u (m + 1) = (if u.testBit 0 then 1 else 0) + popcount (u / 2) m := by
  induction m with
  | zero => simp [popcount]
  | succ m ih =>
    rw [popcount, ih, popcount, Nat.testBit_succ]
    omega

theorem countOnesNat_eq (fuel u : Nat) : countOnesNat fuel u = popcount u fuel := by
  induction fuel generalizing u with
  | zero => rfl
  | succ f ih =>
    unfold countOnesNat
    by_cases h0 : u = 0
    · subst h0; simp [popcount_zero]
    · rw [if_neg h0, popcount_succ_low, ih, Nat.testBit_zero]
      have := Nat.mod_two_eq_zero_or_one u
      by_cases h1 : u % 2 = 1
      · simp [h1]
      · have : u % 2 = 0 := by omega
        simp [this]

theorem popcount_congr {a b : Nat} (m : Nat) (h : ∀ i, i < m → a.testBit i = b.testBit i) : popcount a m = popcount b m := by
  induction m with
  | zero => rfl
  | succ m ih => rw [popcount, popcount, ih (fun i hi => h i (Nat.lt_succ_of_lt hi)), h m (Nat.lt_succ_self m)]

theorem popcount_congr_not {a b : Nat} (m : Nat) (h : ∀ i, i < m → a.testBit i = !b.testBit i) :
    popcount a m = zerocount b m := by
  induction m with
  | zero => rfl
  | succ m ih =>
    rw [popcount, zerocount, ih (fun i hi => h i (Nat.lt_succ_of_lt hi)), h m (Nat.lt_succ_self m)]
    cases b.testBit m <;> simp

theorem popcount_add_zerocount (u m : Nat) : popcount u m + zerocount u m = m := by
  induction m with
  | zero => rfl
  | succ m ih => rw [popcount, zerocount]; cases u.testBit m <;> simp <;> omega

theorem countOnes_eq_spec (n : Nat) (x : Int) : countOnes n x = popcount (toU n x) n := countOnesNat_eq _ _

/-- `count_zeros` is `(!self).count_ones()` -/
theorem countOnes_not (s : Bool) (n : Nat) (x : Int) : countOnes n (notI s n x) = zerocount (toU n x) n := by
  unfold notI
  rw [countOnes_eq_spec, toU_wrapI]
  exact popcount_congr_not n fun i hi => by rw [testBit_toU, testBit_toU, ibit_not, decide_eq_true hi]; rfl

theorem testBit_top {u m : Nat} (h : u < 2 ^ (m + 1)) : u.testBit m = decide (2 ^ m ≤ u) := by
  by_cases h1 : 2 ^ m ≤ u
  · have hp : 2 ^ (m + 1) = 2 ^ m + 2 ^ m := by rw [Nat.pow_succ]; omega
    have e : u = 2 ^ m + (u - 2 ^ m) := by omega
    rw [e, Nat.testBit_two_pow_add_eq, Nat.testBit_lt_two_pow (by omega)]
    simp
  · rw [Nat.testBit_lt_two_pow (by omega)]; simp [h1]

theorem leadingZeros_eq {u : Nat} (m : Nat) (h : u < 2 ^ m) : m - bitLen u = BitSpec.leadingZeros u m := by
  induction m with
  | zero =>
    have : u = 0 := by simpa using h
    subst this; simp [bitLen, BitSpec.leadingZeros]
  | succ m ih =>
    rw [BitSpec.leadingZeros, testBit_top h]
    by_cases h1 : 2 ^ m ≤ u
    · have := bitLen_le_iff.2 h
      have := mt bitLen_le_iff.1 (Nat.not_lt.2 h1)
      simp [h1, show bitLen u = m + 1 by omega]
    · have hlt : u < 2 ^ m := by omega
      have := bitLen_le_iff.2 hlt
      simp only [h1, decide_false, Bool.false_eq_true, if_false, ← ih hlt]
      omega

theorem leadingZeros_eq_spec (n : Nat) (x : Int) : Sfx.leadingZeros n x = BitSpec.leadingZeros (toU n x) n :=
  leadingZeros_eq n (toU_lt n x)

theorem zeroRunUp_succ (u i fuel : Nat) : zeroRunUp u (i + 1) fuel = zeroRunUp (u / 2) i fuel := by
  induction fuel generalizing i with
  | zero => rfl
  | succ f ih => rw [zeroRunUp, zeroRunUp, Nat.testBit_succ, ih]

theorem trailingZerosNat_eq (fuel u : Nat) : trailingZerosNat fuel u = zeroRunUp u 0 fuel := by
  induction fuel generalizing u with
  | zero => rfl
  | succ f ih =>
    rw [trailingZerosNat, zeroRunUp, zeroRunUp_succ, ih, Nat.testBit_zero]
    by_cases h1 : u % 2 = 1 <;> simp [h1]

theorem zeroRunUp_zero (i fuel : Nat) : zeroRunUp 0 i fuel = fuel := by
  induction fuel generalizing i with
  | zero => rfl
  | succ f ih => rw [zeroRunUp, Nat.zero_testBit, ih]; simp; omega

theorem trailingZeros_eq_spec (n : Nat) (x : Int) : Sfx.trailingZeros n x = BitSpec.trailingZeros n (toU n x) := by
  unfold Sfx.trailingZeros BitSpec.trailingZeros
  split
  · next h => rw [h, zeroRunUp_zero]
  · exact trailingZerosNat_eq _ _

theorem popcount_eq_zero {u : Nat} (m : Nat) (h : u < 2 ^ m) (h0 : popcount u m = 0) : u = 0 := by
  induction m with
  | zero => simpa using h
  | succ m ih =>
    rw [popcount, testBit_top h] at h0
    by_cases h1 : 2 ^ m ≤ u
    · simp [h1] at h0
    · exact ih (by omega) (by simpa [h1] using h0)

theorem popcount_two_pow {k m : Nat} (hk : k < m) : popcount (2 ^ k) m = 1 := by
  induction m with
  | zero => omega
  | succ m ih =>
    rw [popcount, Nat.testBit_two_pow]
    by_cases h : k = m
    · subst h
      have : popcount (2 ^ k) k = popcount 0 k :=
        popcount_congr k (fun i hi => by rw [Nat.testBit_two_pow, Nat.zero_testBit]; simp; omega)
      rw [this, popcount_zero]; simp
    · rw [ih (by omega)]; simp [h]

theorem popcount_eq_one_iff {u : Nat} (m : Nat) (h : u < 2 ^ m) : popcount u m = 1 ↔ ∃ k, k < m ∧ u = 2 ^ k := by
  constructor
  · intro h1
    induction m with
    | zero => simp [popcount] at h1
    | succ m ih =>
      rw [popcount, testBit_top h] at h1
      by_cases h2 : 2 ^ m ≤ u
      · have hp : 2 ^ (m + 1) = 2 ^ m + 2 ^ m := by rw [Nat.pow_succ]; omega
        have e : u = 2 ^ m + (u - 2 ^ m) := by omega
        have hv : u - 2 ^ m < 2 ^ m := by omega
        have hc : popcount u m = popcount (u - 2 ^ m) m :=
          popcount_congr m (fun i hi => by rw [e, Nat.testBit_two_pow_add_gt hi, ← e])
        have hz : popcount (u - 2 ^ m) m = 0 := by simp [h2] at h1; omega
        have := popcount_eq_zero m hv hz
        exact ⟨m, Nat.lt_succ_self m, by omega⟩
      · obtain ⟨k, hk, e⟩ := ih (by omega) (by simpa [h2] using h1)
        exact ⟨k, Nat.lt_succ_of_lt hk, e⟩
  · rintro ⟨k, hk, rfl⟩
    exact popcount_two_pow hk

theorem isPow2_iff (n u : Nat) : isPow2 n u = true ↔ ∃ k, k < n ∧ u = 2 ^ k := by
  unfold isPow2
  rw [List.any_eq_true]
  constructor
  · rintro ⟨k, hk, e⟩; exact ⟨k, List.mem_range.1 hk, by simpa using e⟩
  · rintro ⟨k, hk, e⟩; exact ⟨k, List.mem_range.2 hk, by simpa using e⟩

theorem countOnes_eq_one (n : Nat) (x : Int) : (countOnes n x == 1) = isPow2 n (toU n x) := by
  rw [countOnes_eq_spec, Bool.eq_iff_iff, beq_iff_eq, popcount_eq_one_iff n (toU_lt n x), isPow2_iff]

theorem leastPow2From_eq {u b : Nat} (hb : u ≤ 2 ^ b) (fuel k : Nat) (hmin : ∀ j, k ≤ j → j < b → 2 ^ j < u)
    (hk : k ≤ b) (hf : b ≤ k + fuel) : leastPow2From u k fuel = 2 ^ b := by
  induction fuel generalizing k with
  | zero =>
    have : k = b := by omega
    subst this; rfl
  | succ f ih =>
    rw [leastPow2From]
    by_cases h : u ≤ 2 ^ k
    · rw [if_pos h]
      by_cases hkb : k = b
      · rw [hkb]
      · have := hmin k (Nat.le_refl k) (by omega); omega
    · rw [if_neg h]
      have hkb : k ≠ b := fun e => h (e ▸ hb)
      exact ih (k + 1) (fun j hj hjb => hmin j (by omega) hjb) (by omega) (by omega)

theorem leastPow2_eq {n u : Nat} (hu : u ≤ 2 ^ n) : leastPow2 n u = 2 ^ bitLen (u - 1) := by
  have hP := Nat.two_pow_pos n
  have hb : u - 1 < 2 ^ bitLen (u - 1) := bitLen_le_iff.1 (Nat.le_refl _)
  apply leastPow2From_eq (by omega) n 0 ?_ (Nat.zero_le _) (by rw [Nat.zero_add]; exact bitLen_le_iff.2 (by omega))
  intro j _ hj
  apply Classical.byContradiction
  intro hc
  have hPj := Nat.two_pow_pos j
  have := bitLen_le_iff.2 (show u - 1 < 2 ^ j by omega)
  omega

theorem ones_shr {n b : Nat} (hb : b ≤ n) : shrI (maxI false n) (n - b) = 2 ^ b - 1 := by
  unfold shrI maxI
  simp only [Bool.false_eq_true, if_false]
  have hP := two_pow_pos (n - b)
  have e : (2 : Int) ^ n = 2 ^ b * 2 ^ (n - b) := by
    rw [← pow_add']; congr 1; omega
  have : (2 : Int) ^ n - 1 = (2 ^ (n - b) - 1) + (2 ^ b - 1) * 2 ^ (n - b) := by
    rw [Int.sub_mul, ← e]; omega
  rw [this, Int.add_mul_ediv_right _ _ (Int.ne_of_gt hP), Int.ediv_eq_zero_of_lt (by omega) (by omega)]
  omega

/-- the least power of two `≥ x` (1 for `x ≤ 1`), in the closed form of `core::num`: `one_less_than_next_power_of_two + 1`,
`Wrapping`'s `next_power_of_two` and the specification's upward search `leastPow2` all compute it -/
def npow (x : Int) : Nat := 2 ^ bitLen (x.toNat - 1)

theorem oneLess_succ {n : Nat} {x : Int} (hx : inI false n x) : oneLessThanNextPow2 n x + 1 = (npow x : Nat) := by
  rw [inU_iff] at hx
  unfold oneLessThanNextPow2 npow
  rw [natCast_two_pow]
  by_cases h1 : x ≤ 1
  · rw [if_pos h1, show x.toNat - 1 = 0 by omega]; rfl
  · have hc := natCast_two_pow n
    have hu1 : toU n (x - 1) = x.toNat - 1 := by rw [toU_of_lt (by omega) (by omega)]; omega
    unfold Sfx.leadingZeros
    rw [if_neg h1, hu1, ones_shr (bitLen_le_iff.2 (by omega))]
    omega

theorem npow_lt_iff {n : Nat} (hn : 0 < n) {x : Int} (hx : inI false n x) : npow x < 2 ^ n ↔ x ≤ 2 ^ (n - 1) := by
  have hc1 := natCast_two_pow (n - 1)
  have hP := Nat.two_pow_pos (n - 1)
  unfold npow
  rw [Nat.pow_lt_pow_iff_right (by decide), show bitLen (x.toNat - 1) < n ↔ bitLen (x.toNat - 1) ≤ n - 1 by omega, bitLen_le_iff]
  have := (inU_iff _ _).1 hx
  omega

theorem leastPow2_npow {n : Nat} {x : Int} (hx : inI false n x) : leastPow2 n (toU n x) = npow x := by
  have h := (inU_iff _ _).1 hx
  rw [leastPow2_eq (Nat.le_of_lt (toU_lt n x)), toU_of_lt h.1 h.2]; rfl

theorem nextPowerOfTwo_eq (L : Layout) (hs : L.signed = false) (x : Int) (hx : inRange L x) :
    L.nextPowerOfTwo x = .ok (if npow x < 2 ^ L.n then ((npow x : Nat) : Int) else 0) (!decide (npow x < 2 ^ L.n)) := by
  have hx' : inI false L.n x := hs ▸ hx
  have hle : npow x ≤ 2 ^ L.n :=
    Nat.pow_le_pow_right (by decide) (bitLen_le_iff.2 (by have := (inU_iff _ _).1 hx'; have := natCast_two_pow L.n; omega))
  unfold nextPowerOfTwo uadd
  rw [oneLess_succ hx']
  simp only [inU_natCast]
  by_cases h : npow x < 2 ^ L.n
  · rw [if_pos h, show wrapI false L.n ((npow x : Nat) : Int) = _ from wrapU_of_in ((inU_natCast _ _).2 h)]
  · rw [if_neg h, show npow x = 2 ^ L.n by omega, natCast_two_pow]
    exact congrArg (Outcome.ok · _) (by unfold wrapI wrapU; simp)

/-- `next_power_of_two` panics under checks exactly when the least power of two `≥ x` is `2^n`, i.e. `x > 2^(n-1)` -/
theorem nextPowerOfTwo_dbg_iff (L : Layout) (hs : L.signed = false) (hn : 0 < L.n) (x : Int) (hx : inRange L x) :
    (∃ v, L.nextPowerOfTwo x = .ok v true) ↔ 2 ^ (L.n - 1) < x := by
  have hx' : inI false L.n x := hs ▸ hx
  rw [nextPowerOfTwo_eq L hs x hx, ← Int.not_le, ← npow_lt_iff hn hx']
  by_cases h : npow x < 2 ^ L.n <;> simp [h]

theorem leastPow2_least {n u : Nat} (hu : u < 2 ^ n) :
    ∃ b, leastPow2 n u = 2 ^ b ∧ u ≤ 2 ^ b ∧ ∀ j, u ≤ 2 ^ j → b ≤ j := by
  have hb : u - 1 < 2 ^ bitLen (u - 1) := bitLen_le_iff.1 (Nat.le_refl _)
  refine ⟨bitLen (u - 1), leastPow2_eq (Nat.le_of_lt hu), by omega, fun j hj => bitLen_le_iff.2 ?_⟩
  have := Nat.two_pow_pos j
  omega

/-- the `Wrapping<F>` model's `next_power_of_two` (`Layout.nextPow2` of `Wrapping.lean`, i.e.
`checked_next_power_of_two().unwrap_or_default()`) is what this one returns without overflow checks -/
theorem nextPowerOfTwo_eq_wrapping (L : Layout) (hs : L.signed = false) (x : Int) (hx : inRange L x) :
    (L.nextPowerOfTwo x).rel = some (L.nextPow2 x) := by
  have hp : (if x ≤ 1 then (1 : Int) else 2 ^ bitLen (x - 1).toNat) = ((npow x : Nat) : Int) := by
    unfold npow
    rw [natCast_two_pow]
    by_cases h1 : x ≤ 1
    · rw [if_pos h1, show x.toNat - 1 = 0 by omega]; rfl
    · rw [if_neg h1, show (x - 1).toNat = x.toNat - 1 by omega]
  rw [nextPowerOfTwo_eq L hs x hx]
  unfold nextPow2 Outcome.rel inRange
  simp only [hp, hs, inU_natCast]

/-- `1.0 = 2^f` and `-1.0` in a signed type, by the number of integer bits -/
theorem one_repr {n f : Nat} (hn : 0 < n) (hf : f ≤ n) :
    (n - f = 0 → ¬ inI true n ((2 : Int) ^ f) ∧ wrapI true n ((2 : Int) ^ f) = 0 ∧
      ¬ inI true n (-(2 : Int) ^ f) ∧ wrapI true n (-(2 : Int) ^ f) = 0) ∧
    (n - f = 1 → ¬ inI true n ((2 : Int) ^ f) ∧ wrapI true n ((2 : Int) ^ f) = -(2 ^ (n - 1)) ∧ inI true n (-(2 : Int) ^ f)) ∧
    (2 ≤ n - f → inI true n ((2 : Int) ^ f) ∧ inI true n (-(2 : Int) ^ f)) := by
  have hp := pow_split hn
  have hP := two_pow_pos (n - 1)
  refine ⟨fun hi => ?_, fun hi => ?_, fun hi => ?_⟩
  · have hfn : f = n := by omega
    subst hfn
    exact ⟨by rw [inS_iff]; omega, wrapI_two_pow_self true hn, by rw [inS_iff]; omega, wrapI_neg_two_pow_self true hn⟩
  · have hfn : f = n - 1 := by omega
    subst hfn
    exact ⟨by rw [inS_iff]; omega, wrapI_two_pow_top hn, by rw [inS_iff]; omega⟩
  · have hlt : (2 : Int) ^ f < 2 ^ (n - 1) := pow_lt_pow (by omega)
    have hPf := two_pow_pos f
    exact ⟨by rw [inS_iff]; omega, by rw [inS_iff]; omega⟩

/-- `signum`: the conversion `from_num(±1)` of the source, through the proved conversion theorem `fromInt_spec`,
against the three documented cases (1.0 representable / one integer bit / no integer bit) -/
theorem signum_spec (L : Layout) (hv : L.valid) (hs : L.signed = true) (a : Int) :
    oInt (L.signum a) = L.signumSpec a := by
  have hn : 0 < L.n := hv.pos
  have e1 := (ConvPf.fromInt_spec L hv true 32 (by decide) 1 (by decide)).2.2.2.2
  have e2 := (ConvPf.fromInt_spec L hv true 32 (by decide) (-1) (by decide)).2.2.2.2
  rw [Int.one_mul] at e1
  rw [Int.neg_mul, Int.one_mul] at e2
  obtain ⟨r0, r1, r2⟩ := one_repr hn hv.2
  have hwrap : ∀ e, L.wrap e = wrapI true L.n e := fun e => by unfold Layout.wrap; rw [hs]
  have hrange : ∀ e, inRange L e ↔ inI true L.n e := fun e => by unfold inRange; rw [hs]
  simp only [hwrap, hrange] at e1 e2
  unfold signum signumSpec intBits
  by_cases h0 : a = 0
  · rw [if_pos h0, if_pos h0]; rfl
  rw [if_neg h0, if_neg h0]
  rcases (by omega : L.n - L.f = 0 ∨ L.n - L.f = 1 ∨ 2 ≤ L.n - L.f) with hi | hi | hi
  · obtain ⟨rp, wp, rn, wn⟩ := r0 hi
    by_cases hpos : 0 < a
    · rw [if_pos hpos, if_pos hpos, if_pos hi, e1, wp, decide_eq_false rp]; rfl
    · rw [if_neg hpos, if_neg hpos, if_pos hi, e2, wn, decide_eq_false rn]; rfl
  · obtain ⟨rp, wp, rn⟩ := r1 hi
    by_cases hpos : 0 < a
    · rw [if_pos hpos, if_pos hpos, if_neg (by omega), if_pos hi, e1, wp, decide_eq_false rp]; rfl
    · rw [if_neg hpos, if_neg hpos, if_neg (by omega), e2, wrapI_of_in hn rn, decide_eq_true rn]; rfl
  · obtain ⟨rp, rn⟩ := r2 hi
    by_cases hpos : 0 < a
    · rw [if_pos hpos, if_pos hpos, if_neg (by omega), if_neg (by omega), e1, wrapI_of_in hn rp, decide_eq_true rp]; rfl
    · rw [if_neg hpos, if_neg hpos, if_neg (by omega), e2, wrapI_of_in hn rn, decide_eq_true rn]; rfl

theorem isPositive_spec (L : Layout) (a : Int) : oBool (pure (L.isPositive a)) = L.isPositiveSpec a := rfl

theorem isNegative_spec (L : Layout) (a : Int) : oBool (pure (L.isNegative a)) = L.isNegativeSpec a := rfl

theorem intNbits_spec (L : Layout) : ExtBits.oNat (pure L.intNbits) = L.intNbitsSpec := rfl

theorem fracNbits_spec (L : Layout) : ExtBits.oNat (pure L.fracNbits) = L.fracNbitsSpec := rfl

theorem minValue_spec (L : Layout) : oInt (pure L.minValue) = L.minValueSpec := rfl

theorem maxValue_spec (L : Layout) : oInt (pure L.maxValue) = L.maxValueSpec := rfl

theorem minValue_eq (L : Layout) : L.minValue = L.min := rfl

theorem maxValue_eq (L : Layout) : L.maxValue = L.max := rfl

theorem intNbits_add_fracNbits (L : Layout) (hf : L.f ≤ L.n) : L.intNbits + L.fracNbits = L.n := by
  unfold intNbits fracNbits; omega

/-! the deprecated remainder forms agree with the proved `%` (`remIntOp`, C07) and with the exact remainder -/

theorem wrappingRemInt_eq (L : Layout) (a k : Int) : L.wrappingRemInt a k = L.remIntOp a k := rfl

theorem overflowingRemInt_eq (L : Layout) (a k : Int) :
    L.overflowingRemInt a k = (L.remIntOp a k).map' (fun r => (r, false)) := by
  unfold overflowingRemInt
  show Outcome.bind _ _ = _
  cases L.remIntOp a k <;> simp [Outcome.bind, Outcome.map', pure]

theorem remIntForms_spec (L : Layout) (hn : 2 ≤ L.n) (hf : L.f ≤ L.n) (a k : Int)
    (ha : inRange L a) (hk : inRange L k) (hk0 : k ≠ 0) :
    L.wrappingRemInt a k = .ok (Int.tmod a (k * 2 ^ L.f)) false ∧
    L.overflowingRemInt a k = .ok (Int.tmod a (k * 2 ^ L.f), false) false ∧
    some (oInt (L.wrappingRemInt a k)) = Form.wrapping.spec L (Int.tmod a (k * 2 ^ L.f)) ∧
    some (oPair (L.overflowingRemInt a k)) = Form.overflowing.spec L (Int.tmod a (k * 2 ^ L.f)) := by
  have h := (remInt_spec L (by omega) hf a k ha hk hk0).1
  have hin : inRange L (Int.tmod a (k * 2 ^ L.f)) := tmod_in _ ha
  have hw : L.wrap (Int.tmod a (k * 2 ^ L.f)) = Int.tmod a (k * 2 ^ L.f) := wrapI_of_in (by omega) hin
  have h1 : L.wrappingRemInt a k = .ok (Int.tmod a (k * 2 ^ L.f)) false := h
  have h2 : L.overflowingRemInt a k = .ok (Int.tmod a (k * 2 ^ L.f), false) false := by
    rw [overflowingRemInt_eq, h]; rfl
  refine ⟨h1, h2, ?_, ?_⟩
  · rw [h1]; unfold Form.spec; rw [hw]; rfl
  · rw [h2]; unfold Form.spec; rw [hw]; simp [hin, oPair, Outcome.map']

theorem remIntForms_zero (L : Layout) (a : Int) :
    L.wrappingRemInt a 0 = .panic ∧ L.overflowingRemInt a 0 = .panic ∧
    some (oInt (L.wrappingRemInt a 0)) = Form.wrapping.specDivZero ∧
    some (oPair (L.overflowingRemInt a 0)) = Form.overflowing.specDivZero := by
  have h := (int_zero L a).2.1
  have h1 : L.wrappingRemInt a 0 = .panic := h
  have h2 : L.overflowingRemInt a 0 = .panic := by rw [overflowingRemInt_eq, h]; rfl
  refine ⟨h1, h2, ?_, ?_⟩
  · rw [h1]; rfl
  · rw [h2]; rfl

/-! the constant and remainder rows of the driver: `ExtBits.model` row = `ExtBits.spec` row -/

theorem rows_const (L : Layout) :
    ExtBits.oNat (pure L.intNbits) = L.intNbitsSpec ∧ ExtBits.oNat (pure L.fracNbits) = L.fracNbitsSpec ∧
    oInt (pure L.minValue) = L.minValueSpec ∧ oInt (pure L.maxValue) = L.maxValueSpec :=
  ⟨rfl, rfl, rfl, rfl⟩

/-- both branches of the driver's `if k = 0` -/
theorem rows_rem (L : Layout) (hn : 2 ≤ L.n) (hf : L.f ≤ L.n) (x k : Int) (hx : inRange L x) (hk : inRange L k) :
    some (oInt (L.wrappingRemInt x k)) =
      (if k = 0 then Form.wrapping.specDivZero else Form.wrapping.spec L (Int.tmod x (k * 2 ^ L.f))) ∧
    some (oPair (L.overflowingRemInt x k)) =
      (if k = 0 then Form.overflowing.specDivZero else Form.overflowing.spec L (Int.tmod x (k * 2 ^ L.f))) := by
  by_cases h0 : k = 0
  · subst h0
    have h := remIntForms_zero L x
    rw [if_pos rfl, if_pos rfl]; exact ⟨h.2.2.1, h.2.2.2⟩
  · have h := remIntForms_spec L hn hf x k hx hk h0
    rw [if_neg h0, if_neg h0]; exact ⟨h.2.2.1, h.2.2.2⟩

end Sfx.ExtBitsPf

open Sfx.ExtBitsPf in
#print axioms shlI_eq_spec
open Sfx.ExtBitsPf in
#print axioms shrI_eq_spec
open Sfx.ExtBitsPf in
#print axioms rows_const
open Sfx.ExtBitsPf in
#print axioms rows_rem
open Sfx.ExtBitsPf in
#print axioms remIntForms_spec
open Sfx.ExtBitsPf in
#print axioms remIntForms_zero
open Sfx.ExtBitsPf in
#print axioms nextPowerOfTwo_eq_wrapping
open Sfx.ExtBitsPf in
#print axioms leastPow2_least
open Sfx.ExtBitsPf in
#print axioms popcount_eq_one_iff
open Sfx.ExtBitsPf in
#print axioms testBit_ofBits
open Sfx.ExtBitsPf in
#print axioms decode_toU
open Sfx.ExtBitsPf in
#print axioms nextPowerOfTwo_dbg_iff
open Sfx.ExtBitsPf in
#print axioms signum_spec
