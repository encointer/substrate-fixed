import SfxModel.ExtCast
import SfxProofs.Convert
import SfxProofs.ToFloat
import SfxProofs.FromFloat
/-
  ExtCast.lean — the `az` cast impls of `src/cast.rs` (`SfxModel/ExtCast.lean`): every modelled cast IS the `to_num` / `from_num` form it
  forwards to (definitional), hence satisfies the C04 (fixed ↔ fixed / integer) and C05 (fixed ↔ float) specification; `StaticCast`
  returns `Some(exact result)` exactly when the conversion works for all source values (the sentence of the `az` documentation) and
  `None` otherwise, without panic or debug-only check in either profile.
-/
namespace Sfx.ExtCastPf
open Sfx.ConvPf Sfx.ToFloatPf Sfx.FromFloatPf Sfx.ExtCast

theorem cast_eq (S D : Layout) (x : Int) : ExtCast.cast S D x = Layout.fromFixed S D x := rfl
theorem checkedCast_eq (S D : Layout) (x : Int) : checkedCast S D x = Layout.checkedFromFixed S D x := rfl
theorem saturatingCast_eq (S D : Layout) (x : Int) : saturatingCast S D x = Layout.saturatingFromFixed S D x := rfl
theorem wrappingCast_eq (S D : Layout) (x : Int) : wrappingCast S D x = Layout.wrappingFromFixed S D x := rfl
theorem overflowingCast_eq (S D : Layout) (x : Int) : overflowingCast S D x = Layout.overflowingFromFixed S D x := rfl

theorem castToFloat_eq (S : Layout) (F : FloatFmt) (x : Int) :
    castToFloat S F x = S.toFloat F x ∧ checkedCastToFloat S F x = some (S.toFloat F x) ∧ saturatingCastToFloat S F x = S.toFloat F x ∧
    wrappingCastToFloat S F x = S.toFloat F x ∧ overflowingCastToFloat S F x = (S.toFloat F x, false) ∧
    staticCastToFloat S F x = some (S.toFloat F x) := ⟨rfl, rfl, rfl, rfl, rfl, rfl⟩

theorem castFromFloat_eq (D : Layout) (F : FloatFmt) (b : Nat) :
    castFromFloat D F b = D.fromFloat F b ∧ checkedCastFromFloat D F b = D.checkedFromFloat F b ∧
    saturatingCastFromFloat D F b = D.saturatingFromFloat F b ∧ wrappingCastFromFloat D F b = D.wrappingFromFloat F b ∧
    overflowingCastFromFloat D F b = D.overflowingFromFloat F b := ⟨rfl, rfl, rfl, rfl, rfl⟩

/-! C04 for the casts: being these forms, `fromFixed_forms`, `toInt_spec` and `fromInt_spec` of `Convert.lean` speak of them as
they stand (`SfxProps/C04Cast.lean`); only `bool` needs a word -/

/-- `bool` → fixed: `false` / `true` are the integers 0 / 1 (converted through `u8`) -/
theorem cast_fromBool (L : Layout) (hL : L.valid) (k : Int) (hk : k = 0 ∨ k = 1) :
    overflowingCast boolRepr L k = L.ovf (k * 2 ^ L.f) ∧
    checkedCast boolRepr L k = L.chk (k * 2 ^ L.f) ∧
    wrappingCast boolRepr L k = L.wrap (k * 2 ^ L.f) ∧
    saturatingCast boolRepr L k = L.clamp (k * 2 ^ L.f) ∧
    ExtCast.cast boolRepr L k = .ok (L.wrap (k * 2 ^ L.f)) (!decide (inRange L (k * 2 ^ L.f))) :=
  fromInt_spec L hL false 8 (Or.inl rfl) k (by rcases hk with rfl | rfl <;> decide)

/-- the `$cond` of `cast.rs` is the integer-bit condition of `LossyFrom` (`convert.rs`) -/
theorem staticCond_iff (S D : Layout) : staticCond S D = true ↔ lossyAdmissible S D := by
  obtain ⟨ss, sn, sf⟩ := S
  obtain ⟨ds, dn, df⟩ := D
  unfold staticCond lossyAdmissible Layout.intBits
  cases ss <;> cases ds <;> simp <;> omega

/-- an integer type has `8 * size_of` integer bits: the integer rows of `compile_time!` are `staticCond` on `Layout.ofInt` -/
theorem ofInt_intBits (si : Bool) (ni : Nat) : (Layout.ofInt si ni).intBits = ni := rfl

/-- the type-level condition of `cast.rs` is exactly "the conversion works for all source type values" (any widths, so that the one
bit of `bool` is covered) -/
theorem staticCond_eq_worksForAll (S D : Layout) (hSn : 0 < S.n) (hSf : S.f ≤ S.n) (hDn : 0 < D.n) (hDf : D.f ≤ D.n) :
    staticCond S D = worksForAll S D := by
  unfold worksForAll
  by_cases h : lossyAdmissible S D
  · rw [(staticCond_iff S D).2 h, decide_eq_true (convExact_inRange S D hSn hDn hDf h _ S.inRange_min),
      decide_eq_true (convExact_inRange S D hSn hDn hDf h _ S.inRange_max)]
    rfl
  · rw [Bool.eq_false_iff.2 (mt (staticCond_iff S D).1 h)]
    rcases ends_not_fit S D hSn hSf hDn hDf h with h1 | h1
    · rw [decide_eq_false h1]; rfl
    · rw [decide_eq_false h1, Bool.and_false]

theorem worksForAll_iff (S D : Layout) (hSn : 0 < S.n) (hSf : S.f ≤ S.n) (hDn : 0 < D.n) (hDf : D.f ≤ D.n) :
    worksForAll S D = true ↔ ∀ x, inRange S x → inRange D (Layout.convExact S D x) := by
  rw [← staticCond_eq_worksForAll S D hSn hSf hDn hDf, staticCond_iff]
  exact lossyAdmissible_iff S D hSn hSf hDn hDf

theorem staticCast_some (S D : Layout) (hS : S.valid) (hD : D.valid) (h : staticCond S D = true) (x : Int) (hx : inRange S x) :
    staticCast S D x = .ok (some (Layout.convExact S D x)) false ∧ inRange D (Layout.convExact S D x) := by
  have ha := (staticCond_iff S D).1 h
  refine ⟨?_, convExact_inRange S D hS.pos hD.pos hD.2 ha x hx⟩
  unfold staticCast ExtCast.cast
  rw [if_pos h, lossyFrom_spec S D hS hD ha x hx]
  rfl

theorem staticCast_none (S D : Layout) (hS : S.valid) (hD : D.valid) (h : staticCond S D = false) (x : Int) :
    staticCast S D x = .ok none false ∧ ∃ y, inRange S y ∧ ¬ inRange D (Layout.convExact S D y) := by
  refine ⟨by unfold staticCast; rw [h]; rfl, ?_⟩
  have hn : ¬ lossyAdmissible S D := mt (staticCond_iff S D).2 (Bool.eq_false_iff.1 h)
  exact exists_not_fit S D hS.pos hS.2 hD.pos hD.2 hn

/-- model = documented answer for `static_cast` (fixed → fixed; with `Layout.ofInt`: fixed → integer and integer → fixed) -/
theorem staticCast_spec (S D : Layout) (hS : S.valid) (hD : D.valid) (x : Int) (hx : inRange S x) :
    staticCast S D x = staticSpec S D x := by
  unfold staticSpec
  rw [← staticCond_eq_worksForAll S D hS.pos hS.2 hD.pos hD.2]
  cases h : staticCond S D
  · rw [(staticCast_none S D hS hD h x).1]; rfl
  · rw [(staticCast_some S D hS hD h x hx).1]; rfl

theorem staticCondBool_eq (D : Layout) : staticCondBool D = staticCond boolLayout D := by
  unfold staticCondBool staticCond boolLayout Layout.ofInt Layout.intBits
  simp

theorem staticCondBool_eq_worksForAll (D : Layout) (hD : D.valid) : staticCondBool D = worksForAll boolLayout D := by
  rw [staticCondBool_eq]
  exact staticCond_eq_worksForAll boolLayout D (by decide) (by decide) hD.pos hD.2

theorem staticCastBool_spec (D : Layout) (hD : D.valid) (k : Int) (hk : k = 0 ∨ k = 1) :
    staticCastBool D k = staticSpec boolLayout D k ∧
    staticCastBool D k = if worksForAll boolLayout D then .ok (some (k * 2 ^ D.f)) false else .ok none false := by
  have hconv : Layout.convExact boolLayout D k = k * 2 ^ D.f := convExact_fromInt D false 1 k
  have key : staticCastBool D k = if worksForAll boolLayout D then .ok (some (k * 2 ^ D.f)) false else .ok none false := by
    rw [← staticCondBool_eq_worksForAll D hD]
    unfold staticCastBool
    cases h : staticCondBool D
    · rfl
    · -- both values fit: the plain cast is exact and silent
      have hadm := (staticCond_iff boolLayout D).1 ((staticCondBool_eq D).symm.trans h)
      have hin := convExact_inRange boolLayout D (by decide) hD.pos hD.2 hadm k (by rcases hk with rfl | rfl <;> decide)
      rw [hconv] at hin
      have hwr : D.wrap (k * 2 ^ D.f) = k * 2 ^ D.f := wrapI_of_in hD.pos hin
      rw [if_pos rfl, (cast_fromBool D hD k hk).2.2.2.2, hwr, decide_eq_true hin]
      rfl
  refine ⟨?_, key⟩
  rw [key]
  unfold staticSpec
  rw [hconv]
  cases worksForAll boolLayout D <;> rfl

theorem cast_C05 (F : FloatFmt) (hF : F = f32 ∨ F = f64) (L : Layout) (hL : L.valid) :
    -- float → fixed, finite input: one exact rounded result `E`, the four policies (+ plain) decide overflow on `E`
    (∀ b : Nat, b < 2 ^ F.nbits → ∀ E : Int, floatToGrid F b L.f = some E →
      overflowingCastFromFloat L F b = .ok (L.ovf E) false ∧ checkedCastFromFloat L F b = .ok (L.chk E) false ∧
      saturatingCastFromFloat L F b = .ok (L.clamp E) false ∧ wrappingCastFromFloat L F b = .ok (L.wrap E) false ∧
      castFromFloat L F b = .ok (L.wrap E) (!decide (inRange L E))) ∧
    -- float → fixed, non-finite input: rejected as documented
    (∀ b : Nat, b < 2 ^ F.nbits → floatExact F b = none →
      checkedCastFromFloat L F b = .ok none false ∧ overflowingCastFromFloat L F b = .panic ∧ wrappingCastFromFloat L F b = .panic ∧
      castFromFloat L F b = .panic ∧
      ((F.parts b).2.2 ≠ 0 → saturatingCastFromFloat L F b = .panic) ∧
      ((F.parts b).2.2 = 0 → saturatingCastFromFloat L F b = .ok (if (F.parts b).1 then L.min else L.max) false)) ∧
    -- fixed → float: the IEEE-754 round-to-nearest-even result in every form, never an overflow, `static_cast` always `Some`
    (∀ x : Int, inRange L x →
      castToFloat L F x = rneFloat F L.f x ∧ checkedCastToFloat L F x = some (rneFloat F L.f x) ∧
      saturatingCastToFloat L F x = rneFloat F L.f x ∧ wrappingCastToFloat L F x = rneFloat F L.f x ∧
      overflowingCastToFloat L F x = (rneFloat F L.f x, false) ∧ staticCastToFloat L F x = some (rneFloat F L.f x)) ∧
    -- float → fixed `static_cast`: `None` without evaluating anything, and some source value (a NaN) has no conversion
    ((∀ b : Nat, staticCastFromFloat L F b = .ok none false) ∧
      ∃ b : Nat, b < 2 ^ F.nbits ∧ checkedCastFromFloat L F b = .ok none false ∧ castFromFloat L F b = .panic) := by
  refine ⟨(fromFloat_clauses F (CmpPf.ok_of F hF) L hL).1, (fromFloat_clauses F (CmpPf.ok_of F hF) L hL).2, fun x hx => ?_, fun _ => rfl, ?_⟩
  · rw [← toFloat_eq_rneFloat F hF L hL x hx]
    exact castToFloat_eq L F x
  · rcases hF with rfl | rfl
    · have hnf : floatExact f32 0x7FC00000 = none := by decide
      have := nonfinite_gen f32 L 0x7FC00000 hnf
      exact ⟨0x7FC00000, by decide, this.1, this.2.2.2.1⟩
    · have hnf : floatExact f64 0x7FF8000000000000 = none := by decide
      have := nonfinite_gen f64 L 0x7FF8000000000000 hnf
      exact ⟨0x7FF8000000000000, by decide, this.1, this.2.2.2.1⟩

end Sfx.ExtCastPf

#print axioms Sfx.ExtCastPf.cast_eq
#print axioms Sfx.ExtCastPf.castToFloat_eq
#print axioms Sfx.ExtCastPf.castFromFloat_eq
#print axioms Sfx.ExtCastPf.cast_fromBool
#print axioms Sfx.ExtCastPf.staticCond_iff
#print axioms Sfx.ExtCastPf.staticCond_eq_worksForAll
#print axioms Sfx.ExtCastPf.worksForAll_iff
#print axioms Sfx.ExtCastPf.staticCast_some
#print axioms Sfx.ExtCastPf.staticCast_none
#print axioms Sfx.ExtCastPf.staticCast_spec
#print axioms Sfx.ExtCastPf.staticCondBool_eq
#print axioms Sfx.ExtCastPf.staticCondBool_eq_worksForAll
#print axioms Sfx.ExtCastPf.staticCastBool_spec
#print axioms Sfx.ExtCastPf.cast_C05
