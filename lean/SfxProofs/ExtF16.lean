import SfxProofs.HalfFloat
import SfxModel.ExtFrom
/-
  ExtF16.lean — the driver-level additions of the `f16` extension against the model.
  (1) the documented answer of the hook op `h_to_float_kind` (`DriverConv.kindSpec`) is what the model `toFloatKind` returns, field by
      field, for every format with the structural bounds (`FloatFmt.ok`: f16, bf16, f32, f64) and every destination `(dstFrac, dstInt)`;
  (2) the format selected by a hook request;
  (3) a formal witness of the `half` 1.8.3 defect behind `LossyFrom<f64> for f16 / bf16` (`half::…::from_f64` drops the low 32 mantissa
      bits before rounding): the bug-compatible model `ExtFrom.halfFromF64` and the IEEE-754 answer `ExtFrom.floatToFloat` differ.
  The property-level theorems for the two formats are `SfxProps/C05Half.lean` and `SfxProps/C03Half.lean`.  (core Lean only)
-/
namespace Sfx.ExtF16Pf
open Sfx.CmpPf Sfx.HalfPf

/-- the fields `DriverConv.kindSpec` prints for a finite float are the fields of the model's answer: outer flag = sign of the value,
`neg` = sign of the rounded grid value `R`, `bits ≡ R` in the 128-bit word that is printed, `dir` = direction of the rounding,
`overflow` = `R` needs more than `dstFrac + dstInt` bits -/
theorem kind_fields (F : FloatFmt) (hF : FloatFmt.ok F) (b dstFrac dstInt : Nat) (hD : 0 < dstFrac + dstInt)
    (num e : Int) (h : floatExact F b = some (num, e)) :
    ∃ conv, toFloatKind F b dstFrac dstInt = .finite (decide (num < 0)) conv ∧
      conv.neg = decide (rneScaled num (e + dstFrac) < 0) ∧
      wrapI (decide (rneScaled num (e + dstFrac) < 0)) 128 conv.bits = wrapI (decide (rneScaled num (e + dstFrac) < 0)) 128 (rneScaled num (e + dstFrac)) ∧
      conv.dir = (if 0 ≤ e + dstFrac then 0 else Layout.cmpInt (rneScaled num (e + dstFrac) * 2 ^ (-(e + dstFrac)).toNat) num) ∧
      conv.overflow = (if 0 < rneScaled num (e + dstFrac) then decide (2 ^ (dstFrac + dstInt) ≤ rneScaled num (e + dstFrac))
        else decide (rneScaled num (e + dstFrac) < -(2 ^ (dstFrac + dstInt - 1)))) := by
  obtain ⟨conv, hk, hneg, hdir, hbits, hovf⟩ := toFloatKind_spec F hF b dstFrac dstInt hD num e h
  exact ⟨conv, hk, hneg, hbits _ 128 (by decide) (by decide), by rw [hdir]; rfl, hovf⟩

theorem kind_nonfinite (F : FloatFmt) (b dstFrac dstInt : Nat) (h : floatExact F b = none) :
    toFloatKind F b dstFrac dstInt = (if (F.parts b).2.2 = 0 then .infinite (F.parts b).1 else .nan) :=
  toFloatKind_nonfinite F b dstFrac dstInt h

theorem ok_f16 : FloatFmt.ok f16 := HalfPf.ok_of f16 (Or.inl rfl)
theorem ok_bf16 : FloatFmt.ok bf16 := HalfPf.ok_of bf16 (Or.inr rfl)

/-- hook requests `h_… 0 16 11 …` / `0 16 8 …` / `0 32 0 …` / `0 64 0 …` select f16 / bf16 / f32 / f64 -/
theorem hookFmt_rows (s : Bool) :
    DriverConv.hookFmt ⟨s, 16, 11⟩ = f16 ∧ DriverConv.hookFmt ⟨s, 16, 8⟩ = bf16 ∧
    DriverConv.hookFmt ⟨s, 32, 0⟩ = f32 ∧ DriverConv.hookFmt ⟨s, 64, 0⟩ = f64 := by
  refine ⟨rfl, rfl, rfl, rfl⟩

/-- defect witness (`half` 1.8.3, reached through the crate's `LossyFrom<f64> for f16` / `for bf16`, documented "Rounding is to the
nearest, with ties rounded to even"): `0x3F1FFA0000000001` is one f64 ulp above the tie between the f16 values `0x07FE` and `0x07FF`;
the correctly rounded result is `0x07FF`, the library returns `0x07FE`.  Likewise `0x3810100000000001` for bf16 (`0x0081` / `0x0080`). -/
theorem half_from_f64_not_nearest :
    ExtFrom.floatToFloat f64 f16 0x3F1FFA0000000001 = some 0x07FF ∧ ExtFrom.halfFromF64 f16 0x3F1FFA0000000001 = some 0x07FE ∧
    ExtFrom.floatToFloat f64 bf16 0x3810100000000001 = some 0x0081 ∧ ExtFrom.halfFromF64 bf16 0x3810100000000001 = some 0x0080 := by
  decide

theorem half_from_f64_exact_low (Fd : FloatFmt) (b : Nat) (h : b % 2 ^ 32 = 0) :
    ExtFrom.halfFromF64 Fd b = ExtFrom.floatToFloat f64 Fd b := by
  unfold ExtFrom.halfFromF64
  rw [h, Nat.sub_zero]
  unfold ExtFrom.floatToFloat
  split <;> rfl

end Sfx.ExtF16Pf

#print axioms Sfx.ExtF16Pf.kind_fields
#print axioms Sfx.ExtF16Pf.kind_nonfinite
#print axioms Sfx.ExtF16Pf.hookFmt_rows
#print axioms Sfx.ExtF16Pf.half_from_f64_not_nearest
#print axioms Sfx.ExtF16Pf.half_from_f64_exact_low
