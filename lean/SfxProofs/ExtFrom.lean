import SfxModel.ExtFrom
import SfxProofs.Convert
import SfxProofs.ToFloat
import SfxProps.C04
/-
  ExtFrom.lean — the type-level (infallible) conversion traits (`SfxModel/ExtFrom.lean`): model = documented answer for every impl
  family, no panic and no debug flag in either build profile, and soundness of the type-level bounds found in `convert.rs`: every
  row of `Generated.fromIntImpls`, `toIntImpls`, `toFloatImpls` satisfies a decidable predicate, and a lookup that succeeds yields an
  admissible pair (`findFromInt_sound`, `hasToInt_sound`, `hasToFloat_sound`); for `intToFloatImpls` and `primLossyImpls` the
  predicate is the condition itself and is only evaluated.
-/
namespace Sfx.ExtFromPf
open Sfx.ConvPf Sfx.ToFloatPf Sfx.ExtFrom

/-- the list step of every table lookup: all rows are sound and the lookup succeeds, so a sound row matches -/
theorem any_of_all {α : Type} {T : List α} {sound p : α → Bool} (hs : T.all sound = true) (h : T.any p = true) :
    ∃ r, sound r = true ∧ p r = true := by
  obtain ⟨r, hm, hp⟩ := List.any_eq_true.mp h
  exact ⟨r, List.all_eq_true.mp hs r hm, hp⟩

theorem find_of_all {α : Type} {T : List α} {sound p : α → Bool} {r : α} (hs : T.all sound = true) (h : T.find? p = some r) :
    sound r = true ∧ p r = true :=
  ⟨List.all_eq_true.mp hs r (List.mem_of_find?_eq_some h), List.find?_some h⟩

theorem render_ok (p : Profile) (v : Int) : Outcome.render p (oInt (.ok v false)) = toString v := by
  cases p <;> simp [oInt, Outcome.map', Outcome.render, Val.render]

theorem cmpExactFloat_exact (f : Nat) (x : Int) (k : Nat) : cmpExactFloat f x (x * 2 ^ k) (-(k : Int) - f) = 0 := by
  unfold cmpExactFloat Layout.cmpInt
  simp only []
  by_cases hk : -(k : Int) - f + f ≥ 0
  · have hk0 : k = 0 := by omega
    subst hk0
    rw [if_pos hk]
    have e : (-((0 : Nat) : Int) - (f : Int) + f).toNat = 0 := by omega
    rw [e]
    simp
  · rw [if_neg hk]
    have e : (-(-(k : Int) - (f : Int) + f)).toNat = k := by omega
    rw [e]
    simp

/-! fixed → float (`fixed_to_float!`, `fixed_to_float_lossy!`) -/

/-- `LossyFrom<Fixed> for f32 / f64` (every fixed-point type): the IEEE-754 round-to-nearest-even float of the value
(`rneFloat` is nearest / ties-to-even by `C05.rneFloat_is_nearest_even`) -/
theorem fixedToFloat_lossy (F : FloatFmt) (hF : F = f32 ∨ F = f64) (S : Layout) (hS : S.valid) (x : Int) (hx : inRange S x) :
    fixedToFloat S F x = rneFloat F S.f x :=
  toFloat_eq_rneFloat F hF S hS x hx

theorem primFloat_cases {s : String} {F : FloatFmt} (h : primFloat s = some F) : F = f32 ∨ F = f64 ∨ F = f16 ∨ F = bf16 := by
  unfold primFloat at h
  split at h <;> cases h <;> simp

/-- what the exact rows use of a float format; evaluated once for the four formats of the tables -/
theorem primFloat_facts {s : String} {F : FloatFmt} (h : primFloat s = some F) :
    F.okTo ∧ (F.prec : Int) ≤ -F.expMin ∧ floatExact F 0 = some (0, F.expMin - ((F.prec : Int) - 1)) := by
  rcases primFloat_cases h with h | h | h | h <;> subst h <;> (unfold FloatFmt.okTo; decide)

/-- any format, so that the `cfg(feature = "f16")` row `From<FixedI8/U8> for f16` is covered: a source no wider than the significand
converts exactly -/
theorem fixedToFloat_lossless_of (F : FloatFmt) (hF : F.okTo) (hmin : (F.prec : Int) ≤ -F.expMin)
    (hz : floatExact F 0 = some (0, F.expMin - ((F.prec : Int) - 1)))
    (S : Layout) (hS : S.valid) (hw : S.n ≤ F.prec) (x : Int) (hx : inRange S x) :
    ∃ k : Nat, floatExact F (fixedToFloat S F x) = some (x * 2 ^ k, -(k : Int) - S.f) := by
  rw [show fixedToFloat S F x = rneFloat F S.f x from toFloat_eq_rneFloat_gen F hF S hS x hx]
  obtain ⟨hp, hpn, _, hmax⟩ := hF
  have hn8 := hS.eight_le
  have hf := hS.2
  by_cases hx0 : x = 0
  · subst hx0
    refine ⟨(-(F.expMin - ((F.prec : Int) - 1)) - S.f).toNat, ?_⟩
    have : rneFloat F S.f 0 = 0 := by rw [rneFloat, if_pos rfl]
    rw [this, hz, Int.zero_mul]
    congr 2
    omega
  · have hbN := bitLen_le (natAbs_lt_of_in (by omega) hx)
    have hb0 := bitLen_pos (Int.natAbs_pos.2 hx0)
    exact ⟨F.prec - bitLen x.natAbs, rneFloat_short F hp hpn S.f x hx0 (Nat.le_trans hbN hw) (by unfold ToFloatPf.expOf; omega)
      (by unfold ToFloatPf.expOf; omega)⟩

/-- `From<Fixed> for f32 / f64`: when the whole width of the source fits the significand (`n ≤ 24` resp. `53`, the rows of
`fixed_to_float!`: see `to_float_table_sound`) the conversion is exact: the result is a finite float denoting `x·2^k · 2^(−k−f) = x / 2^f` -/
theorem fixedToFloat_lossless (F : FloatFmt) (hF : F = f32 ∨ F = f64) (S : Layout) (hS : S.valid) (hw : S.n ≤ F.prec)
    (x : Int) (hx : inRange S x) :
    ∃ k : Nat, floatExact F (fixedToFloat S F x) = some (x * 2 ^ k, -(k : Int) - S.f) := by
  obtain ⟨hok, hmin, hz⟩ : F.okTo ∧ (F.prec : Int) ≤ -F.expMin ∧ floatExact F 0 = some (0, F.expMin - ((F.prec : Int) - 1)) := by
    rcases hF with rfl | rfl
    · exact primFloat_facts (s := "f32") rfl
    · exact primFloat_facts (s := "f64") rfl
  exact fixedToFloat_lossless_of F hok hmin hz S hS hw x hx

theorem fcvt_from_answer_of (F : FloatFmt) (S : Layout) (x : Int)
    (hlossy : fixedToFloat S F x = rneFloat F S.f x)
    (hk : ∃ k : Nat, floatExact F (fixedToFloat S F x) = some (x * 2 ^ k, -(k : Int) - S.f)) :
    toString (fixedToFloat S F x) = specFixedToFloat true F S.f x := by
  obtain ⟨k, hk⟩ := hk
  rw [hlossy] at hk ⊢
  unfold specFixedToFloat floatIsExactly
  simp only [hk, cmpExactFloat_exact]
  simp

/-- the answers of `fcvt_lossy` / `fcvt_linto` -/
theorem fcvt_lossy_answer (F : FloatFmt) (hF : F = f32 ∨ F = f64) (S : Layout) (hS : S.valid) (x : Int) (hx : inRange S x) :
    toString (lossyInto (fixedToFloat S F) x) = specFixedToFloat false F S.f x ∧
    toString (fixedToFloat S F x) = specFixedToFloat false F S.f x := by
  unfold lossyInto specFixedToFloat
  rw [fixedToFloat_lossy F hF S hS x hx]
  simp

/-! integer / `bool` → fixed (`int_to_fixed!`, `bool_to_fixed!`) -/

/-- `From<integer> for Fixed` / `From<bool> for Fixed` under the type-level bound (`sn` source bits — `1` for `bool` — fit the integer
bits of the destination, one more for unsigned → signed): the unchecked shift cannot fire its amount check and loses no bit -/
theorem intToFixed_spec (ss : Bool) (sn : Nat) (hsn : 0 < sn) (D : Layout) (h : fromAdmissible (Layout.ofInt ss sn) D)
    (k : Int) (hk : inI ss sn k) :
    intToFixed D k = .ok (k * 2 ^ D.f) false ∧ inRange D (k * 2 ^ D.f) := by
  have hadm : lossyAdmissible (Layout.ofInt ss sn) D := h.2
  have hlt : D.f < D.n := by
    unfold lossyAdmissible Layout.ofInt at hadm
    simp only [Nat.sub_zero] at hadm
    split at hadm <;> omega
  have hin : inRange D (k * 2 ^ D.f) := by
    rw [← convExact_fromInt D ss sn k]
    exact convExact_inRange (Layout.ofInt ss sn) D hsn (by omega) (by omega) hadm k hk
  exact ⟨ushl_of_in hlt hin, hin⟩

/-- same-width arm (`Fixed<U0>` from its own `Bits` type): the bits are the integer -/
theorem intToFixedSame_spec (si : Bool) (ni : Nat) (k : Int) (hk : inI si ni k) :
    intToFixedSame k = .ok (k * 2 ^ (⟨si, ni, 0⟩ : Layout).f) false ∧ inRange ⟨si, ni, 0⟩ (k * 2 ^ (⟨si, ni, 0⟩ : Layout).f) := by
  simp only [Int.pow_zero, Int.mul_one]
  exact ⟨rfl, hk⟩

theorem icvt_from_answer (p : Profile) (ss : Bool) (sn : Nat) (hsn : 0 < sn) (D : Layout) (h : fromAdmissible (Layout.ofInt ss sn) D)
    (k : Int) (hk : inI ss sn k) :
    Outcome.render p (oInt (intToFixed D k)) = specIntToFixed D k ∧
    Outcome.render p (oInt (intToFixedLossy true D k)) = specIntToFixed D k ∧
    Outcome.render p (oInt (lossyInto (intToFixedLossy true D) k)) = specIntToFixed D k := by
  obtain ⟨h1, h2⟩ := intToFixed_spec ss sn hsn D h k hk
  unfold lossyInto intToFixedLossy specIntToFixed
  simp only [if_true, h1, render_ok, if_pos h2, and_self]

theorem icvt_from_same_answer (p : Profile) (si : Bool) (ni : Nat) (k : Int) (hk : inI si ni k) :
    Outcome.render p (oInt (intToFixedSame k)) = specIntToFixed ⟨si, ni, 0⟩ k ∧
    Outcome.render p (oInt (intToFixedLossy false ⟨si, ni, 0⟩ k)) = specIntToFixed ⟨si, ni, 0⟩ k ∧
    Outcome.render p (oInt (lossyInto (intToFixedLossy false ⟨si, ni, 0⟩) k)) = specIntToFixed ⟨si, ni, 0⟩ k := by
  obtain ⟨h1, h2⟩ := intToFixedSame_spec si ni k hk
  unfold lossyInto intToFixedLossy specIntToFixed
  simp only [Bool.false_eq_true, if_false, h1, render_ok, if_pos h2, and_self]

/-! fixed → integer (`fixed_to_int!`, `fixed_to_int_lossy!`) -/

/-- `LossyFrom<Fixed> for integer` under the type-level bound: `to_num` cannot overflow (so its `debug_assert!` is silent) -/
theorem fixedToIntLossy_spec (S : Layout) (hS : S.valid) (di : Bool) (dn : Nat) (hdn : dn = 8 ∨ dn = 16 ∨ dn = 32 ∨ dn = 64 ∨ dn = 128)
    (h : lossyAdmissible S (Layout.ofInt di dn)) (x : Int) (hx : inRange S x) :
    fixedToIntLossy S di dn x = .ok (x / 2 ^ S.f) false ∧ inI di dn (x / 2 ^ S.f) := by
  have hv := ofInt_valid di hdn
  have h1 := lossyFrom_spec S _ hS hv h x hx
  have h2 := convExact_inRange S _ hS.pos hv.pos hv.2 h x hx
  rw [convExact_toInt] at h1 h2
  exact ⟨h1, h2⟩

/-- `From<Fixed<U0>> for integer`: the bits are the integer, and they fit -/
theorem fixedToInt_spec (S : Layout) (hS : S.valid) (hf : S.f = 0) (di : Bool) (dn : Nat)
    (hdn : dn = 8 ∨ dn = 16 ∨ dn = 32 ∨ dn = 64 ∨ dn = 128) (h : lossyAdmissible S (Layout.ofInt di dn)) (x : Int) (hx : inRange S x) :
    fixedToInt x = .ok (x / 2 ^ S.f) false ∧ inI di dn (x / 2 ^ S.f) := by
  have h2 := (fixedToIntLossy_spec S hS di dn hdn h x hx).2
  rw [hf, Int.pow_zero, Int.ediv_one] at *
  exact ⟨rfl, h2⟩

theorem icvt_to_int_answer (p : Profile) (S : Layout) (hS : S.valid) (di : Bool) (dn : Nat)
    (hdn : dn = 8 ∨ dn = 16 ∨ dn = 32 ∨ dn = 64 ∨ dn = 128) (h : lossyAdmissible S (Layout.ofInt di dn)) (x : Int) (hx : inRange S x) :
    Outcome.render p (oInt (fixedToIntLossy S di dn x)) = specFixedToInt S di dn x ∧
    Outcome.render p (oInt (lossyInto (fixedToIntLossy S di dn) x)) = specFixedToInt S di dn x ∧
    (S.f = 0 → Outcome.render p (oInt (fixedToInt x)) = specFixedToInt S di dn x) := by
  obtain ⟨h1, h2⟩ := fixedToIntLossy_spec S hS di dn hdn h x hx
  unfold lossyInto specFixedToInt
  refine ⟨by rw [h1, render_ok, if_pos h2], by rw [h1, render_ok, if_pos h2], fun hf => ?_⟩
  rw [(fixedToInt_spec S hS hf di dn hdn h x hx).1, render_ok, if_pos h2]

theorem cvt_lossy_into_answer (p : Profile) (S D : Layout) (hS : S.valid) (hD : D.valid) (h : lossyAdmissible S D) (x : Int)
    (hx : inRange S x) :
    fixedToFixedLossy S D x = .ok (Layout.convExact S D x) false ∧ inRange D (Layout.convExact S D x) ∧
    Outcome.render p (oInt (lossyInto (fixedToFixedLossy S D) x)) = specFixedLossy S D x := by
  have h1 := lossyFrom_spec S D hS hD h x hx
  have h2 := convExact_inRange S D hS.pos hD.pos hD.2 h x hx
  refine ⟨h1, h2, ?_⟩
  unfold lossyInto specFixedLossy fixedToFixedLossy
  rw [h1, render_ok, if_pos h2]

/-- `LossyInto` is `LossyFrom` with the arguments swapped (blanket impl) -/
theorem lossyInto_eq {α β : Type} (g : α → β) (x : α) : lossyInto g x = g x := rfl

theorem wrappingFrom_eq (x : Int) : wrappingFrom x = x := rfl

theorem primToPrim_eq (k : Int) : primToPrim k = k := rfl

/-- `LossyFrom<integer> for f32 / f64`: nearest-even float of the integer; exact when the integer type has at most `prec` bits
(the rows documented as lossless: see `int_to_float_table_sound`) -/
theorem intToFloat_spec (F : FloatFmt) (hF : F = f32 ∨ F = f64) (si : Bool) (ni : Nat)
    (hni : ni = 8 ∨ ni = 16 ∨ ni = 32 ∨ ni = 64 ∨ ni = 128) (k : Int) (hk : inI si ni k) :
    intToFloat si ni F k = rneFloat F 0 k ∧
    toString (lossyInto (intToFloat si ni F) k) = specFixedToFloat false F 0 k ∧
    (ni ≤ F.prec → (∃ j : Nat, floatExact F (intToFloat si ni F k) = some (k * 2 ^ j, -(j : Int) - (0 : Nat))) ∧
      toString (intToFloat si ni F k) = specFixedToFloat true F 0 k) := by
  have hv := ofInt_valid si hni
  have e : intToFloat si ni F k = fixedToFloat (Layout.ofInt si ni) F k := rfl
  refine ⟨?_, ?_, fun hw => ⟨?_, ?_⟩⟩
  · rw [e]; exact fixedToFloat_lossy F hF _ hv k hk
  · rw [lossyInto_eq, e]; exact (fcvt_lossy_answer F hF _ hv k hk).2
  · rw [e]; exact fixedToFloat_lossless F hF _ hv hw k hk
  · rw [e]; exact fcvt_from_answer_of F _ k (fixedToFloat_lossy F hF _ hv k hk) (fixedToFloat_lossless F hF _ hv hw k hk)

/-! the type-level bounds of `convert.rs`, regenerated from the source on every run (`Generated.*Impls`) -/

/-- signedness and the number of bits every Rust target guarantees for a primitive integer type (`usize` / `isize`: 16; `bool`: the
`U1` of its where-clause) -/
def primBits : String → Option (Bool × Nat)
  | "i8" => some (true, 8) | "i16" => some (true, 16) | "i32" => some (true, 32) | "i64" => some (true, 64) | "i128" => some (true, 128)
  | "u8" => some (false, 8) | "u16" => some (false, 16) | "u32" => some (false, 32) | "u64" => some (false, 64) | "u128" => some (false, 128)
  | "isize" => some (true, 16) | "usize" => some (false, 16) | "bool" => some (false, 1)
  | _ => none

/-- the float formats by the names the tables use: the driver's `ExtFrom.primFloat` (`floatOf_eq_primFloat`) with the `half` formats
written out; kept apart because the row predicates and `hasToFloat_sound` are stated with it -/
def floatOf : String → Option FloatFmt
  | "f16" => some ⟨16, 11⟩ | "bf16" => some ⟨16, 8⟩ | "f32" => some f32 | "f64" => some f64 | _ => none

theorem floatOf_eq_primFloat (s : String) : floatOf s = primFloat s := by
  unfold floatOf primFloat
  split <;> try rfl
  split <;> simp_all

/-- an integer → fixed row is sound when the recorded source type has the recorded signedness and width and the constant of its
clause is the destination width (same signedness) or the width minus the sign bit (unsigned → signed); the `U0`-only rows are the
same-signedness same-width pairs; signed → unsigned is never offered -/
def fromIntSound : String × String × Bool × Nat × Bool × Nat × Bool × Nat → Bool
  | (tr, nm, ss, sn, ds, dn, g, c) =>
    (tr == "From" || tr == "LossyFrom") && primBits nm == some (ss, sn) && nm != "isize" && nm != "usize" &&
    (if g then (if ss == ds then c == dn else (!ss && ds && c + 1 == dn)) else (ss == ds && sn == dn))

theorem from_int_table_sound : Generated.fromIntImpls.all fromIntSound = true := by decide +kernel

/-- complete: (10 widening pairs × 3 sign combinations + 5 same-width pairs × 2 + 5 × 2 `bool` rows) for each trait; and every
`LossyFrom` row (whose body is `src.into()`) has its `From` row -/
theorem from_int_table_counts :
    (Generated.fromIntImpls.filter (·.1 == "From")).length = 50 ∧ (Generated.fromIntImpls.filter (·.1 == "LossyFrom")).length = 50 ∧
    (let froms := (Generated.fromIntImpls.filter (·.1 == "From")).map (·.2);
      (Generated.fromIntImpls.filter (·.1 == "LossyFrom")).all fun r => froms.contains r.2) = true := by decide +kernel

/-- what soundness of a row means; `hcl` is its where-clause for a concrete `FracDst`, as `findFromInt` tests it -/
theorem fromIntSound_admissible (tr nm : String) (ss : Bool) (sn : Nat) (ds : Bool) (dn : Nat) (g : Bool) (c : Nat)
    (h : fromIntSound (tr, nm, ss, sn, ds, dn, g, c) = true) (f : Nat)
    (hcl : (if g then decide (f ≤ c) && decide (sn ≤ c - f) else f == 0) = true) :
    primBits nm = some (ss, sn) ∧ (g = true → fromAdmissible (Layout.ofInt ss sn) ⟨ds, dn, f⟩) ∧
      (g = false → (⟨ds, dn, f⟩ : Layout) = ⟨ss, sn, 0⟩) := by
  unfold fromIntSound at h
  simp only [Bool.and_eq_true] at h
  obtain ⟨⟨⟨⟨_, hp⟩, _⟩, _⟩, hb⟩ := h
  refine ⟨eq_of_beq hp, fun hg => ?_, fun hg => ?_⟩
  · subst hg
    simp only [if_true, Bool.and_eq_true, decide_eq_true_eq] at hb hcl
    exact ⟨Nat.zero_le f, lossyAdmissible_of_row (Layout.ofInt ss sn) ⟨ds, dn, f⟩ c _ _ hb
      (fun h => Nat.le_of_eq (eq_of_beq h)) (fun h => Nat.le_of_eq (eq_of_beq h)) hcl.1 hcl.2⟩
  · subst hg
    simp only [Bool.false_eq_true, if_false, Bool.and_eq_true, beq_iff_eq] at hb hcl
    rw [hb.1, hb.2, hcl]

theorem findFromInt_sound (tr ity : String) (D : Layout) (g : Bool) (h : findFromInt tr ity D = some g) :
    ∃ ss sn, primBits ity = some (ss, sn) ∧
      (g = true → fromAdmissible (Layout.ofInt ss sn) D) ∧ (g = false → D = ⟨ss, sn, 0⟩) := by
  unfold findFromInt at h
  obtain ⟨⟨t, nm, ss, sn, ds, dn, g', c⟩, hfind, rfl⟩ := Option.map_eq_some_iff.mp h
  obtain ⟨hsound, hpred⟩ := find_of_all from_int_table_sound hfind
  obtain ⟨dsg, dnn, df⟩ := D
  simp only [Bool.and_eq_true, beq_iff_eq] at hpred
  obtain ⟨⟨⟨⟨_, rfl⟩, rfl⟩, rfl⟩, hcl⟩ := hpred
  exact ⟨ss, sn, fromIntSound_admissible _ _ _ _ _ _ _ _ hsound df hcl⟩

/-- a fixed → integer row is sound when the destination type has the recorded signedness and, with `w` the number of bits the
destination is guaranteed to have, the constant of the clause is at most `w` (same signedness) resp. `w − 1` (unsigned → signed);
the `U0`-only rows (`From`) carry no clause: there the source width itself must satisfy the bound -/
def toIntSound : String × Bool × Nat × String × Bool × Bool × Nat → Bool
  | (tr, ss, sn, dnm, ds, g, c) =>
    match primBits dnm with
    | some (ds', w) => ds' == ds && dnm != "bool" &&
        (if g then tr == "LossyFrom" && (if ss == ds then decide (c ≤ w) else (!ss && ds && decide (c + 1 ≤ w)))
         else tr == "From" && (if ss == ds then decide (sn ≤ w) else (!ss && ds && decide (sn + 1 ≤ w))))
    | none => false

theorem to_int_table_sound : Generated.toIntImpls.all toIntSound = true := by decide +kernel

/-- complete: `From` for the 6 same-width/`usize` rows × 2 and the 11 `wider` rows × 3; `LossyFrom` for 5 sources × 6 destinations × 3 -/
theorem to_int_table_counts :
    (Generated.toIntImpls.filter (·.1 == "From")).length = 45 ∧ (Generated.toIntImpls.filter (·.1 == "LossyFrom")).length = 90 := by decide +kernel

/-- what soundness of a fixed → integer row means; `hcl` is its clause for a concrete `FracSrc` as `hasToInt` tests it (`FracSrc = 0` for the
`U0` rows of `From`), `W` any actual width of the destination integer, at least the guaranteed one -/
theorem toIntSound_admissible (tr : String) (ss : Bool) (sn : Nat) (dnm : String) (ds g : Bool) (c : Nat)
    (h : toIntSound (tr, ss, sn, dnm, ds, g, c) = true) (f : Nat)
    (hcl : (if g then decide (f ≤ sn) && decide (sn - f ≤ c) else f == 0) = true) :
    ∃ w, primBits dnm = some (ds, w) ∧ dnm ≠ "bool" ∧ (tr = "From" → f = 0) ∧
      ∀ W, w ≤ W → lossyAdmissible ⟨ss, sn, f⟩ (Layout.ofInt ds W) := by
  cases hp : primBits dnm with
  | none => simp [toIntSound, hp] at h
  | some pw =>
    obtain ⟨ds', w⟩ := pw
    simp only [toIntSound, hp, Bool.and_eq_true] at h
    obtain ⟨⟨hds, hnb⟩, hb⟩ := h
    obtain rfl := eq_of_beq hds
    replace hnb := bne_iff_ne.1 hnb
    -- the bound is the constant of the clause (generic rows) or the source width itself (`U0` rows)
    cases g
    · simp only [Bool.false_eq_true, if_false, Bool.and_eq_true] at hb hcl
      obtain rfl := eq_of_beq hcl
      exact ⟨w, rfl, hnb, fun _ => rfl, fun W hW => lossyAdmissible_of_row ⟨ss, sn, 0⟩ (Layout.ofInt ds' W) sn _ _ hb.2
        (fun h => Nat.le_trans (of_decide_eq_true h) hW) (fun h => Nat.le_trans (of_decide_eq_true h) hW) (Nat.zero_le _)
        (Nat.le_refl _)⟩
    · simp only [if_true, Bool.and_eq_true, decide_eq_true_eq] at hb hcl
      exact ⟨w, rfl, hnb, fun hfrom => by rw [hfrom] at hb; exact absurd hb.1 (by decide),
        fun W hW => lossyAdmissible_of_row ⟨ss, sn, f⟩ (Layout.ofInt ds' W) c _ _ hb.2
          (fun h => Nat.le_trans (of_decide_eq_true h) hW) (fun h => Nat.le_trans (of_decide_eq_true h) hW) (Nat.zero_le _)
          hcl.2⟩

theorem hasToInt_sound (tr : String) (S : Layout) (ity : String) (h : hasToInt tr S ity = true) :
    ∃ ds w, primBits ity = some (ds, w) ∧ ity ≠ "bool" ∧ (tr = "From" → S.f = 0) ∧
      ∀ W, w ≤ W → lossyAdmissible S (Layout.ofInt ds W) := by
  obtain ⟨⟨t, ss, sn, dnm, ds, g, c⟩, hsound, hpred⟩ := any_of_all to_int_table_sound h
  obtain ⟨sg, n, f⟩ := S
  simp only [Bool.and_eq_true, beq_iff_eq] at hpred
  obtain ⟨⟨⟨⟨rfl, rfl⟩, rfl⟩, rfl⟩, hcl⟩ := hpred
  exact ⟨ds, toIntSound_admissible _ _ _ _ _ _ _ hsound f hcl⟩

/-- a fixed → float row is sound when it is a `LossyFrom` row (any source) or a `From` row whose whole source width fits the
significand and whose values stay in the normal exponent range of the destination format -/
def toFloatSound : String × Bool × Nat × String × Bool → Bool
  | (tr, _, sn, fl, _) =>
    match floatOf fl with
    | some F => tr == "LossyFrom" || (tr == "From" && decide (sn ≤ F.prec) && decide ((sn : Int) ≤ -F.expMin) && decide ((sn : Int) - 1 ≤ F.expMax))
    | none => false

theorem to_float_table_sound : Generated.toFloatImpls.all toFloatSound = true := by decide +kernel

/-- complete without the `f16` feature: `From` for 8/16-bit sources → `f32` and 8/16/32-bit sources → `f64`, `LossyFrom` for all ten
families × {`f32`, `f64`} -/
theorem to_float_table_counts :
    (Generated.toFloatImpls.filter fun r => r.1 == "From" && !r.2.2.2.2).length = 10 ∧
    (Generated.toFloatImpls.filter fun r => r.1 == "LossyFrom" && !r.2.2.2.2).length = 20 := by decide +kernel

theorem hasToFloat_sound (S : Layout) (fty : String) (h : hasToFloat "From" S fty = true) :
    ∃ F, floatOf fty = some F ∧ S.n ≤ F.prec := by
  obtain ⟨⟨t, ss, sn, fl, cfg⟩, hsound, hpred⟩ := any_of_all to_float_table_sound h
  simp only [Bool.and_eq_true, beq_iff_eq] at hpred
  obtain ⟨⟨⟨⟨⟨rfl, _⟩, rfl⟩, rfl⟩, _⟩, _⟩ := hpred
  cases hF : floatOf fl with
  | none => simp [toFloatSound, hF] at hsound
  | some F =>
    simp [toFloatSound, hF] at hsound
    exact ⟨F, rfl, hsound.1.1⟩

/-- an integer → float row documented as lossless is sound when the integer type has a fixed width that fits the significand
(`usize` / `isize` may be wider than any guarantee, so they must be documented as lossy) -/
def intToFloatSound : String × String × Bool × Bool → Bool
  | (it, fl, ll, _) =>
    match primBits it, floatOf fl with
    | some (_, w), some F => it != "bool" && (!ll || (it != "usize" && it != "isize" && decide (w ≤ F.prec)))
    | _, _ => false

theorem int_to_float_table_sound : Generated.intToFloatImpls.all intToFloatSound = true := by decide +kernel

/-- a primitive → primitive row: `id` rows are reflexive; `into` rows between integers need the source range inside the destination's
guaranteed range (a `usize` / `isize` source only to itself); `into` rows between floats need the precision, the largest exponent and the smallest (subnormal) quantum of the source to be covered;
the explicit rows (`as`, `from_f32`, …) are documented as rounding and carry no obligation -/
def primLossySound : String × String × String × Bool → Bool
  | (src, dst, how, _) =>
    if how == "id" then src == dst
    else if how == "into" then
      match primBits src, primBits dst, floatOf src, floatOf dst with
      | some (ss, ws), some (ds, wd), _, _ =>
          src != "usize" && src != "isize" && dst != "bool" && (if ss == ds then decide (ws ≤ wd) else (!ss && ds && decide (ws + 1 ≤ wd)))
      | _, _, some Fs, some Fd => decide (Fs.prec ≤ Fd.prec) && decide (Fd.expMin - ((Fd.prec - 1 : Nat) : Int) ≤ Fs.expMin - ((Fs.prec - 1 : Nat) : Int)) && decide (Fs.expMax ≤ Fd.expMax)
      | _, _, _, _ => false
    else true

theorem prim_lossy_table_sound : Generated.primLossyImpls.all primLossySound = true := by decide +kernel

theorem primBits_pos (ity : String) (ss : Bool) (sn : Nat) (h : primBits ity = some (ss, sn)) : 0 < sn := by
  unfold primBits at h
  split at h <;> cases h <;> decide

/-- the driver's width table (`usize` / `isize` = 64 on the test target) against the guaranteed widths -/
theorem intTy_primBits (ity : String) (ds : Bool) (w : Nat) (h : primBits ity = some (ds, w)) (hb : ity ≠ "bool") :
    ∃ dn, DriverConv.intTy ity = some (ds, dn) ∧ w ≤ dn ∧ (dn = 8 ∨ dn = 16 ∨ dn = 32 ∨ dn = 64 ∨ dn = 128) := by
  unfold primBits at h
  split at h <;> cases h <;> first | exact absurd rfl hb | exact ⟨_, rfl, by decide, by decide⟩

/-- `icvt_from` / `icvt_from_lossy` / `icvt_from_linto`: whenever the lookup finds an impl, the call returns the representation of
the integer in both profiles (no panic, no debug flag), which is the documented answer -/
theorem icvt_from_row (p : Profile) (tr ity : String) (D : Layout) (g : Bool) (h : findFromInt tr ity D = some g)
    (ss : Bool) (sn : Nat) (hp : primBits ity = some (ss, sn)) (k : Int) (hk : inI ss sn k) :
    intToFixedLossy g D k = .ok (k * 2 ^ D.f) false ∧ inRange D (k * 2 ^ D.f) ∧
    Outcome.render p (oInt (intToFixedLossy g D k)) = specIntToFixed D k ∧
    Outcome.render p (oInt (lossyInto (intToFixedLossy g D) k)) = specIntToFixed D k := by
  obtain ⟨ss', sn', hp', hg, hs⟩ := findFromInt_sound tr ity D g h
  rw [hp] at hp'
  simp only [Option.some.injEq, Prod.mk.injEq] at hp'
  obtain ⟨h1, h2⟩ := hp'
  subst h1 h2
  cases g
  · rw [hs rfl]
    obtain ⟨a, b⟩ := intToFixedSame_spec ss sn k hk
    obtain ⟨_, c, d⟩ := icvt_from_same_answer p ss sn k hk
    exact ⟨a, b, c, d⟩
  · obtain ⟨a, b⟩ := intToFixed_spec ss sn (primBits_pos ity ss sn hp) D (hg rfl) k hk
    obtain ⟨_, c, d⟩ := icvt_from_answer p ss sn (primBits_pos ity ss sn hp) D (hg rfl) k hk
    exact ⟨a, b, c, d⟩

/-- `icvt_into` / `icvt_lossy` / `icvt_linto`: whenever the lookup finds an impl, the call returns `⌊x / 2^f⌋` (`= x` for the `U0`
sources of `From`) in both profiles, which fits the integer type and is the documented answer -/
theorem icvt_to_int_row (p : Profile) (tr : String) (S : Layout) (hS : S.valid) (ity : String) (h : hasToInt tr S ity = true)
    (di : Bool) (dn : Nat) (hty : DriverConv.intTy ity = some (di, dn)) (x : Int) (hx : inRange S x) :
    fixedToIntLossy S di dn x = .ok (x / 2 ^ S.f) false ∧ inI di dn (x / 2 ^ S.f) ∧
    Outcome.render p (oInt (fixedToIntLossy S di dn x)) = specFixedToInt S di dn x ∧
    Outcome.render p (oInt (lossyInto (fixedToIntLossy S di dn) x)) = specFixedToInt S di dn x ∧
    (tr = "From" → S.f = 0 ∧ fixedToInt x = .ok (x / 2 ^ S.f) false ∧ Outcome.render p (oInt (fixedToInt x)) = specFixedToInt S di dn x) := by
  obtain ⟨ds, w, hw, hb, hfrom, hadm⟩ := hasToInt_sound tr S ity h
  obtain ⟨dn', hty', e2, hdn⟩ := intTy_primBits ity ds w hw hb
  rw [hty'] at hty
  cases hty
  have hl := hadm dn e2
  obtain ⟨a, b⟩ := fixedToIntLossy_spec S hS di dn hdn hl x hx
  obtain ⟨c, d, e⟩ := icvt_to_int_answer p S hS di dn hdn hl x hx
  exact ⟨a, b, c, d, fun ht => ⟨hfrom ht, (fixedToInt_spec S hS (hfrom ht) di dn hdn hl x hx).1, e (hfrom ht)⟩⟩

/-- `fcvt_from`: whenever the lookup finds a `From<Fixed> for f32 / f64` (or, feature `f16`, `for f16`) impl, the result denotes the source value exactly and is the
documented answer -/
theorem fcvt_from_row (S : Layout) (hS : S.valid) (fty : String) (h : hasToFloat "From" S fty = true) (F : FloatFmt)
    (hF : primFloat fty = some F) (x : Int) (hx : inRange S x) :
    (∃ k : Nat, floatExact F (fixedToFloat S F x) = some (x * 2 ^ k, -(k : Int) - S.f)) ∧
    toString (fixedToFloat S F x) = specFixedToFloat true F S.f x := by
  obtain ⟨F', hF', hw⟩ := hasToFloat_sound S fty h
  rw [floatOf_eq_primFloat, hF] at hF'
  cases hF'
  obtain ⟨hok, hmin, hz⟩ := primFloat_facts hF
  have hlossy : fixedToFloat S F x = rneFloat F S.f x := toFloat_eq_rneFloat_gen F hok S hS x hx
  have hk := fixedToFloat_lossless_of F hok hmin hz S hS hw x hx
  exact ⟨hk, fcvt_from_answer_of F S x hlossy hk⟩

/-- `cvt_lossy_into`: whenever the lookup finds a `LossyFrom` impl between the two fixed-point types, the call returns the exact
conversion result in both profiles -/
theorem cvt_lossy_into_row (p : Profile) (S D : Layout) (hS : S.valid) (hD : D.valid) (h : hasFixed "LossyFrom" S D = true)
    (x : Int) (hx : inRange S x) :
    fixedToFixedLossy S D x = .ok (Layout.convExact S D x) false ∧ inRange D (Layout.convExact S D x) ∧
    Outcome.render p (oInt (lossyInto (fixedToFixedLossy S D) x)) = specFixedLossy S D x := by
  obtain ⟨⟨t, ss, sn, ds, dn, leF, ib⟩, hsound, hpred⟩ := any_of_all C04.from_table_sound h
  obtain ⟨s1, n1, f1⟩ := S
  obtain ⟨s2, n2, f2⟩ := D
  simp only [Bool.and_eq_true, beq_iff_eq, decide_eq_true_eq, Bool.or_eq_true, Bool.not_eq_true'] at hpred
  obtain ⟨⟨⟨⟨⟨⟨⟨⟨_, h1⟩, h2⟩, h3⟩, h4⟩, h5⟩, h6⟩, h7⟩, h8⟩ := hpred
  subst h1 h2 h3 h4
  have hadm := (C04.implSound_admissible _ _ _ _ _ _ _ hsound f1 f2 h6 h7
    (fun hl => by rcases h5 with h5 | h5; · rw [hl] at h5; cases h5
                  · exact h5) h8).1
  exact cvt_lossy_into_answer p _ _ hS hD hadm x hx

end Sfx.ExtFromPf

/-- non-vacuity: lookups succeed on admissible pairs and fail just beyond the bound -/
example : Sfx.ExtFrom.findFromInt "From" "u8" ⟨true, 32, 23⟩ = some true ∧ Sfx.ExtFrom.findFromInt "From" "u8" ⟨true, 32, 24⟩ = none ∧
    Sfx.ExtFrom.findFromInt "LossyFrom" "i128" ⟨true, 128, 0⟩ = some false ∧ Sfx.ExtFrom.findFromInt "From" "i8" ⟨false, 128, 0⟩ = none ∧
    Sfx.ExtFrom.findFromInt "From" "bool" ⟨true, 8, 6⟩ = some true ∧ Sfx.ExtFrom.findFromInt "From" "bool" ⟨true, 8, 7⟩ = none ∧
    Sfx.ExtFrom.hasToInt "LossyFrom" ⟨false, 32, 16⟩ "usize" = true ∧ Sfx.ExtFrom.hasToInt "LossyFrom" ⟨false, 32, 15⟩ "usize" = false ∧
    Sfx.ExtFrom.hasToInt "From" ⟨false, 8, 0⟩ "isize" = true ∧ Sfx.ExtFrom.hasToInt "From" ⟨false, 16, 0⟩ "isize" = false ∧
    Sfx.ExtFrom.hasToFloat "From" ⟨true, 16, 16⟩ "f32" = true ∧ Sfx.ExtFrom.hasToFloat "From" ⟨true, 32, 0⟩ "f32" = false := by decide +kernel

#print axioms Sfx.ExtFromPf.fixedToFloat_lossy
#print axioms Sfx.ExtFromPf.fixedToFloat_lossless
#print axioms Sfx.ExtFromPf.fcvt_lossy_answer
#print axioms Sfx.ExtFromPf.intToFixed_spec
#print axioms Sfx.ExtFromPf.intToFixedSame_spec
#print axioms Sfx.ExtFromPf.icvt_from_answer
#print axioms Sfx.ExtFromPf.icvt_from_same_answer
#print axioms Sfx.ExtFromPf.fixedToIntLossy_spec
#print axioms Sfx.ExtFromPf.fixedToInt_spec
#print axioms Sfx.ExtFromPf.icvt_to_int_answer
#print axioms Sfx.ExtFromPf.cvt_lossy_into_answer
#print axioms Sfx.ExtFromPf.lossyInto_eq
#print axioms Sfx.ExtFromPf.wrappingFrom_eq
#print axioms Sfx.ExtFromPf.primToPrim_eq
#print axioms Sfx.ExtFromPf.intToFloat_spec
#print axioms Sfx.ExtFromPf.from_int_table_sound
#print axioms Sfx.ExtFromPf.from_int_table_counts
#print axioms Sfx.ExtFromPf.fromIntSound_admissible
#print axioms Sfx.ExtFromPf.findFromInt_sound
#print axioms Sfx.ExtFromPf.to_int_table_sound
#print axioms Sfx.ExtFromPf.to_int_table_counts
#print axioms Sfx.ExtFromPf.toIntSound_admissible
#print axioms Sfx.ExtFromPf.hasToInt_sound
#print axioms Sfx.ExtFromPf.to_float_table_sound
#print axioms Sfx.ExtFromPf.to_float_table_counts
#print axioms Sfx.ExtFromPf.hasToFloat_sound
#print axioms Sfx.ExtFromPf.int_to_float_table_sound
#print axioms Sfx.ExtFromPf.prim_lossy_table_sound
#print axioms Sfx.ExtFromPf.icvt_from_row
#print axioms Sfx.ExtFromPf.icvt_to_int_row
#print axioms Sfx.ExtFromPf.fcvt_from_row
#print axioms Sfx.ExtFromPf.cvt_lossy_into_row
