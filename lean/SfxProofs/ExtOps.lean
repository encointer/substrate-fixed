import SfxModel.ExtOps
import SfxProofs.Wrapping
import SfxProofs.Convert
/-
  ExtOps.lean — the operator trait impls on the plain fixed-point types (`SfxModel/ExtOps.lean`, `arith.rs`):

  * `fstep_spec`: the model of every operator step is the documented behaviour `fstepSpec`, for every valid layout and in BOTH
    profiles (equality of `Outcome`s: release value and debug flag); programs of any length follow by `frun_congr`
    (`C02.plain_operator_programs`);
  * `fstep_rel_eq_wstep` / `frun_rel_eq_wrun`: in a release build the plain operators ARE the `Wrapping<F>` operators — except
    `MIN / -1` by an integer (`Div<Inner>` is the primitive `/`, which panics in every profile; `fstep_divInt_overflow`);
  * `fstep_chk_*`: in a checking build a step returns its exact result iff that result is representable and panics
    otherwise (zero divisor included); shifts panic iff the amount is outside `[0, n)`; `Sum` / `Product` panic iff a partial
    result is not representable; `frun_cons`: a program stops at the first step that shows a panic in its profile.

  The arithmetic steps are documented as `plainOf (wexact …)`: `plainDoc` of the exact result that `Wrapping<F>` reduces modulo `2^n`
  (`fstepSpec_arith`).  The release view, the checked view and the range of the result are read off that.
-/
namespace Sfx.ExtOpsPf
open Sfx.Layout Sfx.WrapPf

/-- a step's operands are bit patterns of the layout, `Neg` exists for the signed types only (what the typed API can express) -/
def _root_.Sfx.FStep.wf (L : Layout) : FStep → Prop
  | .add y | .sub y | .mul y | .div y | .rem y => inRange L y
  | .bitand y | .bitor y | .bitxor y => inRange L y
  | .mulInt k | .divInt k | .remInt k => inRange L k
  | .sum ys | .product ys => ∀ y ∈ ys, inRange L y
  | .neg => L.signed = true
  | .not | .shl _ | .shr _ | .sum0 | .product0 => True

theorem wf_toW (L : Layout) (st : FStep) (h : st.wf L) : st.toW.wf L := by
  cases st <;> first | exact h | trivial

theorem plainDoc_of_in (L : Layout) (hn : 0 < L.n) {e : Int} (h : inRange L e) : L.plainDoc e = .ok e false :=
  plain_of_inRange rfl hn h

theorem plainDoc_of_not_in (L : Layout) {e : Int} (h : ¬ inRange L e) : L.plainDoc e = .ok (L.wrap e) true := by
  unfold plainDoc
  simp [h]

theorem notI_eq (L : Layout) (hn : 0 < L.n) (x : Int) (hx : inRange L x) :
    notI L.signed L.n x = L.max + L.min - x ∧ inRange L (L.max + L.min - x) := by
  have hin : inI L.signed L.n (maxI L.signed L.n + minI L.signed L.n - x) := by unfold inRange inI at *; omega
  refine ⟨?_, hin⟩
  -- `MAX + MIN` is `-1` (signed) or `2^n - 1` (unsigned): `-x - 1` up to one period
  obtain ⟨hM, hm, hp, _⟩ := window L.signed hn
  obtain ⟨k, hk⟩ : ∃ k : Int, -x - 1 = maxI L.signed L.n + minI L.signed L.n - x + k * 2 ^ L.n := by
    rcases hm with h | ⟨_, h⟩
    · exact ⟨-1, by omega⟩
    · exact ⟨0, by omega⟩
  unfold notI
  rw [hk, wrapI_add_mul]
  exact wrapI_of_in hn hin

theorem foldlM_congr_inRange (L : Layout) (hn : 0 < L.n) (f : Int → Int → Outcome Int) (e : Int → Int → Int)
    (ys : List Int) (hf : ∀ acc y, inRange L acc → y ∈ ys → f acc y = L.plainDoc (e acc y)) (acc : Int) (hacc : inRange L acc) :
    ys.foldlM f acc = ys.foldlM (fun acc y => L.plainDoc (e acc y)) acc := by
  induction ys generalizing acc with
  | nil => rfl
  | cons y ys ih =>
    rw [List.foldlM_cons, List.foldlM_cons, hf acc y hacc (List.mem_cons_self ..)]
    exact Outcome.bind_ok_congr _ _
      (ih (fun a z ha hz => hf a z ha (List.mem_cons_of_mem _ hz)) _ (wrap_in L hn _))

/-- what a build of profile `p` observes of a call -/
def view {α : Type} (p : Profile) (o : Outcome α) : Option α :=
  match p with
  | .chk => o.chk
  | .rel => o.rel

theorem view_eq_some {α : Type} {p : Profile} {o : Outcome α} {v : α} (h : view p o = some v) : ∃ d, o = .ok v d := by
  cases o with
  | panic => cases p <;> cases h
  | ok w d => cases p <;> cases d <;> cases h <;> exact ⟨_, rfl⟩

theorem frun_cons (step : Int → FStep → Outcome Int) (p : Profile) (x : Int) (st : FStep) (rest : List FStep) :
    Layout.frun step p x (st :: rest) =
      match view p (step x st) with
      | none => [none]
      | some v => some v :: Layout.frun step p v rest := by
  show (match step x st with
    | .panic => [none]
    | .ok v d => if p = Profile.chk && d then [none] else some v :: Layout.frun step p v rest) = _
  cases step x st with
  | panic => cases p <;> rfl
  | ok v d => cases p <;> cases d <;> rfl

/-- `I` is what is known of the current value and the remaining program -/
theorem frun_congr (I : Int → List FStep → Prop) (step step' : Int → FStep → Outcome Int) (p p' : Profile)
    (h : ∀ x st rest, I x (st :: rest) →
      view p (step x st) = view p' (step' x st) ∧ ∀ v, view p (step x st) = some v → I v rest)
    (x : Int) (prog : List FStep) (hI : I x prog) : Layout.frun step p x prog = Layout.frun step' p' x prog := by
  induction prog generalizing x with
  | nil => rfl
  | cons st rest ih =>
    obtain ⟨h1, h2⟩ := h x st rest hI
    rw [frun_cons, frun_cons, ← h1]
    cases hv : view p (step x st) with
    | none => rfl
    | some v => exact congrArg (some v :: ·) (ih v (h2 v hv))

theorem wrun_map (step : Int → WStep → Outcome Int) (p : Profile) (x : Int) (prog : List FStep) :
    Layout.wrun step p x (prog.map FStep.toW) = Layout.frun (fun x st => step x st.toW) p x prog := by
  induction prog generalizing x with
  | nil => rfl
  | cons st rest ih =>
    rw [List.map_cons]
    unfold Layout.wrun Layout.frun
    cases step x st.toW with
    | panic => rfl
    | ok v d => simp only [ih]

theorem fstep_spec (L : Layout) (hv : L.valid) (x : Int) (hx : inRange L x) (st : FStep) (hw : st.wf L) :
    L.fstep x st = L.fstepSpec x st := by
  have hf := hv.2
  have hn := hv.pos
  cases st with
  | add y => rfl
  | sub y => rfl
  | mul y => exact (mul_forms L hn x y (C01.mulOverflow_spec L hv x y hx hw)).2
  | div y =>
    show L.divOp x y = if y = 0 then .panic else L.plainDoc (divSpec L.f x y)
    by_cases h0 : y = 0
    · subst h0; rw [if_pos rfl]
      exact (div_zero_forms L x (C01.divOverflow_zero L hv x hx)).2.2.2.2
    · rw [if_neg h0]
      exact (div_forms L hn x y h0 (C01.divOverflow_spec L hv x y hx hw h0)).2
  | rem y =>
    show L.remOp x y = if y = 0 then .panic else L.plainDoc (Int.tmod x y)
    by_cases h0 : y = 0
    · subst h0; rw [if_pos rfl]; exact remOp_zero L x
    · rw [if_neg h0, plainDoc_of_in L hn (tmod_in y hx)]
      exact (rem_spec L x y hx hw h0).1
  | bitand y => rfl
  | bitor y => rfl
  | bitxor y => rfl
  | not =>
    show Outcome.ok (notI L.signed L.n x) false = Outcome.ok (L.max + L.min - x) false
    rw [(notI_eq L hn x hx).1]
  | neg => rfl
  | mulInt k => rfl
  | divInt k =>
    show L.divIntOp x k = if k = 0 then .panic else if inRange L (Int.tdiv x k) then .ok (Int.tdiv x k) false else .panic
    by_cases h0 : k = 0
    · subst h0; rw [if_pos rfl]; rfl
    · rw [if_neg h0]
      by_cases hin : inRange L (Int.tdiv x k)
      · rw [if_pos hin]; exact divIntOp_of_in L x k h0 hin
      · rw [if_neg hin]; exact divIntOp_of_not_in L x k h0 hin
  | remInt k =>
    show L.remIntOp x k = if k = 0 then .panic else L.plainDoc (Int.tmod x (k * 2 ^ L.f))
    by_cases h0 : k = 0
    · subst h0; rw [if_pos rfl]; exact remIntOp_zero L x
    · rw [if_neg h0, plainDoc_of_in L hn (tmod_in _ hx)]
      exact (remInt_spec L hn hf x k hx hw h0).1
  | shl a => rfl
  | shr a => rfl
  | sum ys => rfl
  | product ys =>
    show ys.foldlM (fun acc y => L.mulOp acc y) x = ys.foldlM (fun acc y => L.plainDoc (mulSpec L.f acc y)) x
    exact foldlM_congr_inRange L hn _ _ ys
      (fun acc y hacc hy => (mul_forms L hn acc y (C01.mulOverflow_spec L hv acc y hacc (hw y hy))).2) x hx
  | sum0 => rfl
  | product0 =>
    show Layout.fromFixed (Layout.ofInt true 32) L 1 = L.plainDoc (2 ^ L.f)
    have h := (ConvPf.fromInt_spec L hv true 32 (by decide) 1 (by decide)).2.2.2.2
    rw [h, Int.one_mul]; rfl

/-- link with `ArithSpec`: `plainDoc` refines `Form.spec … .plain` (it agrees wherever that constrains the answer, and fixes the
unconstrained case to "panic with checks, wrapped value without") -/
theorem plainDoc_refines_plain (L : Layout) (hn : 0 < L.n) (E : Int) (v : Outcome Val) (hv : Form.spec L E .plain = some v) :
    oInt (L.plainDoc E) = v :=
  plain_spec L hn E (L.plainDoc E) rfl v hv

/-- the one exception: the quotient of `Div<Inner>` must be representable (it is not only for `MIN / -1`) -/
def _root_.Sfx.FStep.divIntOk (L : Layout) (x : Int) : FStep → Prop
  | .divInt k => inRange L (Int.tdiv x k)
  | _ => True

theorem shiftMasked_eq (L : Layout) (hv : L.valid) (a : Int) : L.shiftMasked a = L.shiftAmount a := by
  unfold shiftMasked shiftAmount wrapU
  have hd : ((L.n : Nat) : Int) ∣ 2 ^ 32 := by
    rcases hv.1 with h | h | h | h | h <;> rw [h]
    · exact ⟨2 ^ 29, by decide⟩
    · exact ⟨2 ^ 28, by decide⟩
    · exact ⟨2 ^ 27, by decide⟩
    · exact ⟨2 ^ 26, by decide⟩
    · exact ⟨2 ^ 25, by decide⟩
  rw [Int.emod_emod_of_dvd a hd]

theorem foldlM_plainDoc_val (L : Layout) (e : Int → Int → Int) (ys : List Int) (acc : Int) :
    ∃ d, ys.foldlM (fun acc y => L.plainDoc (e acc y)) acc = .ok (ys.foldl (fun acc y => L.wrap (e acc y)) acc) d := by
  induction ys generalizing acc with
  | nil => exact ⟨false, rfl⟩
  | cons y ys ih =>
    obtain ⟨d, hd⟩ := ih (L.wrap (e acc y))
    refine ⟨(!decide (inRange L (e acc y))) || d, ?_⟩
    rw [List.foldlM_cons, List.foldl_cons]
    show Outcome.bind (.ok (L.wrap (e acc y)) (!decide (inRange L (e acc y)))) _ = _
    simp only [Outcome.bind, hd]

theorem plainDoc_chk (L : Layout) (hn : 0 < L.n) (e : Int) :
    (L.plainDoc e).chk = if inRange L e then some e else none := by
  by_cases h : inRange L e
  · rw [plainDoc_of_in L hn h, if_pos h]; rfl
  · rw [plainDoc_of_not_in L h, if_neg h]; rfl

/-- the single arithmetic / bitwise operators whose documented result is ONE exact value (`Layout.wexact`; `none` = zero divisor) -/
def _root_.Sfx.FStep.arith : FStep → Prop
  | .not | .shl _ | .shr _ | .sum _ | .product _ => False
  | _ => True

/-- the documented result of an operator without overflow handling, from its exact result (`none` = zero divisor) -/
def plainOf (L : Layout) : Option Int → Outcome Int
  | none => .panic
  | some e => L.plainDoc e

theorem plainOf_ite (L : Layout) (c : Prop) [Decidable c] (e : Int) :
    (if c then Outcome.panic else L.plainDoc e) = plainOf L (if c then none else some e) := by
  split <;> rfl

theorem fstepSpec_arith (L : Layout) (hn : 0 < L.n) (x : Int) (st : FStep) (ha : st.arith) (hd : st.divIntOk L x) :
    L.fstepSpec x st = plainOf L (L.wexact x st.toW) := by
  cases st with
  | div y => exact plainOf_ite L _ _
  | rem y => exact plainOf_ite L _ _
  | remInt k => exact plainOf_ite L _ _
  | divInt k =>
    have hd' : inRange L (Int.tdiv x k) := hd
    show (if k = 0 then Outcome.panic else if inRange L (Int.tdiv x k) then .ok (Int.tdiv x k) false else .panic) = _
    rw [if_pos hd', ← plainDoc_of_in L hn hd']
    exact plainOf_ite L _ _
  | bitand y => exact (plainDoc_of_in L hn (wrapI_in hn _)).symm
  | bitor y => exact (plainDoc_of_in L hn (wrapI_in hn _)).symm
  | bitxor y => exact (plainDoc_of_in L hn (wrapI_in hn _)).symm
  | sum0 => exact (plainDoc_of_in L hn (inRange_zero L)).symm
  | not => exact ha.elim
  | shl a => exact ha.elim
  | shr a => exact ha.elim
  | sum ys => exact ha.elim
  | product ys => exact ha.elim
  | _ => rfl

theorem plainOf_rel (L : Layout) (o : Option Int) :
    (plainOf L o).rel = (match o with | none => Outcome.panic | some e => Outcome.ok (L.wrap e) false).rel := by
  cases o <;> rfl

theorem plainOf_chk (L : Layout) (hn : 0 < L.n) (o : Option Int) :
    (plainOf L o).chk = o.bind (fun e => if inRange L e then some e else none) := by
  cases o with
  | none => rfl
  | some e => exact plainDoc_chk L hn e

theorem fstepSpec_rel (L : Layout) (hn : 0 < L.n) (x : Int) (st : FStep) (ha : st.arith) (hd : st.divIntOk L x) :
    (L.fstepSpec x st).rel = (L.wstepSpec x st.toW).rel := by
  rw [fstepSpec_arith L hn x st ha hd]
  exact plainOf_rel L _

theorem fstep_of_not_divIntOk (L : Layout) (x : Int) (st : FStep) (hd : ¬ st.divIntOk L x) :
    ∃ k, st = .divInt k ∧ k ≠ 0 ∧ ¬ inRange L (Int.tdiv x k) := by
  cases st with
  | divInt k =>
    refine ⟨k, rfl, fun h0 => hd ?_, hd⟩
    subst h0
    show inRange L (Int.tdiv x 0)
    rw [Int.tdiv_zero]; exact inRange_zero L
  | _ => exact absurd trivial hd

theorem fstep_rel_eq_wstep (L : Layout) (hv : L.valid) (x : Int) (hx : inRange L x) (st : FStep) (hw : st.wf L)
    (hd : st.divIntOk L x) : (L.fstep x st).rel = (L.wstep x st.toW).rel := by
  have hn : 0 < L.n := hv.pos
  have hW := wstep_spec L hv x hx st.toW (wf_toW L st hw)
  have hF := fstep_spec L hv x hx st hw
  cases st with
  | not => rfl
  | shl a =>
    rw [hF, hW]
    show some (L.wrap (x * 2 ^ L.shiftMasked a)) = some (L.wrap (x * 2 ^ L.shiftAmount a))
    rw [shiftMasked_eq L hv]
  | shr a =>
    rw [hF, hW]
    show some (x / 2 ^ L.shiftMasked a) = some (L.wrap (x / 2 ^ L.shiftAmount a))
    rw [shiftMasked_eq L hv, wrap_of_in L hn (shr_in _ hx)]
  | sum ys =>
    obtain ⟨d, hd⟩ := foldlM_plainDoc_val L (· + ·) (x :: ys) 0
    have h1 : L.fstep x (.sum ys) = .ok ((x :: ys).foldl (fun a y => L.wrap (a + y)) 0) d := hd
    have h2 : L.wstep x (FStep.sum ys).toW = .ok ((x :: ys).foldl (fun a y => L.wrap (a + y)) 0) false :=
      foldlM_add L (x :: ys) 0
    rw [h1, h2]; rfl
  | product ys =>
    obtain ⟨d, hd⟩ := foldlM_plainDoc_val L (mulSpec L.f) ys x
    have h1 : L.fstepSpec x (.product ys) = .ok (ys.foldl (fun a y => L.wrap (mulSpec L.f a y)) x) d := hd
    have h2 : L.wstep x (FStep.product ys).toW = .ok (ys.foldl (fun a y => L.wrap (mulSpec L.f a y)) x) false :=
      (foldlM_mul L hn (mulDivOK L hv) ys hw x hx).1
    rw [hF, h1, h2]; rfl
  | _ =>
    rw [hF, hW]
    exact fstepSpec_rel L hn x _ trivial hd

/-- range preservation is read off the `Wrapping` step, whose result is a reduction modulo `2^n` -/
theorem fstep_inRange (L : Layout) (hv : L.valid) (x : Int) (hx : inRange L x) (st : FStep) (hw : st.wf L) (v : Int) (d : Bool)
    (h : L.fstep x st = .ok v d) : inRange L v := by
  by_cases hd : st.divIntOk L x
  · have hr := fstep_rel_eq_wstep L hv x hx st hw hd
    rw [h] at hr
    cases hW : L.wstep x st.toW with
    | panic => rw [hW] at hr; cases hr
    | ok w d' =>
      rw [hW] at hr
      injection hr with hr
      subst hr
      exact wstep_inRange L hv x hx st.toW (wf_toW L st hw) _ d' hW
  · obtain ⟨k, rfl, hk, hout⟩ := fstep_of_not_divIntOk L x st hd
    rw [show L.fstep x (.divInt k) = .panic from divIntOp_of_not_in L x k hk hout] at h
    cases h

/-- `Div<Inner>`: when the quotient is not representable the plain operator panics in EVERY profile, while `Wrapping` wraps -/
theorem fstep_divInt_overflow (L : Layout) (x k : Int) (hk : k ≠ 0) (h : ¬ inRange L (Int.tdiv x k)) :
    L.fstep x (.divInt k) = .panic ∧ L.wstep x (.divInt k) = .ok (L.wrap (Int.tdiv x k)) false := by
  refine ⟨divIntOp_of_not_in L x k hk h, ?_⟩
  show L.wrappingDivInt x k = _
  unfold wrappingDivInt; rw [if_neg hk]; rfl

theorem divIntOk_of_not_min (L : Layout) (x k : Int) (hx : inRange L x) (hk : inRange L k)
    (h : ¬ (L.signed = true ∧ k = -1)) : (FStep.divInt k).divIntOk L x := by
  show inRange L (Int.tdiv x k)
  by_cases h0 : k = 0
  · subst h0; rw [Int.tdiv_zero]; exact inRange_zero L
  · exact tdiv_in hx hk h0 h

/-- no step of the program divides `MIN` by the integer `-1` (evaluated along the run) -/
def divIntSafe (L : Layout) : Int → List FStep → Prop
  | _, [] => True
  | x, st :: rest => st.divIntOk L x ∧ ∀ v d, L.fstep x st = .ok v d → divIntSafe L v rest

theorem frun_rel_eq_wrun (L : Layout) (hv : L.valid) (x : Int) (hx : inRange L x) (prog : List FStep)
    (hw : ∀ st ∈ prog, st.wf L) (hs : divIntSafe L x prog) :
    Layout.frun L.fstep .rel x prog = Layout.wrun L.wstep .rel x (prog.map FStep.toW) := by
  rw [wrun_map]
  refine frun_congr (fun x prog => inRange L x ∧ (∀ st ∈ prog, st.wf L) ∧ divIntSafe L x prog) _ _ .rel .rel
    (fun x st rest hI => ?_) x prog ⟨hx, hw, hs⟩
  obtain ⟨hx, hw, hs⟩ := hI
  have hst := hw st (List.mem_cons_self ..)
  refine ⟨fstep_rel_eq_wstep L hv x hx st hst hs.1, fun v hv' => ?_⟩
  obtain ⟨d, hd⟩ := view_eq_some hv'
  exact ⟨fstep_inRange L hv x hx st hst v d hd, fun s h => hw s (List.mem_cons_of_mem _ h), hs.2 v d hd⟩

theorem divIntSafe_of_no_divInt (L : Layout) (x : Int) (prog : List FStep) (h : ∀ st ∈ prog, ∀ k, st ≠ .divInt k) :
    divIntSafe L x prog := by
  induction prog generalizing x with
  | nil => trivial
  | cons st rest ih =>
    refine ⟨?_, fun v _ _ => ih v (fun s hs => h s (List.mem_cons_of_mem _ hs))⟩
    cases st with
    | divInt k => exact absurd rfl (h _ (List.mem_cons_self ..) k)
    | _ => trivial

theorem divIntSafe_of_unsigned (L : Layout) (hv : L.valid) (hs : L.signed = false) (x : Int) (hx : inRange L x)
    (prog : List FStep) (hw : ∀ st ∈ prog, st.wf L) : divIntSafe L x prog := by
  induction prog generalizing x with
  | nil => trivial
  | cons st rest ih =>
    have hst : st.wf L := hw st (List.mem_cons_self ..)
    refine ⟨?_, fun v d hF => ih v (fstep_inRange L hv x hx st hst v d hF) (fun s hs' => hw s (List.mem_cons_of_mem _ hs'))⟩
    cases st with
    | divInt k => exact divIntOk_of_not_min L x k hx hst (fun h => by rw [hs] at h; cases h.1)
    | _ => trivial

theorem fstep_chk_arith (L : Layout) (hv : L.valid) (x : Int) (hx : inRange L x) (st : FStep) (hw : st.wf L) (ha : st.arith) :
    (L.fstep x st).chk = (L.wexact x st.toW).bind (fun e => if inRange L e then some e else none) := by
  have hn : 0 < L.n := hv.pos
  by_cases hd : st.divIntOk L x
  · rw [fstep_spec L hv x hx st hw, fstepSpec_arith L hn x st ha hd]
    exact plainOf_chk L hn _
  · obtain ⟨k, rfl, hk, hout⟩ := fstep_of_not_divIntOk L x st hd
    rw [show L.fstep x (.divInt k) = .panic from divIntOp_of_not_in L x k hk hout]
    show none = (if k = 0 then none else some (Int.tdiv x k) : Option Int).bind _
    rw [if_neg hk]
    exact (if_neg hout).symm

theorem fstep_chk_not (L : Layout) (hv : L.valid) (x : Int) (hx : inRange L x) :
    (L.fstep x .not).chk = some (L.max + L.min - x) := by
  rw [fstep_spec L hv x hx .not trivial]; rfl

theorem shift_in (L : Layout) {a : Int} (h : 0 ≤ a ∧ a < L.n) : L.shiftOvf a = false ∧ L.shiftMasked a = a.toNat := by
  unfold shiftOvf shiftMasked
  refine ⟨by simp; omega, ?_⟩
  rw [Int.emod_eq_of_lt h.1 h.2]

theorem shift_out (L : Layout) {a : Int} (h : ¬ (0 ≤ a ∧ a < L.n)) : L.shiftOvf a = true := by
  unfold shiftOvf
  simp; omega

theorem shift_chk (L : Layout) (g : Nat → Int) (a : Int) :
    (Outcome.ok (g (L.shiftMasked a)) (L.shiftOvf a)).chk = if 0 ≤ a ∧ a < L.n then some (g a.toNat) else none := by
  by_cases h : 0 ≤ a ∧ a < L.n
  · rw [if_pos h, (shift_in L h).1, (shift_in L h).2]; rfl
  · rw [if_neg h, shift_out L h]; rfl

theorem fstep_chk_shl (L : Layout) (x a : Int) :
    (L.fstep x (.shl a)).chk = if 0 ≤ a ∧ a < L.n then some (L.wrap (x * 2 ^ a.toNat)) else none :=
  shift_chk L (shlI L.signed L.n x) a

theorem fstep_chk_shr (L : Layout) (x a : Int) :
    (L.fstep x (.shr a)).chk = if 0 ≤ a ∧ a < L.n then some (x / 2 ^ a.toNat) else none :=
  shift_chk L (shrI x) a

/-- every partial result of a left fold with the EXACT operation `e` is representable -/
def foldFits (L : Layout) (e : Int → Int → Int) : Int → List Int → Prop
  | _, [] => True
  | acc, y :: ys => inRange L (e acc y) ∧ foldFits L e (e acc y) ys

theorem foldlM_chk (L : Layout) (hn : 0 < L.n) (e : Int → Int → Int) (ys : List Int) (acc v : Int) :
    (ys.foldlM (fun a y => L.plainDoc (e a y)) acc).chk = some v ↔ foldFits L e acc ys ∧ v = ys.foldl e acc := by
  induction ys generalizing acc with
  | nil =>
    show some acc = some v ↔ True ∧ v = acc
    constructor
    · intro h; injection h with h; exact ⟨trivial, h.symm⟩
    · rintro ⟨_, h⟩; rw [h]
  | cons y ys ih =>
    rw [List.foldlM_cons, List.foldl_cons]
    by_cases hin : inRange L (e acc y)
    · rw [plainDoc_of_in L hn hin, ok_false_bind, ih]
      constructor
      · rintro ⟨a, b⟩; exact ⟨⟨hin, a⟩, b⟩
      · rintro ⟨⟨_, a⟩, b⟩; exact ⟨a, b⟩
    · rw [plainDoc_of_not_in L hin, Outcome.chk_bind_true]
      constructor
      · intro h; cases h
      · rintro ⟨⟨h, _⟩, _⟩; exact absurd h hin

/-- `Sum`: the exact sum, iff every partial sum `0 + x`, `x + y₁`, … is representable -/
theorem fstep_chk_sum (L : Layout) (hn : 0 < L.n) (x : Int) (ys : List Int) (v : Int) :
    (L.fstep x (.sum ys)).chk = some v ↔ foldFits L (· + ·) 0 (x :: ys) ∧ v = ys.foldl (· + ·) x := by
  have h := foldlM_chk L hn (· + ·) (x :: ys) 0 v
  rw [List.foldl_cons, Int.zero_add] at h
  exact h

/-- `Product`: the exact left-to-right product (each factor rounded to the grid as `Mul` does), iff every partial product is
representable -/
theorem fstep_chk_product (L : Layout) (hv : L.valid) (x : Int) (hx : inRange L x) (ys : List Int)
    (hw : ∀ y ∈ ys, inRange L y) (v : Int) :
    (L.fstep x (.product ys)).chk = some v ↔ foldFits L (mulSpec L.f) x ys ∧ v = ys.foldl (mulSpec L.f) x := by
  rw [fstep_spec L hv x hx (.product ys) hw]
  exact foldlM_chk L hv.pos (mulSpec L.f) ys x v

theorem frun_chk_complete (step : Int → FStep → Outcome Int) (x : Int) (prog : List FStep)
    (h : none ∉ Layout.frun step .chk x prog) : Layout.frun step .chk x prog = Layout.frun step .rel x prog := by
  refine frun_congr (fun x prog => none ∉ Layout.frun step .chk x prog) step step .chk .rel (fun x st rest hI => ?_) x prog h
  rw [frun_cons] at hI
  cases hs : step x st with
  | panic => rw [hs] at hI; exact absurd (List.mem_cons_self ..) hI
  | ok v d =>
    rw [hs] at hI
    cases d with
    | true => exact absurd (List.mem_cons_self ..) hI
    | false =>
      refine ⟨rfl, fun w hw => ?_⟩
      cases hw
      exact fun hm => hI (List.mem_cons_of_mem _ hm)

theorem frun_chk_complete_eq_wrun (L : Layout) (hv : L.valid) (x : Int) (hx : inRange L x) (prog : List FStep)
    (hw : ∀ st ∈ prog, st.wf L) (hs : divIntSafe L x prog) (h : none ∉ Layout.frun L.fstep .chk x prog) :
    Layout.frun L.fstep .chk x prog = Layout.wrun L.wstep .rel x (prog.map FStep.toW) := by
  rw [frun_chk_complete L.fstep x prog h]
  exact frun_rel_eq_wrun L hv x hx prog hw hs

/-- non-vacuity: a valid layout, a well-formed program with an overflow in the middle; the two profiles differ -/
example : (⟨true, 8, 4⟩ : Layout).valid ∧ inRange ⟨true, 8, 4⟩ 100 ∧
    Layout.frun (Layout.fstep ⟨true, 8, 4⟩) .rel 100 [.add 27, .add 1, .shl (-1), .divInt (-1)] = [some 127, some (-128), some 0, some 0] ∧
    Layout.frun (Layout.fstep ⟨true, 8, 4⟩) .chk 100 [.add 27, .add 1, .shl (-1), .divInt (-1)] = [some 127, none] ∧
    Layout.frun (Layout.fstep ⟨true, 8, 4⟩) .rel (-128) [.divInt (-1)] = [none] := by
  decide

end Sfx.ExtOpsPf

#print axioms Sfx.ExtOpsPf.fstep_spec
#print axioms Sfx.ExtOpsPf.fstep_inRange
#print axioms Sfx.ExtOpsPf.plainDoc_refines_plain
#print axioms Sfx.ExtOpsPf.fstep_rel_eq_wstep
#print axioms Sfx.ExtOpsPf.fstep_divInt_overflow
#print axioms Sfx.ExtOpsPf.divIntOk_of_not_min
#print axioms Sfx.ExtOpsPf.frun_rel_eq_wrun
#print axioms Sfx.ExtOpsPf.divIntSafe_of_no_divInt
#print axioms Sfx.ExtOpsPf.divIntSafe_of_unsigned
#print axioms Sfx.ExtOpsPf.fstep_chk_arith
#print axioms Sfx.ExtOpsPf.fstep_chk_not
#print axioms Sfx.ExtOpsPf.fstep_chk_shl
#print axioms Sfx.ExtOpsPf.fstep_chk_shr
#print axioms Sfx.ExtOpsPf.fstep_chk_sum
#print axioms Sfx.ExtOpsPf.fstep_chk_product
#print axioms Sfx.ExtOpsPf.frun_cons
#print axioms Sfx.ExtOpsPf.frun_congr
#print axioms Sfx.ExtOpsPf.frun_chk_complete
#print axioms Sfx.ExtOpsPf.frun_chk_complete_eq_wrun
