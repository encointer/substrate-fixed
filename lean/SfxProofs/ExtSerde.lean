import SfxModel.ExtSerde
import SfxProofs.Codec
/-
  ExtSerde.lean — extension `Serde` (`SfxModel/ExtSerde.lean`), core Lean only.  One specification per number reader, in the same
  shape: `readBits_intDec` (JSON: the printed decimal followed by anything that `stops` it) and `cborReadBits_head` (CBOR: a
  shortest-form integer head followed by anything).  One lemma per JSON container over them, with arbitrary white space and an
  arbitrary rest: `de_map_rest`, `de_seq_rest`; the round trips, the tolerated spellings (`de_map_ws`, `de_seq_ws`, `de_serPretty`)
  and the rejections after the value (`de_second_key`, `de_seq_extra`) are their instances.  `de_range`: whatever is accepted is a value of the type.  CBOR has no container lemma: the one round trip
  (`C10.serde_cbor_round_trip`) unfolds `cborDe` on the serializer's output.
-/
namespace Sfx.ExtSerdePf
open Sfx.ExtSerde

theorem valDigits_snoc (ds : List Nat) (d : Nat) : valDigits (ds ++ [d]) = 10 * valDigits ds + (d - 48) := by
  simp [valDigits, List.foldl_append]

theorem decF_spec (k v : Nat) (h : v < k) :
    (∀ b ∈ decF k v, isDigit b = true) ∧ valDigits (decF k v) = v ∧ ∃ d tl, decF k v = d :: tl ∧ (0 < v → d ≠ 48) := by
  induction k generalizing v with
  | zero => omega
  | succ k ih =>
    unfold decF
    split
    · refine ⟨fun b hb => ?_, by simp [valDigits], 48 + v, [], rfl, fun _ => by omega⟩
      simp at hb; subst hb; simp [isDigit]; omega
    · obtain ⟨hd, hv, d, tl, he, h0⟩ := ih (v / 10) (by omega)
      refine ⟨fun b hb => ?_, by rw [valDigits_snoc, hv]; omega, d, tl ++ [48 + v % 10], by rw [he]; rfl, fun _ => h0 (by omega)⟩
      rw [List.mem_append] at hb
      rcases hb with hb | hb
      · exact hd b hb
      · simp at hb; subst hb; simp [isDigit]; omega

theorem natDec_zero : natDec 0 = [48] := rfl
theorem natDec_digits (v : Nat) : ∀ b ∈ natDec v, isDigit b = true := (decF_spec (v + 1) v (by omega)).1
theorem valDigits_natDec (v : Nat) : valDigits (natDec v) = v := (decF_spec (v + 1) v (by omega)).2.1
theorem natDec_head (v : Nat) : ∃ d tl, natDec v = d :: tl ∧ (0 < v → d ≠ 48) := (decF_spec (v + 1) v (by omega)).2.2
/-- `natDec v` is THE canonical decimal of `v`: only digits, at least one, no leading zero except for `0` itself, and its value is `v` -/
theorem natDec_canonical (v : Nat) :
    (∀ b ∈ natDec v, 48 ≤ b ∧ b ≤ 57) ∧ natDec v ≠ [] ∧ (∀ tl, natDec v = 48 :: tl → tl = [] ∧ v = 0) ∧ valDigits (natDec v) = v := by
  obtain ⟨d, tl', he, hd⟩ := natDec_head v
  refine ⟨fun b hb => by have := natDec_digits v b hb; simpa [isDigit] using this, by rw [he]; simp, ?_, valDigits_natDec v⟩
  intro tl h
  rcases Nat.eq_zero_or_pos v with hv | hv
  · subst hv; rw [natDec_zero] at h; simp at h; exact ⟨h, rfl⟩
  · rw [he] at h; simp at h; exact absurd h.1 (hd hv)

/-- `rest` does not continue the number -/
def stops (rest : List Nat) : Prop := ∀ b r, rest = b :: r → isDigit b = false

theorem stops_close (c : Nat) (r : List Nat) (h : isDigit c = false) : stops (c :: r) := by
  intro b r' e; simp at e; rw [← e.1]; exact h

theorem stops_brace : stops [125] := stops_close 125 [] (by decide)

/-- JSON's insignificant white space between two tokens -/
def allWs (w : List Nat) : Prop := ∀ b ∈ w, isWs b = true

theorem allWs_nil : allWs [] := fun _ h => absurd h (by simp)

theorem stops_ws_close (w : List Nat) (c : Nat) (r : List Nat) (hw : allWs w) (hc : isDigit c = false) : stops (w ++ c :: r) := by
  cases w with
  | nil => exact stops_close c r hc
  | cons b w =>
    intro b' r' e
    simp at e
    rw [← e.1]
    have := hw b (by simp)
    simp [isWs] at this
    simp [isDigit]; omega

theorem digits_append (ds rest : List Nat) (hd : ∀ b ∈ ds, isDigit b = true) (hr : stops rest) :
    takeDigits (ds ++ rest) = ds ∧ dropDigits (ds ++ rest) = rest := by
  induction ds with
  | nil =>
    cases rest with
    | nil => exact ⟨rfl, rfl⟩
    | cons b r => simp [takeDigits, dropDigits, hr b r rfl]
  | cons d ds ih =>
    obtain ⟨h1, h2⟩ := ih (fun b hb => hd b (by simp [hb]))
    simp only [List.cons_append, takeDigits, dropDigits, hd d (by simp), if_true, h1, h2]
    trivial

theorem readNatLit_natDec (v : Nat) (rest : List Nat) (hr : stops rest) : readNatLit (natDec v ++ rest) = some (v, rest) := by
  unfold readNatLit
  obtain ⟨h1, h2⟩ := digits_append _ _ (natDec_digits v) hr
  rw [h1, h2]
  rcases Nat.eq_zero_or_pos v with hv | hv
  · subst hv; simp [natDec_zero, valDigits]
  · obtain ⟨d, tl, he, hd⟩ := natDec_head v
    have hval := valDigits_natDec v
    rw [he] at hval ⊢
    simp [hd hv, hval]

theorem skipWs_of_not_ws (b : Nat) (r : List Nat) (h : isWs b = false) : skipWs (b :: r) = b :: r := by
  simp [skipWs, h]

theorem isWs_of_isDigit (b : Nat) (h : isDigit b = true) : isWs b = false := by
  simp [isDigit] at h
  simp [isWs]; omega

theorem readBits_intDec (L : Layout) (x : Int) (rest : List Nat) (hr : stops rest) :
    readBits L (intDec x ++ rest) = if inI L.signed L.n x then some (x, rest) else none := by
  unfold readBits intDec
  by_cases hx : x < 0
  · have hm : (x.natAbs == 0) = false := by simp; omega
    have hv : -(Int.ofNat x.natAbs) = x := by rw [Int.ofNat_eq_natCast]; omega
    simp only [if_pos hx, List.cons_append, skipWs_of_not_ws 45 _ (by decide), readMag, readNatLit_natDec _ _ hr, hm, Bool.and_false,
      Bool.false_and, if_true, hv]
    simp
  · obtain ⟨d, tl, he, _⟩ := natDec_head x.natAbs
    have hd : isDigit d = true := natDec_digits x.natAbs d (by rw [he]; simp)
    have hws : isWs d = false := isWs_of_isDigit d hd
    have h45 : d ≠ 45 := by simp [isDigit] at hd; omega
    have hlit := readNatLit_natDec x.natAbs rest hr
    rw [he] at hlit
    simp only [if_neg hx, he, List.cons_append, skipWs_of_not_ws d _ hws]
    simp only [List.cons_append] at hlit
    split
    · next h => simp at h; omega
    · have hv' : ((x.natAbs : Nat) : Int) = x := by omega
      simp [readMag, hlit, hv']

theorem skipWs_append (w rest : List Nat) (hw : allWs w) : skipWs (w ++ rest) = skipWs rest := by
  induction w with
  | nil => rfl
  | cons b w ih =>
    simp only [List.cons_append, skipWs, hw b (by simp), if_true]
    exact ih (fun c hc => hw c (by simp [hc]))

theorem readBits_ws (L : Layout) (w bs : List Nat) (hw : allWs w) : readBits L (w ++ bs) = readBits L bs := by
  unfold readBits; rw [skipWs_append _ _ hw]

/-- the object form up to the number, with any JSON white space between the tokens, followed by `rest` whose first byte after white space
is `c`: the value if it is a value of the `Bits` type, `c` is the closing brace and only white space follows -/
theorem de_map_rest (L : Layout) (x : Int) (w0 w1 w2 w3 rest : List Nat) (c : Nat) (r : List Nat)
    (h0 : allWs w0) (h1 : allWs w1) (h2 : allWs w2) (h3 : allWs w3) (hr : stops rest) (hc : skipWs rest = c :: r) :
    de L (w0 ++ 123 :: (w1 ++ 34 :: 98 :: 105 :: 116 :: 115 :: 34 :: (w2 ++ 58 :: (w3 ++ (intDec x ++ rest)))))
      = if inI L.signed L.n x ∧ c = 125 ∧ (skipWs r).isEmpty = true then some x else none := by
  unfold de
  rw [skipWs_append _ _ h0, skipWs_of_not_ws 123 _ (by decide)]
  simp only [readMap]
  rw [skipWs_append _ _ h1, skipWs_of_not_ws 34 _ (by decide)]
  simp only [readKey, readKeyChar, BEq.rfl, if_true]
  rw [skipWs_append _ _ h2, skipWs_of_not_ws 58 _ (by decide)]
  simp only [readBits_ws L _ _ h3, readBits_intDec L x rest hr]
  by_cases h : inI L.signed L.n x
  · simp only [if_pos h, hc]
    by_cases h125 : c = 125
    · subst h125; simp [h]
    · simp [h125]
  · simp [h]

/-- the sequence form `[v …` -/
theorem de_seq_rest (L : Layout) (x : Int) (w0 w1 rest : List Nat) (c : Nat) (r : List Nat)
    (h0 : allWs w0) (h1 : allWs w1) (hr : stops rest) (hc : skipWs rest = c :: r) :
    de L (w0 ++ 91 :: (w1 ++ (intDec x ++ rest)))
      = if inI L.signed L.n x ∧ c = 93 ∧ (skipWs r).isEmpty = true then some x else none := by
  unfold de
  rw [skipWs_append _ _ h0, skipWs_of_not_ws 91 _ (by decide)]
  simp only [readSeq, readBits_ws L _ _ h1, readBits_intDec L x rest hr]
  by_cases h : inI L.signed L.n x
  · simp only [if_pos h, hc]
    by_cases h93 : c = 93
    · subst h93; simp [h]
    · simp [h93]
  · simp [h]

theorem skipWs_ws (w : List Nat) (hw : allWs w) : skipWs w = [] := by
  have := skipWs_append w [] hw
  rwa [List.append_nil] at this

theorem de_ser_eq (L : Layout) (x : Int) : de L (ser L x) = if inI L.signed L.n x then some x else none := by
  have := de_map_rest L x [] [] [] [] [125] 125 [] allWs_nil allWs_nil allWs_nil allWs_nil stops_brace rfl
  simpa [ser, jsonHead, skipWs] using this

/-- C10 (serde part): deserializing the serialized form returns the same value — for every layout and every bit pattern of it -/
theorem de_ser (L : Layout) (x : Int) (hx : inRange L x) : de L (ser L x) = some x := by
  rw [de_ser_eq]; exact if_pos hx

theorem de_ser_out_of_range (L : Layout) (v : Int) (hv : ¬ inRange L v) : de L (ser L v) = none := by
  rw [de_ser_eq]; exact if_neg hv

theorem ser_layout_indep (L L' : Layout) (x : Int) : ser L x = ser L' x := rfl
theorem ser_frac_indep (s : Bool) (n f f' : Nat) (x : Int) : ser ⟨s, n, f⟩ x = ser ⟨s, n, f'⟩ x := rfl
theorem serPretty_frac_indep (s : Bool) (n f f' : Nat) (x : Int) : serPretty ⟨s, n, f⟩ x = serPretty ⟨s, n, f'⟩ x := rfl
theorem cborSer_frac_indep (s : Bool) (n f f' : Nat) (x : Int) : cborSer ⟨s, n, f⟩ x = cborSer ⟨s, n, f'⟩ x := rfl
theorem de_frac_indep (s : Bool) (n f f' : Nat) (bs : List Nat) : de ⟨s, n, f⟩ bs = de ⟨s, n, f'⟩ bs := rfl
theorem cborDe_frac_indep (s : Bool) (n f f' : Nat) (bs : List Nat) : cborDe ⟨s, n, f⟩ bs = cborDe ⟨s, n, f'⟩ bs := rfl

/-- `Wrapping<F>` has the representation of `F` (both directions, both formats) -/
theorem serW_eq (L : Layout) (x : Int) : serW L x = ser L x := rfl
theorem serPrettyW_eq (L : Layout) (x : Int) : serPrettyW L x = serPretty L x := rfl
theorem deW_eq (L : Layout) (bs : List Nat) : deW L bs = de L bs := rfl
theorem cborSerW_eq (L : Layout) (x : Int) : cborSerW L x = cborSer L x := rfl
theorem cborDeW_eq (L : Layout) (bs : List Nat) : cborDeW L bs = cborDe L bs := rfl

/-- the serialized form is exactly `{"bits":` + the canonical decimal of the bits (see `natDec_canonical`) + `}` -/
theorem ser_eq (L : Layout) (x : Int) :
    ser L x = [123, 34, 98, 105, 116, 115, 34, 58] ++ (if x < 0 then 45 :: natDec x.natAbs else natDec x.natAbs) ++ [125] := rfl

theorem de_map_ws (L : Layout) (x : Int) (w0 w1 w2 w3 w4 w5 : List Nat)
    (h0 : allWs w0) (h1 : allWs w1) (h2 : allWs w2) (h3 : allWs w3) (h4 : allWs w4) (h5 : allWs w5) :
    de L (w0 ++ 123 :: (w1 ++ 34 :: 98 :: 105 :: 116 :: 115 :: 34 :: (w2 ++ 58 :: (w3 ++ (intDec x ++ (w4 ++ 125 :: w5))))))
      = if inI L.signed L.n x then some x else none := by
  rw [de_map_rest L x w0 w1 w2 w3 _ 125 w5 h0 h1 h2 h3 (stops_ws_close w4 125 w5 h4 (by decide))
    (by rw [skipWs_append _ _ h4, skipWs_of_not_ws 125 _ (by decide)]), skipWs_ws w5 h5]
  simp

/-- the sequence form `[v]` (`visit_seq`), with any white space -/
theorem de_seq_ws (L : Layout) (x : Int) (w0 w1 w2 w3 : List Nat) (h0 : allWs w0) (h1 : allWs w1) (h2 : allWs w2) (h3 : allWs w3) :
    de L (w0 ++ 91 :: (w1 ++ (intDec x ++ (w2 ++ 93 :: w3)))) = if inI L.signed L.n x then some x else none := by
  rw [de_seq_rest L x w0 w1 _ 93 w3 h0 h1 (stops_ws_close w2 93 w3 h2 (by decide))
    (by rw [skipWs_append _ _ h2, skipWs_of_not_ws 93 _ (by decide)]), skipWs_ws w3 h3]
  simp

theorem de_seq (L : Layout) (x : Int) (hx : inRange L x) : de L (91 :: (intDec x ++ [93])) = some x := by
  have := de_seq_ws L x [] [] [] [] allWs_nil allWs_nil allWs_nil allWs_nil
  simp only [List.nil_append] at this
  rw [this]; exact if_pos hx

theorem de_serPretty (L : Layout) (x : Int) (hx : inRange L x) : de L (serPretty L x) = some x := by
  have := de_map_ws L x [] [10, 32, 32] [] [32] [10] [] allWs_nil (by simp [allWs, isWs]) allWs_nil (by simp [allWs, isWs])
    (by simp [allWs, isWs]) allWs_nil
  simp only [List.nil_append, List.cons_append] at this
  unfold serPretty
  simp only [List.cons_append, List.nil_append]
  rw [this]; exact if_pos hx

theorem readMag_range (L : Layout) (neg : Bool) (bs : List Nat) (v : Int) (r : List Nat) (h : readMag L neg bs = some (v, r)) :
    inI L.signed L.n v := by
  simp only [readMag] at h
  cases hl : readNatLit bs with
  | none => simp [hl] at h
  | some p =>
    obtain ⟨m, rest⟩ := p
    simp only [hl] at h
    by_cases c1 : (neg && m == 0 && !negZeroOk L) = true
    · rw [if_pos c1] at h; exact absurd h (by simp)
    · rw [if_neg c1] at h
      by_cases c2 : inI L.signed L.n (if neg = true then -(Int.ofNat m) else Int.ofNat m)
      · rw [if_pos c2] at h
        injection h with h; injection h with h1 h2
        rw [← h1]; exact c2
      · rw [if_neg c2] at h; exact absurd h (by simp)

theorem readBits_range (L : Layout) (bs : List Nat) (v : Int) (r : List Nat) (h : readBits L bs = some (v, r)) : inI L.signed L.n v := by
  unfold readBits at h
  split at h <;> exact readMag_range L _ _ v r h

theorem readMap_range (L : Layout) (bs : List Nat) (v : Int) (r : List Nat) (h : readMap L bs = some (v, r)) : inI L.signed L.n v := by
  unfold readMap at h
  split at h
  · cases h
  · split at h
    · split at h
      · cases h
      · split at h
        · cases h; exact readBits_range L _ _ _ ‹_›
        · cases h
    · cases h

theorem readSeq_range (L : Layout) (bs : List Nat) (v : Int) (r : List Nat) (h : readSeq L bs = some (v, r)) : inI L.signed L.n v := by
  unfold readSeq at h
  split at h
  · cases h
  · split at h
    · cases h; exact readBits_range L _ _ _ ‹_›
    · cases h

/-- whatever the input, an accepted value is a bit pattern of the layout (serde's primitive visitor range-checks; nothing wraps) -/
theorem de_range (L : Layout) (bs : List Nat) (v : Int) (h : de L bs = some v) : inRange L v := by
  simp only [de] at h
  have key : ∀ (o : Option (Int × List Nat)), (∀ v r, o = some (v, r) → inI L.signed L.n v) →
      (match o with
        | some (v, rest) => if (skipWs rest).isEmpty = true then some v else none
        | none => none) = some v → inRange L v := by
    intro o ho hm
    cases o with
    | none => exact absurd hm (by simp)
    | some p =>
      obtain ⟨v', r⟩ := p
      simp only at hm
      split at hm
      · injection hm with hm; rw [← hm]; exact ho v' r rfl
      · exact absurd hm (by simp)
  refine key _ ?_ h
  intro v' r hr
  split at hr
  · exact readMap_range L _ _ _ hr
  · exact readSeq_range L _ _ _ hr
  · exact absurd hr (by simp)

/-- `{}`: `missing_field("bits")` -/
theorem de_missing (L : Layout) : de L [123, 125] = none := rfl
/-- `[]`: `invalid_length(0)` -/
theorem de_empty_seq (L : Layout) : de L [91, 93] = none := rfl

/-- anything but the closing brace after the value — in particular `,` and a second key (`duplicate_field`, `unknown_field`) — is an error -/
theorem de_second_key (L : Layout) (x : Int) (any : List Nat) : de L (jsonHead ++ intDec x ++ 44 :: any) = none := by
  have := de_map_rest L x [] [] [] [] (44 :: any) 44 any allWs_nil allWs_nil allWs_nil allWs_nil
    (stops_close 44 any (by decide)) (skipWs_of_not_ws 44 any (by decide))
  simpa [jsonHead] using this

/-- a second array element is an error (`TrailingCharacters`) -/
theorem de_seq_extra (L : Layout) (x : Int) (any : List Nat) : de L (91 :: (intDec x ++ 44 :: any)) = none := by
  have := de_seq_rest L x [] [] (44 :: any) 44 any allWs_nil allWs_nil
    (stops_close 44 any (by decide)) (skipWs_of_not_ws 44 any (by decide))
  simpa using this

/-- a first key that does not start with `b` or a backslash is an error (`unknown_field`) -/
theorem de_unknown_key (L : Layout) (c : Nat) (any : List Nat) (h1 : c ≠ 98) (h2 : c ≠ 92) : de L (123 :: 34 :: c :: any) = none := by
  unfold de
  rw [skipWs_of_not_ws 123 _ (by decide)]
  simp only [readMap]
  rw [skipWs_of_not_ws 34 _ (by decide)]
  simp [readKey, readKeyChar, h1, h2]

theorem readKey_escaped (r : List Nat) :
    readKey (34 :: 92 :: 117 :: 48 :: 48 :: 54 :: 50 :: 92 :: 117 :: 48 :: 48 :: 54 :: 57 :: 92 :: 117 :: 48 :: 48 :: 55 :: 52 ::
      92 :: 117 :: 48 :: 48 :: 55 :: 51 :: 34 :: r) = some r := rfl

theorem fromBe_reverse (bs : List Nat) : fromBe bs.reverse = Codec.fromLe bs := by
  induction bs with
  | nil => rfl
  | cons b rest ih =>
    rw [List.reverse_cons]
    unfold fromBe at ih ⊢
    rw [List.foldl_append, ih]
    show 256 * Codec.fromLe rest + b = b + 256 * Codec.fromLe rest
    omega

theorem fromBe_beBytes (k v : Nat) (h : v < 256 ^ k) : fromBe (beBytes k v) = v := by
  unfold beBytes
  rw [fromBe_reverse, Codec.fromLe_leBytes, Nat.mod_eq_of_lt h]

theorem fromBe_beBytes1 (v : Nat) (h : v < 256) : fromBe (beBytes 1 v) = v :=
  fromBe_beBytes 1 v h

theorem beBytes_length (k v : Nat) : (beBytes k v).length = k := by
  unfold beBytes
  rw [List.length_reverse, Codec.leBytes_length]

theorem cborArg_be (ai k v : Nat) (rest : List Nat) (hk : ai = 24 ∧ k = 1 ∨ ai = 25 ∧ k = 2 ∨ ai = 26 ∧ k = 4 ∨ ai = 27 ∧ k = 8)
    (hv : v < 256 ^ k) : cborArg ai (beBytes k v ++ rest) = some (v, rest) := by
  have hl := beBytes_length k v
  have hf := fromBe_beBytes k v hv
  rcases hk with ⟨rfl, rfl⟩ | ⟨rfl, rfl⟩ | ⟨rfl, rfl⟩ | ⟨rfl, rfl⟩ <;> simp [cborArg, hl, hf]

theorem cborArg_cborHead (major v : Nat) (rest : List Nat) (hv : v < 2 ^ 64) :
    ∃ b r, cborHead major v ++ rest = b :: r ∧ b / 32 = major ∧ cborArg (b % 32) r = some (v, rest) := by
  have hd : ∀ t, t < 32 → (major * 32 + t) / 32 = major ∧ (major * 32 + t) % 32 = t := fun t ht => by omega
  unfold cborHead
  by_cases h1 : v < 24
  · rw [if_pos h1]
    exact ⟨_, rest, rfl, (hd v (by omega)).1, by rw [(hd v (by omega)).2]; simp [cborArg, h1]⟩
  rw [if_neg h1]
  by_cases h2 : v < 256
  · rw [if_pos h2]
    refine ⟨major * 32 + 24, beBytes 1 v ++ rest, ?_, (hd 24 (by decide)).1, ?_⟩
    · show _ = _ :: ([v % 256] ++ rest)
      rw [Nat.mod_eq_of_lt h2]; rfl
    · rw [(hd 24 (by decide)).2]; exact cborArg_be 24 1 v rest (Or.inl ⟨rfl, rfl⟩) h2
  rw [if_neg h2]
  by_cases h3 : v < 65536
  · rw [if_pos h3]
    exact ⟨_, _, rfl, (hd 25 (by decide)).1,
      by rw [(hd 25 (by decide)).2]; exact cborArg_be 25 2 v rest (Or.inr (Or.inl ⟨rfl, rfl⟩)) h3⟩
  rw [if_neg h3]
  by_cases h4 : v < 4294967296
  · rw [if_pos h4]
    exact ⟨_, _, rfl, (hd 26 (by decide)).1,
      by rw [(hd 26 (by decide)).2]; exact cborArg_be 26 4 v rest (Or.inr (Or.inr (Or.inl ⟨rfl, rfl⟩))) h4⟩
  rw [if_neg h4]
  exact ⟨_, _, rfl, (hd 27 (by decide)).1,
    by rw [(hd 27 (by decide)).2]; exact cborArg_be 27 8 v rest (Or.inr (Or.inr (Or.inr ⟨rfl, rfl⟩))) hv⟩

theorem cborTags_not_tag (fuel d b : Nat) (r : List Nat) (h : b / 32 ≠ 6) : cborTags (fuel + 1) d (b :: r) = some (d, b :: r) := by
  simp [cborTags, h]

theorem cborReadBits_head (L : Layout) (d major a : Nat) (rest : List Nat) (hm : major ≤ 1) (ha : a < 2 ^ 64) :
    cborReadBits L d (cborHead major a ++ rest) =
      (let v : Int := if major = 0 then (a : Int) else -1 - (a : Int)
       if inI L.signed L.n v then some (v, rest) else none) := by
  obtain ⟨b, r, he, hmaj, harg⟩ := cborArg_cborHead major a rest ha
  unfold cborReadBits
  rw [he, List.length_cons, cborTags_not_tag _ _ _ _ (by omega)]
  have hm' : b / 32 ≤ 1 := by omega
  rcases (by omega : major = 0 ∨ major = 1) with h | h <;> subst h <;> simp [hmaj, harg]

theorem cborReadBits_cborInt (L : Layout) (d : Nat) (x : Int) (i : List Nat) (hx : inI L.signed L.n x) (hi : cborInt x = some i) :
    cborReadBits L d i = some (x, []) := by
  unfold cborInt at hi
  split at hi <;> split at hi <;> cases hi
  · have := cborReadBits_head L d 0 x.toNat [] (by decide) (by omega)
    rw [List.append_nil] at this
    rw [this]
    have hv : max x 0 = x := by omega
    simp [hv, hx]
  · have := cborReadBits_head L d 1 (-1 - x).toNat [] (by decide) (by omega)
    rw [List.append_nil] at this
    rw [this]
    have hv : -1 - max (-1 - x) 0 = x := by omega
    simp [hv, hx]

/-- the serializer fails exactly outside the CBOR integers `-2^64 ..= 2^64 - 1` -/
theorem cborSer_isSome (L : Layout) (x : Int) : (cborSer L x).isSome = true ↔ (-(2 : Int) ^ 64 ≤ x ∧ x < (2 : Int) ^ 64) := by
  unfold cborSer cborInt
  split <;> split <;> simp <;> omega

/-- a bit pattern of at most 64 bits is an `i64` or a `u64` -/
theorem small_range (L : Layout) (x : Int) (hn : L.n ≤ 64) (hx : inRange L x) : -(2 : Int) ^ 63 ≤ x ∧ x < (2 : Int) ^ 64 := by
  have h1 := pow_le_pow (a := L.n - 1) (b := 63) (by omega)
  have h2 := pow_le_pow hn
  have h3 := two_pow_pos (L.n - 1)
  unfold inRange at hx
  cases hs : L.signed
  · rw [hs, inU_iff] at hx; omega
  · rw [hs, inS_iff] at hx; omega

/-- `serde_json::Value` round trip: every layout of at most 64 bits passes (a `serde_json::Number` holds `i64 ∪ u64`) -/
theorem valRoundTrip_small (L : Layout) (x : Int) (hv : L.valid) (hn : L.n ≤ 64) (hx : inRange L x) : valRoundTrip L x = some x :=
  if_pos (small_range L x hn hx)

end Sfx.ExtSerdePf
