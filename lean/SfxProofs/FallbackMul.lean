import SfxProofs.FallbackMulCombine
/-
  FallbackMul.lean — `mul_div_fallback!::mul_overflow` (the 128-bit four-limb product) is exact:
  it returns `overflowing (a * b >> f)` and no debug assertion / overflow check fires.

  The operands are cut into limbs of half the width: the high limbs have the signedness of the type, the low limbs are
  unsigned.  Every intermediate sum is a product of two limbs plus a limb, which fits the full width
  (`inI_double_mul`, `inI_double_mul_unsigned`), so no wrapping operation loses anything and no check fires; signedness
  only matters for the carry limb.
-/
namespace Sfx

theorem carryingAdd_spec (s : Bool) (n : Nat) (hn : 0 < n) (x y : Int) (hx : inI s n x) (hy : inI s n y) :
    ∃ c k, carryingAdd s n x y = (c, k) ∧ inI s n c ∧ x + y = c + k * 2 ^ n ∧
      (k = 0 ∨ k = 1 ∨ (s = true ∧ k = -1)) ∧ (k = 1 → maxI s n < x + y) := by
  obtain ⟨hM, hm, hp, hq⟩ := window s hn
  unfold carryingAdd ovfI
  by_cases hin : inI s n (x + y)
  · exact ⟨x + y, 0, by simp [hin, wrapI_of_in hn hin], hin, by omega, Or.inl rfl, nofun⟩
  · simp only [hin, decide_false, Bool.not_false, if_true]
    unfold inI at hx hy hin
    by_cases hpos : maxI s n < x + y
    · -- above the window (the only way out of it for an unsigned type): the sum wraps down by one length
      have hw : wrapI s n (x + y) = x + y - 2 ^ n := wrapI_unique hn 1 (by omega) ⟨by omega, by omega⟩
      refine ⟨wrapI s n (x + y), 1, ?_, wrapI_in hn _, by omega, Or.inr (Or.inl rfl), fun _ => hpos⟩
      cases s
      · rfl
      · have : minI true n = -(2 ^ (n - 1)) := rfl
        rw [hw, if_pos rfl, if_pos (by omega)]
    · have hs : s = true := by rcases hm with h | h <;> [omega; exact h.1]
      subst hs
      have hw : wrapI true n (x + y) = x + y + 2 ^ n := wrapI_unique hn (-1) (by omega) ⟨by omega, by omega⟩
      exact ⟨wrapI true n (x + y), -1, by rw [hw, if_pos rfl, if_neg (by omega)], wrapI_in hn _, by omega,
        Or.inr (Or.inr ⟨rfl, rfl⟩), nofun⟩

theorem carry_limb_in (s : Bool) {h : Nat} (hh : 0 < h) {k : Int} (hs : k = 1 → s = true → 2 ≤ h)
    (hk : k = 0 ∨ k = 1 ∨ (s = true ∧ k = -1)) : inI s (2 * h) (k * 2 ^ h) := by
  rw [inI_double_iff s hh, Int.mul_ediv_cancel _ (Int.ne_of_gt (two_pow_pos h))]
  have hp := pow_split hh
  have hq := two_pow_pos (h - 1)
  cases s
  · rw [inU_iff]
    rcases hk with rfl | rfl | ⟨h', -⟩ <;> [omega; omega; cases h']
  · rw [inS_iff]
    have h2 : k = 1 → (2 : Int) ≤ 2 ^ (h - 1) := fun e => pow_le_pow (a := 1) (by have := hs e rfl; omega)
    rcases hk with rfl | rfl | ⟨-, rfl⟩ <;> [omega; (have := h2 rfl; omega); omega]

/-- a signed width of 2 bits has no room for the carry limb `+2`, but its high limbs are `-1` or `0`: both cross
products are `≤ 0` and the column sum does not go above the type -/
theorem no_carry_two_bits {lh ll rh rl c : Int} (ilh : inI true 1 lh) (irh : inI true 1 rh) (ill : inI false 1 ll)
    (irl : inI false 1 rl) (ic : inI false 1 c) : lh * rl + c + ll * rh ≤ maxI true (2 * 1) := by
  have e : maxI true (2 * 1) = 1 := by decide
  have b1 := ((inS_iff 1 lh).1 ilh).2
  have b2 := ((inS_iff 1 rh).1 irh).2
  have b3 := ((inU_iff 1 c).1 ic).2
  have a1 : lh * rl ≤ 0 := Int.mul_nonpos_of_nonpos_of_nonneg (Int.le_of_lt_add_one b1) (unsigned_nonneg irl)
  have a2 : ll * rh ≤ 0 := Int.mul_nonpos_of_nonneg_of_nonpos (unsigned_nonneg ill) (Int.le_of_lt_add_one b2)
  rw [e]
  omega

theorem shiftLoUpUnsigned_ok (s : Bool) (n : Nat) (x H : Int) (hH : (2 : Int) ^ (n / 2) = H)
    (hx0 : 0 ≤ x) (hx1 : x < H) (hin : inI false n (x * H)) :
    shiftLoUpUnsigned s n x = .ok (x * H) false := by
  unfold shiftLoUpUnsigned Outcome.dassert shlI shrI
  rw [hH, Int.ediv_eq_zero_of_lt hx0 hx1, wrapU_wrapI, wrapU_of_in hin]
  rfl

theorem shiftLoUp_ok (s : Bool) (n : Nat) (c H : Int) (hH : (2 : Int) ^ (n / 2) = H) (hH2 : 2 ≤ H) (hn : 0 < n)
    (hc : c = 0 ∨ c = 1 ∨ (s = true ∧ c = -1)) (hin : inI s n (c * H)) :
    shiftLoUp s n c = .ok (c * H) false := by
  unfold shiftLoUp Outcome.dassert shlI shrI
  rw [hH, wrapI_of_in hn hin]
  rcases hc with h | h | ⟨hs, h⟩
  · subst h; simp; rfl
  · subst h
    rw [Int.ediv_eq_zero_of_lt (by omega) (by omega)]; simp; rfl
  · subst h; subst hs
    have : (-1 : Int) / H = -1 := (div_mod_of_eq (lo := H - 1) (by omega) (by omega) (by omega) (by omega)).1
    rw [this]; simp; rfl

theorem fallback_flat (s : Bool) (n f : Nat) (hn : 0 < n) (hf0 : f ≠ 0) (a b : Int)
    (H lh ll rh rl c1h c1l col12 carry c2h c2l : Int)
    (hH : (2 : Int) ^ (n / 2) = H) (hH2 : 2 ≤ H)
    (hlh : a / H = lh) (hll : a % H = ll) (hrh : b / H = rh) (hrl : b % H = rl)
    (h1 : inI s n (lh * rl)) (h2 : inI s n (ll * rh)) (h3 : inI s n (lh * rh)) (h4 : inI false n (ll * rl))
    (hc1h : ll * rl / H = c1h) (hc1l : ll * rl % H = c1l)
    (h5 : inI s n c1h) (h6 : inI s n (lh * rl + c1h))
    (hcc : carryingAdd s n (lh * rl + c1h) (ll * rh) = (col12, carry))
    (hc2h : col12 / H = c2h) (hc2l : col12 % H = c2l)
    (h7 : inI false n (c2l * H)) (h8 : inI false n (c2l * H + c1l))
    (h9 : inI s n (lh * rh + c2h))
    (h10 : carry = 0 ∨ carry = 1 ∨ (s = true ∧ carry = -1))
    (h11 : inI s n (carry * H))
    (h12 : inI s n (lh * rh + c2h + carry * H)) :
    mulOverflowFallback s n f a b = combineLoThenShl s n (lh * rh + c2h + carry * H) (c2l * H + c1l) f := by
  have hHpos : 0 < H := by omega
  have hc2l0 : 0 ≤ c2l := by rw [← hc2l]; exact Int.emod_nonneg _ (by omega)
  have hc2l1 : c2l < H := by rw [← hc2l]; exact Int.emod_lt_of_pos _ hHpos
  unfold mulOverflowFallback
  simp only [hf0, if_false, hiLo, shrI, hH, hlh, hll, hrh, hrl,
    wrapI_of_in hn h1, wrapI_of_in hn h2, wrapI_of_in hn h3, wrapU_wrapI, wrapU_of_in h4, hc1h, hc1l,
    wrapI_of_in hn h5]
  rw [uadd_of_in hn h6, ok_false_bind]
  simp only [hcc, hc2h, hc2l]
  rw [shiftLoUpUnsigned_ok s n c2l H hH hc2l0 hc2l1 h7, ok_false_bind,
    uadd_of_in hn h8, ok_false_bind, uadd_of_in hn h9, ok_false_bind,
    shiftLoUp_ok s n carry H hH hH2 hn h10 h11, ok_false_bind, uadd_of_in hn h12, ok_false_bind]

theorem fallback_eq_combine (s : Bool) (h f : Nat) (hh : 0 < h) (hf0 : f ≠ 0)
    (a b : Int) (ha : inI s (2 * h) a) (hb : inI s (2 * h) b) :
    mulOverflowFallback s (2 * h) f a b
      = combineLoThenShl s (2 * h) (a * b / 2 ^ (2 * h)) (a * b % 2 ^ (2 * h)) f := by
  have hn : 0 < 2 * h := by omega
  have hB := two_pow_pos h
  have hH : (2 : Int) ^ (2 * h / 2) = 2 ^ h := by rw [Nat.mul_div_cancel_left _ (by decide)]
  have hH2 : (2 : Int) ≤ 2 ^ h := pow_le_pow (a := 1) hh
  have z := inI_zero false h
  have sa := Split.of hB a
  have sb := Split.of hB b
  generalize hlh : a / 2 ^ h = lh at sa
  generalize hll : a % 2 ^ h = ll at sa
  generalize hrh : b / 2 ^ h = rh at sb
  generalize hrl : b % 2 ^ h = rl at sb
  have ilh := sa.hi_in s hh ha
  have irh := sb.hi_in s hh hb
  have ill := sa.lo_in
  have irl := sb.lo_in
  have h1 := inI_double_mul_unsigned s hh ilh irl z
  have h2 := inI_double_mul_unsigned s hh irh ill z
  have h3 := inI_double_mul s hh ilh irh (inI_zero s h)
  have h4 := inI_double_mul_unsigned false hh ill irl z
  rw [Int.add_zero] at h1 h2 h3 h4
  rw [Int.mul_comm] at h2
  have s1 := Split.of hB (ll * rl)
  generalize hc1h : ll * rl / 2 ^ h = c1h at s1
  generalize hc1l : ll * rl % 2 ^ h = c1l at s1
  have ic1h := s1.hi_in false hh h4
  have h5 := inI_double_mul_unsigned s hh (inI_zero s h) z ic1h
  rw [Int.zero_mul, Int.zero_add] at h5
  have h6 := inI_double_mul_unsigned s hh ilh irl ic1h
  obtain ⟨col12, carry, hcc, icol, hsum, hcarry, hup⟩ := carryingAdd_spec s (2 * h) hn _ _ h6 h2
  have s2 := Split.of hB col12
  generalize hc2h : col12 / 2 ^ h = c2h at s2
  generalize hc2l : col12 % 2 ^ h = c2l at s2
  have ic2h := s2.hi_in s hh icol
  have h7 := inU_double_of_halves s2.lo_in z
  rw [Int.add_zero] at h7
  have h8 := inU_double_of_halves s2.lo_in s1.lo_in
  have h9 := inI_double_mul s hh ilh irh ic2h
  have h11 : inI s (2 * h) (carry * 2 ^ h) := by
    refine carry_limb_in s hh (fun hk hs => Nat.le_of_not_lt fun hlt => ?_) hcarry
    obtain rfl : h = 1 := by omega
    subst hs
    exact absurd (hup hk) (Int.not_lt.2 (no_carry_two_bits ilh irh ill irl ic1h))
  rw [pow_double] at hsum
  obtain ⟨hq, hr⟩ := (Split.mul sa sb s1 s2 hsum).unique
  rw [← pow_double] at hq hr
  have h12 : inI s (2 * h) (lh * rh + c2h + carry * 2 ^ h) := by
    have := inI_double_mul s hn ha hb (inI_zero s _)
    rw [Int.add_zero] at this
    exact hq ▸ (inI_double_iff s hn _).1 this
  rw [fallback_flat s (2 * h) f hn hf0 a b (2 ^ h) lh ll rh rl c1h c1l col12 carry c2h c2l hH hH2 hlh hll hrh hrl
    h1 h2 h3 h4 hc1h hc1l h5 h6 hcc hc2h hc2l h7 h8 h9 hcarry h11 h12, hq, hr]

theorem mulOverflowFallback_spec (s : Bool) (n f : Nat) (hn : 2 ≤ n) (heven : n % 2 = 0) (hn32 : n < 2 ^ 31) (hf : f ≤ n)
    (a b : Int) (ha : inI s n a) (hb : inI s n b) :
    mulOverflowFallback s n f a b = .ok (ovfI s n (mulSpec f a b)) false := by
  have hn0 : 0 < n := by omega
  by_cases hf0 : f = 0
  · subst hf0
    unfold mulOverflowFallback mulSpec
    simp only [if_true, Int.pow_zero, Int.ediv_one]
    rfl
  · obtain ⟨h, rfl⟩ : ∃ h, n = 2 * h := ⟨n / 2, by omega⟩
    rw [fallback_eq_combine s h f (by omega) hf0 a b ha hb,
      combine_spec s (2 * h) f hn0 hf0 hf hn32 (a * b) (prod_div_in s (2 * h) hn0 a b ha hb)]
    rfl

#print axioms mulOverflowFallback_spec

end Sfx
