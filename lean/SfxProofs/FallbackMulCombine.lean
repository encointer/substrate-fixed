import SfxProofs.DoubleWidth
import Mathlib.Tactic.Ring
import Mathlib.Tactic.LinearCombination
/-
  FallbackMulCombine.lean — `combine_lo_then_shl` of the 128-bit fallback multiplication:
  given the exact double-width product `P` split as `hi = P / 2^n`, `lo = P % 2^n`, it returns
  `overflowing (P / 2^f)` and no check fires.

  The two Mathlib imports are not used by the proofs here.  They decide how `(2 : Int) ^ k` elaborates in this module and in every
  module that imports it (through `Monoid.toNPow` instead of core's instance), and the statements of the property files
  downstream are written against that; without them those statements are different terms.
-/
namespace Sfx

theorem combine_spec (s : Bool) (n f : Nat) (hn : 0 < n) (hf0 : f ≠ 0) (hf : f ≤ n) (hn32 : n < 2 ^ 31)
    (P : Int) (hP : inI s n (P / 2 ^ n)) :
    combineLoThenShl s n (P / 2 ^ n) (P % 2 ^ n) f = .ok (ovfI s n (P / 2 ^ f)) false := by
  unfold combineLoThenShl
  by_cases hfn : f = n
  · subst hfn
    rw [if_pos rfl, pure_eq_ok, ovfI, wrapI_of_in hn hP]
    simp [hP]
  · have hfl : f < n := by omega
    rw [if_neg hfn, if_neg hf0, usub_nbits n f hn32 hf, ok_false_bind, Int.toNat_natCast,
      ushl_of_lt s (by omega), ok_false_bind, ushr_of_lt hfl, ok_false_bind, pure_eq_ok]
    have hN := two_pow_pos n
    have hF := two_pow_pos f
    have hNF : (2 : Int) ^ n = 2 ^ (n - f) * 2 ^ f := pow_sub_mul hf
    have h0 : 0 ≤ P % 2 ^ n / 2 ^ f := Int.ediv_nonneg (Int.emod_nonneg P (Int.ne_of_gt hN)) (Int.le_of_lt hF)
    have h1 : P % 2 ^ n / 2 ^ f < 2 ^ (n - f) := by
      rw [Int.ediv_lt_iff_lt_mul hF, ← hNF]; exact Int.emod_lt_of_pos P hN
    have hlo : wrapI s n (shrI (P % 2 ^ n) f) = P % 2 ^ n / 2 ^ f := by
      apply wrapI_of_in hn
      have h2 : (2 : Int) ^ (n - f) ≤ 2 ^ (n - 1) := pow_le_pow (by omega)
      obtain ⟨hM, hm, hp, -⟩ := window s hn
      unfold shrI inI
      omega
    have hE : P / 2 ^ f = P % 2 ^ n / 2 ^ f + P / 2 ^ n * 2 ^ (n - f) := by
      have hdm := Int.emod_add_mul_ediv P (2 ^ n)
      rw [← Int.add_mul_ediv_right _ _ (Int.ne_of_gt hF), Int.mul_assoc, ← hNF, Int.mul_comm (P / 2 ^ n), hdm]
    have hans : orI s n (wrapI s n (shrI (P % 2 ^ n) f)) (shlI s n (P / 2 ^ n) (n - f)) = wrapI s n (P / 2 ^ f) := by
      rw [hlo, shlI, hE]
      exact orI_eq_add s n (n - f) _ _ h0 h1
    have htop : shrI (P / 2 ^ n) f = P / 2 ^ f / 2 ^ n := by
      rw [shrI, Int.ediv_ediv_of_nonneg (Int.le_of_lt hN), Int.ediv_ediv_of_nonneg (Int.le_of_lt hF), Int.mul_comm]
    rw [hans, htop, ovf_test s hn]
    rfl

end Sfx
