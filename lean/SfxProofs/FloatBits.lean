import SfxModel.ConvSpec
import SfxProofs.PrimLemmas
/-
  FloatBits.lean — the fields of a float's bit pattern (`FloatFmt.parts`, `SfxModel/Float.lean`) and its exact value (`floatExact`,
  `SfxModel/Cmp.lean`): shift / mask arithmetic with powers of two, the format constants, the significand and exponent every finite
  pattern decodes to, the value of a pattern assembled from its fields, and the NaN test `is_nan` read on the fields.  (core Lean only)
-/
namespace Sfx.FloatFmt

/-- the formats the float conversions are proved for: at least the implicit bit and one more, an exponent field of at least two bits, a
word of at most 128 bits, and `prec ≤ expMax`, which makes every layout that can produce a subnormal result at least `prec` bits wide
(narrower ones are not rounded by `from_to_float_helper`).  `f32`, `f64`, `half::f16`, `half::bf16` are such.  The weaker bounds of
the float → fixed direction are `Sfx.CmpPf.FloatFmt.ok` (CmpFloatKind.lean; so `F.ok` does not resolve, `F.okTo` does); `okTo.ok` there
leads from these to those. -/
def okTo (F : FloatFmt) : Prop := 2 ≤ F.prec ∧ F.prec + 2 ≤ F.nbits ∧ F.nbits ≤ 128 ∧ (F.prec : Int) ≤ F.expMax

end Sfx.FloatFmt

namespace Sfx.ToFloatPf

theorem bitLen_eq {a b : Nat} (hb : 0 < b) (h1 : 2 ^ (b - 1) ≤ a) (h2 : a < 2 ^ b) : bitLen a = b :=
  Sfx.bitLen_eq hb h1 h2

theorem p2split {n : Nat} (hn : 0 < n) : 2 ^ n = 2 * 2 ^ (n - 1) := by
  conv => lhs; rw [show n = (n - 1) + 1 by omega, Nat.pow_succ]
  omega

theorem mul_pow_div_pow (a i j : Nat) : a * 2 ^ (i + j) / 2 ^ i = a * 2 ^ j := by
  rw [Nat.pow_add, Nat.mul_comm (2 ^ i), ← Nat.mul_assoc, Nat.mul_div_cancel _ (Nat.two_pow_pos i)]

theorem mul_pow_div_pow' (a i j : Nat) : a * 2 ^ i / 2 ^ (i + j) = a / 2 ^ j := by
  rw [Nat.pow_add, Nat.mul_comm (2 ^ i) (2 ^ j), Nat.mul_div_mul_right _ _ (Nat.two_pow_pos i)]

theorem mod_div_mod (X K j w : Nat) (h : j + w ≤ K) : X % 2 ^ K / 2 ^ j % 2 ^ w = X / 2 ^ j % 2 ^ w := by
  have hK : K = j + (K - j) := by omega
  rw [hK, Nat.pow_add, Nat.mod_mul_right_div_self]
  exact Nat.mod_mod_of_dvd _ (Nat.pow_dvd_pow 2 (by omega))

theorem mod_mod_pow (X K j : Nat) (h : j ≤ K) : X % 2 ^ K % 2 ^ j = X % 2 ^ j :=
  Nat.mod_mod_of_dvd _ (Nat.pow_dvd_pow 2 h)

theorem mod_pow_div (X j w : Nat) : X % 2 ^ (j + w) / 2 ^ j = X / 2 ^ j % 2 ^ w := by
  rw [Nat.pow_add, Nat.mod_mul_right_div_self]

theorem expMask_eq (F : FloatFmt) (hpn : F.prec < F.nbits) (hp : 1 ≤ F.prec) :
    F.expMask = (F.expMax + 1 + F.expBias).toNat * 2 ^ (F.prec - 1) := by
  unfold FloatFmt.expMask FloatFmt.expMax FloatFmt.expBias
  have h1 : ((2 : Int) ^ (F.nbits - F.prec - 1) - 1 + 1 + (2 ^ (F.nbits - F.prec - 1) - 1)).toNat
      = 2 ^ (F.nbits - F.prec) - 1 := by
    have := (natCast_two_pow (F.nbits - F.prec - 1)).symm
    rw [this]
    have h2 : 2 ^ (F.nbits - F.prec) = 2 * 2 ^ (F.nbits - F.prec - 1) := p2split (by omega)
    have := Nat.two_pow_pos (F.nbits - F.prec - 1)
    omega
  rw [h1, Nat.sub_mul, ← Nat.pow_add, Nat.one_mul]
  congr 2; omega

theorem expMin_le_one (F : FloatFmt) : F.expMin ≤ 1 := by
  unfold FloatFmt.expMin FloatFmt.expBias
  have := two_pow_pos (F.nbits - F.prec - 1)
  omega

theorem bias_facts (F : FloatFmt) (hpn : F.prec + 2 ≤ F.nbits) :
    1 ≤ F.expBias ∧ F.expMax = F.expBias ∧ F.expMin = 1 - F.expBias ∧
      ((2 ^ (F.nbits - F.prec) : Nat) : Int) = 2 * F.expBias + 2 := by
  unfold FloatFmt.expMax FloatFmt.expMin FloatFmt.expBias
  have h1 : (2 : Int) ^ (F.nbits - F.prec) = 2 * 2 ^ (F.nbits - F.prec - 1) := pow_split (by omega)
  have h2 : (2 : Int) ^ (F.nbits - F.prec - 1) = 2 * 2 ^ (F.nbits - F.prec - 1 - 1) := pow_split (by omega)
  have h3 := two_pow_pos (F.nbits - F.prec - 1 - 1)
  have h4 := natCast_two_pow (F.nbits - F.prec)
  omega

/-- a sign applied to an integer: `to_float_kind` negates the rounded mantissa and the direction together -/
def sgnI (neg : Bool) (x : Int) : Int := if neg then -x else x

theorem sgnI_mul (neg : Bool) (x y : Int) : sgnI neg x * y = sgnI neg (x * y) := by
  cases neg
  · rfl
  · exact Int.neg_mul x y

theorem sgnI_natAbs (x : Int) : sgnI (decide (x < 0)) (x.natAbs : Int) = x := by
  unfold sgnI
  by_cases h : x < 0
  · rw [decide_eq_true h, if_pos rfl]; omega
  · rw [decide_eq_false h, if_neg Bool.false_ne_true]; omega

theorem sgnI_inS (neg : Bool) (n : Nat) (x : Int) (h0 : 0 ≤ x) (h1 : x < 2 ^ (n - 1)) : inI true n (sgnI neg x) := by
  rw [inS_iff]
  cases neg
  · show -(2 ^ (n - 1) : Int) ≤ x ∧ x < 2 ^ (n - 1)
    omega
  · show -(2 ^ (n - 1) : Int) ≤ -x ∧ -x < 2 ^ (n - 1)
    omega

/-! `mant1Of` and `exp1Of` are what `floatExact` returns (`floatExact_eq`). -/

/-- significand of a finite pattern: with the implicit bit (normal) or without (subnormal) -/
def mant1Of (F : FloatFmt) (b : Nat) : Nat :=
  if (F.parts b).2.1 ≥ F.expMin then (F.parts b).2.2 + 2 ^ (F.prec - 1) else (F.parts b).2.2
/-- exponent of a finite pattern, clamped below at the exponent of the smallest normal -/
def exp1Of (F : FloatFmt) (b : Nat) : Int :=
  if (F.parts b).2.1 ≥ F.expMin then (F.parts b).2.1 else F.expMin

theorem floatExact_eq (F : FloatFmt) (b : Nat) :
    floatExact F b = if (F.parts b).2.1 > F.expMax then none
      else some (sgnI (F.parts b).1 (mant1Of F b), exp1Of F b - ((F.prec : Int) - 1)) := by
  unfold floatExact mant1Of exp1Of sgnI
  simp only []
  by_cases h : (F.parts b).2.1 > F.expMax
  · rw [if_pos h, if_pos h]
  · rw [if_neg h, if_neg h]
    by_cases c : (F.parts b).2.1 ≥ F.expMin
    · simp only [if_pos c]
    · simp only [if_neg c]

theorem floatExact_none_iff (F : FloatFmt) (b : Nat) : floatExact F b = none ↔ (F.parts b).2.1 > F.expMax := by
  rw [floatExact_eq]
  by_cases h1 : (F.parts b).2.1 > F.expMax
  · rw [if_pos h1]; exact ⟨fun _ => h1, fun _ => rfl⟩
  · rw [if_neg h1]; exact ⟨fun h => (by cases h), fun h => absurd h h1⟩

theorem mant1Of_lt (F : FloatFmt) (hp : 1 ≤ F.prec) (b : Nat) : mant1Of F b < 2 ^ F.prec := by
  have hm : (F.parts b).2.2 < 2 ^ (F.prec - 1) := Nat.mod_lt _ (Nat.two_pow_pos _)
  have h2p : 2 ^ F.prec = 2 * 2 ^ (F.prec - 1) := p2split (by omega)
  unfold mant1Of
  split <;> omega

theorem exp1Of_ge (F : FloatFmt) (b : Nat) : F.expMin ≤ exp1Of F b := by
  unfold exp1Of
  split <;> omega

theorem floatExact_bounds (F : FloatFmt) (hp : 1 ≤ F.prec) (b : Nat) (v : Int × Int) (h : floatExact F b = some v) :
    v.1.natAbs < 2 ^ F.prec ∧ F.expMin - ((F.prec : Int) - 1) ≤ v.2 := by
  rw [floatExact_eq] at h
  split at h
  · cases h
  · cases h
    have := mant1Of_lt F hp b
    have := exp1Of_ge F b
    constructor
    · unfold sgnI; split <;> omega
    · show F.expMin - ((F.prec : Int) - 1) ≤ exp1Of F b - ((F.prec : Int) - 1)
      omega

theorem parts_encode (F : FloatFmt) (hp : 1 ≤ F.prec) (hpn : F.prec < F.nbits) (neg : Bool) (E mf : Nat)
    (hmf : mf < 2 ^ (F.prec - 1)) (hE : E < 2 ^ (F.nbits - F.prec)) :
    F.parts ((if neg then F.signMask else 0) + (E * 2 ^ (F.prec - 1) + mf)) = (neg, (E : Int) - F.expBias, mf) := by
  have hP := Nat.two_pow_pos (F.prec - 1)
  have hsplit : 2 ^ (F.nbits - 1) = 2 ^ (F.nbits - F.prec) * 2 ^ (F.prec - 1) := by
    rw [← Nat.pow_add]; congr 1; omega
  have hbody : E * 2 ^ (F.prec - 1) + mf < 2 ^ (F.nbits - 1) := by
    rw [hsplit]
    have : (E + 1) * 2 ^ (F.prec - 1) ≤ 2 ^ (F.nbits - F.prec) * 2 ^ (F.prec - 1) := Nat.mul_le_mul_right _ hE
    rw [Nat.add_mul] at this
    omega
  have hdiv : (E * 2 ^ (F.prec - 1) + mf) / 2 ^ (F.prec - 1) = E := by
    rw [Nat.add_comm, Nat.add_mul_div_right _ _ hP, Nat.div_eq_of_lt hmf, Nat.zero_add]
  have hmod : (E * 2 ^ (F.prec - 1) + mf) % 2 ^ (F.prec - 1) = mf := by
    rw [Nat.add_comm, Nat.add_mul_mod_self_right, Nat.mod_eq_of_lt hmf]
  unfold FloatFmt.parts FloatFmt.signMask
  generalize hB : E * 2 ^ (F.prec - 1) + mf = B at *
  cases neg
  · simp only [Bool.false_eq_true, if_false, Nat.zero_add]
    rw [Nat.div_eq_of_lt hbody, Nat.mod_eq_of_lt hbody, hdiv, hmod]
    simp
  · simp only [if_true]
    have h1 : (2 ^ (F.nbits - 1) + B) / 2 ^ (F.nbits - 1) = 1 := by
      rw [Nat.add_div_left _ (Nat.two_pow_pos _), Nat.div_eq_of_lt hbody]
    have h2 : (2 ^ (F.nbits - 1) + B) % 2 ^ (F.nbits - 1) = B := by
      rw [Nat.add_mod_left, Nat.mod_eq_of_lt hbody]
    have h3 : (2 ^ (F.nbits - 1) + B) % 2 ^ (F.prec - 1) = mf := by
      rw [hsplit, Nat.add_comm, Nat.add_mul_mod_self_right, hmod]
    rw [h1, h2, h3, hdiv]
    simp

theorem floatExact_encode (F : FloatFmt) (hp : 1 ≤ F.prec) (hpn : F.prec < F.nbits) (neg : Bool) (E mf : Nat)
    (hmf : mf < 2 ^ (F.prec - 1)) (hE : E < 2 ^ (F.nbits - F.prec)) :
    floatExact F ((if neg then F.signMask else 0) + (E * 2 ^ (F.prec - 1) + mf)) =
      if (E : Int) - F.expBias > F.expMax then none
      else if (E : Int) - F.expBias ≥ F.expMin then some (sgnI neg ((mf + 2 ^ (F.prec - 1) : Nat) : Int), (E : Int) - F.expBias - (F.prec - 1))
      else some (sgnI neg mf, F.expMin - (F.prec - 1)) := by
  rw [floatExact_eq]
  unfold mant1Of exp1Of
  rw [parts_encode F hp hpn neg E mf hmf hE]
  simp only []
  split
  · rfl
  · split <;> rfl

theorem sign_if (F : FloatFmt) (x : Int) :
    (if x < 0 then F.signMask else 0) = (if decide (x < 0) = true then F.signMask else 0) := by
  simp

/-- `is_nan` (`(bits & !SIGN_MASK) > EXP_MASK`) is "exponent field all ones and mantissa field non-zero" -/
theorem isNan_iff (F : FloatFmt) (hp : 1 ≤ F.prec) (hpn : F.prec + 2 ≤ F.nbits) (b : Nat) :
    F.isNan b = (decide ((F.parts b).2.1 > F.expMax) && decide ((F.parts b).2.2 ≠ 0)) := by
  obtain ⟨-, hmax, -, h2⟩ := bias_facts F hpn
  have hmask := expMask_eq F (by omega) hp
  have hP := Nat.two_pow_pos (F.prec - 1)
  have hB : b % 2 ^ (F.nbits - 1) < 2 ^ (F.nbits - F.prec) * 2 ^ (F.prec - 1) := by
    rw [← Nat.pow_add, show F.nbits - F.prec + (F.prec - 1) = F.nbits - 1 by omega]
    exact Nat.mod_lt _ (Nat.two_pow_pos _)
  have hm : b % 2 ^ (F.prec - 1) = b % 2 ^ (F.nbits - 1) % 2 ^ (F.prec - 1) :=
    (mod_mod_pow b _ _ (by omega)).symm
  have hdm := Nat.div_add_mod (b % 2 ^ (F.nbits - 1)) (2 ^ (F.prec - 1))
  have hr := Nat.mod_lt (b % 2 ^ (F.nbits - 1)) hP
  have hE : b % 2 ^ (F.nbits - 1) / 2 ^ (F.prec - 1) < 2 ^ (F.nbits - F.prec) :=
    Nat.div_lt_of_lt_mul (by rw [Nat.mul_comm]; exact hB)
  unfold FloatFmt.isNan FloatFmt.parts
  simp only []
  rw [hmask, hmax, hm, Bool.eq_iff_iff]
  simp only [decide_eq_true_eq, Bool.and_eq_true]
  have hT : (F.expBias + 1 + F.expBias).toNat = 2 ^ (F.nbits - F.prec) - 1 := by omega
  rw [hT]
  generalize b % 2 ^ (F.nbits - 1) = B at *
  generalize hq : B / 2 ^ (F.prec - 1) = q at *
  generalize B % 2 ^ (F.prec - 1) = r at *
  generalize 2 ^ (F.nbits - F.prec) = T at *
  by_cases hc : q = T - 1
  · rw [hc, Nat.mul_comm] at hdm
    rw [hc]
    omega
  · have : 2 ^ (F.prec - 1) * (q + 1) ≤ 2 ^ (F.prec - 1) * (T - 1) := Nat.mul_le_mul_left _ (by omega)
    rw [Nat.mul_add, Nat.mul_one, Nat.mul_comm _ (T - 1)] at this
    omega

theorem okTo_of (F : FloatFmt) (hF : F = f32 ∨ F = f64) : F.okTo := by
  rcases hF with rfl | rfl <;> (unfold FloatFmt.okTo; decide)

end Sfx.ToFloatPf
