import SfxProofs.FmtDecWrite
import SfxProofs.FmtRadixRound
/-
  FmtDec.lean — C09, the VALUE of the decimal digits printed by `fmt_dec` (Display / Debug).

  `decBuf` is `fmtDec` cut after `round_and_trim` (`fmtDec_eq`: the bytes printed are `pad_and_print ∘ encode_digits` of exactly
  this buffer); `dec_finished`: the digit string it holds (`FmtPf.Finished`) and its value; `decDigits` reads the digit lists
  off it: the integer digits `data[0 ..= int_digits]` (slot 0 is the carry slot `pad_and_print` skips when it is zero) and the
  `frac_digits` fraction digits.

  * `dec_auto` needs no tie clause: the printed decimal is STRICTLY within half an ulp (either the stop condition
    `self < tie ∨ -self < tie` holds un-wrapped, or `10^digits > 2^fracN`; a wrapped `tie` in the last iteration is
    harmless because then `10^s ≥ 2^(fracN+1)`), hence `rneDiv (valD · 2^fracN) (10^len) = abs`, which is the formula of
    `TextSpec.parseExact` — with a correct parser (C08) this is `parse(to_string(x)) = x`.  The arithmetic from the stop
    condition to these statements is `FmtRadixPf.Gen.valueOk` (any radix); `dec_finished` establishes `Gen`.
  * Not proved (and not needed for C09 as stated): minimality of the number of digits in auto-precision mode (the loop stops at
    the FIRST `k` with the stop condition); missing: a `∀ t < s, ¬ stop t` clause in `fracLoop_spec`.
  * The bytes (`encode_digits`, `pad_and_print`: skipping of the zero carry slot / one leading zero, `'.'`, precision zero
    padding `end_zeros = p - frac_digits`) are in FmtStruct.lean / FmtTopBytes.lean (`dec_bytes`, from `dec_finished`).
-/
namespace Sfx.FmtDecPf
open Display TextSpec FmtRadixPf
open Sfx.FmtPf (Shows)

/-- the model's `fmt_dec` up to and including `round_and_trim` (same text as `fmtDec`).  The other copy, `FmtPf.decBuf`, goes on
through `encode_digits`; `FmtTopPf.decBuf_glue` relates the two -/
def decBuf (w abs fracN : Nat) (prec : Option Nat) : Outcome Buffer := do
  let (int, frac) ← splitIntFrac w abs fracN
  let intUsedNbits := usedBitsHi int
  let intDigits ← ceilLog10_2Times intUsedNbits
  let fracUsedNbits := usedBitsLo w frac
  let (fracDigits, autoPrec) ← (match prec with
    | some precision => pure (Nat.min fracUsedNbits precision, false)
    | none => do
      let d ← ceilLog10_2Times fracN
      pure (d, true) : Outcome (Nat × Bool))
  let buf ← Buffer.new.setLen intDigits fracDigits
  let buf ← writeIntDec w int intUsedNbits buf
  let (buf, fracRemCmpMsb) ← writeFracDec w frac fracN autoPrec buf
  buf.roundAndTrim Radix.dec.max fracRemCmpMsb

/-- (integer digits incl. the carry slot, fraction digits) of a buffer, most significant first -/
def bufDigits (buf : Buffer) : List Nat × List Nat :=
  (sliceL buf.data 0 (buf.intDigits + 1), sliceL buf.data (buf.intDigits + 2) buf.fracDigits)

/-- the digit lists `fmt_dec` hands to `encode_digits` / `pad_and_print` -/
def decDigits (w abs fracN : Nat) (prec : Option Nat) : Outcome (List Nat × List Nat) :=
  (decBuf w abs fracN prec).map' bufDigits

theorem fmtDec_eq (w : Nat) (neg : Bool) (abs fracN : Nat) (spec : FmtSpec) :
    fmtDec w neg abs fracN spec =
      (decBuf w abs fracN spec.prec >>= fun buf => buf.encodeDigits false >>= fun buf => buf.padAndPrint neg [] spec) := by
  unfold fmtDec decBuf Buffer.finish
  simp only [bind_assoc]
  rfl

/-- the digit count `fmt_dec` asks for: `min(frac_used_nbits, precision)` or `ceil_log10_2_times(frac_nbits)` -/
def askDigits (w abs f : Nat) : Option Nat → Nat
  | some p => Nat.min (usedBitsLo w (abs % 2 ^ f * 2 ^ (w - f))) p
  | none => clog f

/-- `ceil_log10_2_times(b)` is at most one more than the number of decimal digits of a `b`-bit number -/
theorem clog_table2 : ∀ f, f < 129 → 1 ≤ f → 10 ^ clog f ≤ 100 * 2 ^ (f - 1) := by
  decide +kernel

theorem exact_at_used (w abs fracN : Nat) (hw : 0 < w) (hf : fracN ≤ w) :
    2 ^ fracN ∣ abs * 10 ^ usedBitsLo w (abs % 2 ^ fracN * 2 ^ (w - fracN)) := by
  obtain ⟨_, _, h, _⟩ := used_frac w fracN (abs % 2 ^ fracN) 1 hw (by decide) hf (Nat.mod_lt _ (Nat.two_pow_pos fracN))
  simp only [Nat.add_sub_cancel, Nat.div_one, Nat.pow_one] at h
  generalize usedBitsLo w (abs % 2 ^ fracN * 2 ^ (w - fracN)) = u at h ⊢
  rw [show (10 : Nat) = 2 * 5 from rfl, Nat.mul_pow, ← Nat.mul_assoc]
  refine Nat.dvd_trans ?_ (Nat.dvd_mul_right _ _)
  conv => rhs; rw [← Nat.div_add_mod abs (2 ^ fracN), Nat.add_mul]
  exact Nat.dvd_add ⟨abs / 2 ^ fracN * 2 ^ u, by rw [Nat.mul_assoc]⟩ h

/-- `n` is the number of fraction digits generated (the number asked for, or fewer in the auto-precision mode under the stop
condition) -/
theorem dec_finished (w abs fracN : Nat) (prec : Option Nat) (hW : FmtPf.WidthOk w) (hf : fracN ≤ w) (ha : abs < 2 ^ w) :
    ∃ buf n ip fp, decBuf w abs fracN prec = .ok buf false ∧ FmtPf.Finished 10 buf ip fp ∧
      Gen 10 prec abs fracN (valI 10 (ip ++ fp)) fp.length n ∧ n ≤ askDigits w abs fracN prec := by
  have hw8 := hW.bounds
  have hD := Nat.two_pow_pos fracN
  have hm : abs % 2 ^ fracN < 2 ^ fracN := Nat.mod_lt _ hD
  have habs : abs / 2 ^ fracN * 2 ^ fracN + abs % 2 ^ fracN = abs := by rw [Nat.mul_comm]; exact Nat.div_add_mod abs (2 ^ fracN)
  have hintlt : abs / 2 ^ fracN < 2 ^ (w - fracN) := by
    rw [Nat.div_lt_iff_lt_mul hD, ← npow_split 2 w fracN hf]; exact ha
  have hb := bitLen_le hintlt
  have hbl : bitLen (abs / 2 ^ fracN) < 112816 := by omega
  have hb129 : bitLen (abs / 2 ^ fracN) < 129 := by omega
  have hb2 := bitLen_ub (abs / 2 ^ fracN)
  obtain ⟨tb1, _, tb3⟩ := clog_table (bitLen (abs / 2 ^ fracN)) hb129
  obtain ⟨_, tf2, tf3⟩ := clog_table fracN (by omega)
  obtain ⟨hule, _⟩ := used_frac w fracN (abs % 2 ^ fracN) 1 (by omega) (by decide) hf hm
  have hask : (match prec with
      | some precision => pure (Nat.min (usedBitsLo w (abs % 2 ^ fracN * 2 ^ (w - fracN))) precision, false)
      | none => do
        let d ← ceilLog10_2Times fracN
        pure (d, true) : Outcome (Nat × Bool)) = .ok (askDigits w abs fracN prec, prec.isNone) false := by
    cases prec with
    | some p => rfl
    | none => rw [ceilLog_eq fracN (by omega)]; rfl
  have htf : askDigits w abs fracN prec ≤ fracN := by
    cases prec with
    | some p => exact Nat.le_trans (Nat.min_le_left _ _) hule
    | none => exact tf3
  -- `ceil_log10_2_times` asks for at most one digit more than the integer part has
  have hlead : clog (bitLen (abs / 2 ^ fracN)) = 0 ∨ 10 ^ clog (bitLen (abs / 2 ^ fracN)) ≤ 10 ^ 2 * (abs / 2 ^ fracN) := by
    by_cases h0 : abs / 2 ^ fracN = 0
    · left; rw [h0]; rfl
    · right
      have hpos := Nat.pos_of_ne_zero h0
      have hb1 : 1 ≤ bitLen (abs / 2 ^ fracN) := by
        unfold bitLen; rw [if_neg h0]; omega
      exact Nat.le_trans (clog_table2 _ hb129 hb1) (Nat.mul_le_mul_left 100 (bitLen_lb hpos))
  unfold decBuf
  rw [splitIntFrac_eq w abs fracN (by omega) hf ha]
  simp only [ok_false_bind]
  rw [show usedBitsHi (abs / 2 ^ fracN) = bitLen (abs / 2 ^ fracN) from rfl, ceilLog_eq _ hbl]
  simp only [ok_false_bind]
  rw [hask]
  simp only [ok_false_bind]
  generalize hask' : askDigits w abs fracN prec = t at *
  generalize abs / 2 ^ fracN = int at *
  generalize clog (bitLen int) = I at *
  have hIt : I + t ≤ 128 := add_le_of_parts (Nat.le_trans tb3 hb) htf hf hw8.2
  obtain ⟨data0, e0, h0⟩ := FmtPf.setLen_shows I t hIt
  obtain ⟨data1, e1, h1⟩ := h0.writeIntDec w int (bitLen int) hb2 (by omega)
  obtain ⟨n, data2, hs, e2, h2, hstop⟩ := h1.writeFracDec w (abs % 2 ^ fracN) fracN prec.isNone hW hf hm
  obtain ⟨buf', ip', fp', e3, hF, hfl, hval⟩ :=
    h2.roundWritten (by decide) (by decide) (by decide) hD (by omega) hm hlead
  rw [e0]; simp only [ok_false_bind]
  rw [e1]; simp only [ok_false_bind]
  rw [e2]; simp only [ok_false_bind]
  rw [habs] at hval
  have hstop' : n = t ∨ (prec = none ∧ (2 ^ fracN < 10 ^ n ∨ 2 * (abs * 10 ^ n % 2 ^ fracN) < 10 ^ n ∨
      2 * (2 ^ fracN - abs * 10 ^ n % 2 ^ fracN) < 10 ^ n)) := hstop.imp id (fun ⟨hauto, h⟩ =>
    ⟨Option.isNone_iff_eq_none.1 hauto, by rw [← habs, (floor_split int (abs % 2 ^ fracN) (2 ^ fracN) (10 ^ n) hD).2]; exact h⟩)
  refine ⟨buf', n, ip', fp', e3, hF, ⟨hfl, hval, fun p hp => ?_, fun hp => ⟨fun h => absurd rfl h, ?_⟩⟩, hs⟩
  · -- fewer than `p` digits: all used bits are shown, the value is exact at `n` digits
    subst hp
    have hst : n = t := hstop'.resolve_right (by simp)
    rw [← hask'] at hst
    refine ⟨by rw [hst]; exact Nat.min_le_right _ _, ?_⟩
    rcases Nat.le_total (usedBitsLo w (abs % 2 ^ fracN * 2 ^ (w - fracN))) p with h | h
    · right; rw [hst, show askDigits w abs fracN (some p) = _ from Nat.min_eq_left h]; exact exact_at_used w abs fracN (by omega) hf
    · left; rw [hst]; exact Nat.min_eq_right h
  · -- asking for `clog fracN` digits is a stop condition by itself
    subst hp
    rcases hstop' with h | ⟨_, h⟩
    · rw [← hask'] at h
      simp only [askDigits] at h
      by_cases hf0 : fracN = 0
      · subst hf0
        right; left
        have : 0 < 10 ^ n := Nat.pow_pos (by decide)
        simp only [Nat.pow_zero, Nat.mod_one]; omega
      · left; rw [h]; exact tf2 (by omega)
    · exact h

theorem _root_.Sfx.FmtPf.Shows.bufDigits_eq {buf : Buffer} {ip fp : List Nat} (h : Shows buf ip fp) :
    bufDigits buf = (ip, fp) := by
  have hl := h.len
  have hs := h.size
  unfold bufDigits
  rw [sliceL_eq_toList _ _ _ (by omega), sliceL_eq_toList _ _ _ (by omega), List.drop_zero, Nat.add_comm buf.intDigits 1,
    h.take_int, show buf.intDigits + 2 = 1 + buf.intDigits + 1 by omega, h.drop_frac]

theorem decDigits_spec (w abs fracN : Nat) (prec : Option Nat) (hW : FmtPf.WidthOk w) (hf : fracN ≤ w) (ha : abs < 2 ^ w) :
    ∃ buf n ip fp, decBuf w abs fracN prec = .ok buf false ∧ FmtPf.Finished 10 buf ip fp ∧
      decDigits w abs fracN prec = .ok (ip, fp) false ∧ Gen 10 prec abs fracN (valI 10 (ip ++ fp)) fp.length n ∧
      n ≤ askDigits w abs fracN prec := by
  obtain ⟨buf, n, ip, fp, heq, hF, hG, hs⟩ := dec_finished w abs fracN prec hW hf ha
  refine ⟨buf, n, ip, fp, heq, hF, ?_, hG, hs⟩
  unfold decDigits
  rw [heq, ← hF.shows.bufDigits_eq]; rfl

/-- C09, requested precision: `Display`/`Debug` with precision `p` print the exact value correctly rounded (ties to
even) at `p` fractional digits; fewer than `p` digits are produced only when the missing ones are zeros. -/
theorem dec_rounded (w abs fracN p : Nat) (hw : w = 8 ∨ w = 16 ∨ w = 32 ∨ w = 64 ∨ w = 128) (hf : fracN ≤ w)
    (ha : abs < 2 ^ w) :
    ∃ ip fp, decDigits w abs fracN (some p) = .ok (ip, fp) false ∧ fp.length ≤ p ∧ (∀ d, d ∈ ip ++ fp → d ≤ 9) ∧
      valD (ip ++ fp) * 10 ^ (p - fp.length) = TextSpec.rneDiv (abs * 10 ^ p) (2 ^ fracN) := by
  obtain ⟨_, _, ip, fp, _, hF, hd, hG, _⟩ := decDigits_spec w abs fracN (some p) hw hf ha
  obtain ⟨hl, hv⟩ := hG.valueOk (by decide)
  exact ⟨ip, fp, hd, by omega, fun d hd => by have := hF.range d hd; omega, hv⟩

/-- C09, automatic precision (`{}` / `{:?}` without a precision): the digits shown are the correct rounding (ties
to even) of the exact value at the number of digits shown; the printed decimal is strictly within half an ulp
(`2^-(fracN+1)`) of the value, so that rounding it back to the `2^-fracN` grid (what a correct parser does — C08) returns
exactly `abs`. -/
theorem dec_auto (w abs fracN : Nat) (hw : w = 8 ∨ w = 16 ∨ w = 32 ∨ w = 64 ∨ w = 128) (hf : fracN ≤ w)
    (ha : abs < 2 ^ w) :
    ∃ ip fp, decDigits w abs fracN none = .ok (ip, fp) false ∧ (∀ d, d ∈ ip ++ fp → d ≤ 9) ∧
      valD (ip ++ fp) = TextSpec.rneDiv (abs * 10 ^ fp.length) (2 ^ fracN) ∧
      (2 * (valD (ip ++ fp) * 2 ^ fracN) < 2 * (abs * 10 ^ fp.length) + 10 ^ fp.length ∧
        2 * (abs * 10 ^ fp.length) < 2 * (valD (ip ++ fp) * 2 ^ fracN) + 10 ^ fp.length) ∧
      TextSpec.rneDiv (valD (ip ++ fp) * 2 ^ fracN) (10 ^ fp.length) = abs ∧
      fp.length ≤ clog fracN := by
  obtain ⟨_, s, ip, fp, _, hF, hd, hG, hs⟩ := decDigits_spec w abs fracN none hw hf ha
  obtain ⟨_, hv, _, h10⟩ := hG.valueOk (by decide)
  obtain ⟨hrt, hnear⟩ := h10 rfl
  exact ⟨ip, fp, hd, fun d hd => by have := hF.range d hd; omega, hv, hnear, hrt, Nat.le_trans hG.len hs⟩

/-- the bytes `fmt_dec` prints are `pad_and_print ∘ encode_digits` of a buffer whose digit lists are `decDigits`
(the object of `dec_rounded` / `dec_auto`) -/
theorem fmtDec_buf (w : Nat) (neg : Bool) (abs fracN : Nat) (spec : FmtSpec)
    (hw : w = 8 ∨ w = 16 ∨ w = 32 ∨ w = 64 ∨ w = 128) (hf : fracN ≤ w) (ha : abs < 2 ^ w) :
    ∃ buf, decBuf w abs fracN spec.prec = .ok buf false ∧
      decDigits w abs fracN spec.prec = .ok (bufDigits buf) false ∧
      fmtDec w neg abs fracN spec = (buf.encodeDigits false >>= fun b => b.padAndPrint neg [] spec) := by
  obtain ⟨buf, _, ip, fp, h2, hF, _⟩ := dec_finished w abs fracN spec.prec hw hf ha
  refine ⟨_, h2, ?_, ?_⟩
  · unfold decDigits; rw [h2]; rfl
  · rw [fmtDec_eq, h2, ok_false_bind]

#print axioms mul10_spec
#print axioms fracLoop_spec
#print axioms fmtDec_eq
#print axioms fmtDec_buf
#print axioms dec_rounded
#print axioms dec_auto

end Sfx.FmtDecPf
