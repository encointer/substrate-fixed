import SfxProofs.FmtRadixLoops
import SfxProofs.FmtMul10
/-
  FmtDecWrite.lean — what FmtDec.lean (C09, value of the decimal digits) builds on: the digit loops of
  `write_int_dec` / `write_frac_dec` as the radix-10 loops of FmtRadixLoops.lean and the stop condition of the auto-precision
  mode; `write_int_dec` / `write_frac_dec` including the half-width delegation as steps between digit strings;
  `ceil_log10_2_times`.  Core Lean only.
-/
namespace Sfx.FmtDecPf
open Display
open Sfx.FmtPf (Shows)

/-- value of a list of decimal digits, most significant first (`FmtRadixPf.valI 10`, by `rfl`) -/
def valD (ds : List Nat) : Nat := ds.foldl (fun a d => a * 10 + d) 0
/-- the `n` slots of the array from `b` on (`0` beyond its end) -/
def sliceL (data : Array Nat) (b n : Nat) : List Nat := (List.range n).map fun j => data.getD (b + j) 0

/-! the definitions on the empty input, and `pure` of the `Outcome` monad (`pure_eq_ok` in this namespace) -/

theorem valD_nil : valD [] = 0 := rfl
theorem sliceL_zero (data : Array Nat) (b : Nat) : sliceL data b 0 = [] := rfl
theorem pure_eq {α : Type} (v : α) : (pure v : Outcome α) = .ok v false := rfl

theorem sliceL_eq_toList (data : Array Nat) (b n : Nat) (h : b + n ≤ data.size) :
    sliceL data b n = (data.toList.drop b).take n := by
  apply List.ext_getElem
  · simp [sliceL]; omega
  · intro i h1 h2
    have : b + i < data.size := by simp [sliceL] at h1; omega
    simp [sliceL, Array.getD_eq_getD_getElem?, this]

open FmtRadixPf

theorem writeIntDecLoop_eq (b : Nat) : ∀ (k : Nat) (data : Array Nat) (self : Nat),
    writeIntDecLoop b k data self = (lowDigitsLoop 10 b k data self, self / 10 ^ k) := by
  intro k
  induction k with
  | zero => intro data self; simp [writeIntDecLoop, lowDigitsLoop]
  | succ k ih =>
    intro data self
    simp only [writeIntDecLoop, lowDigitsLoop, Nat.mod_eq_of_lt (show self % 10 < 256 by omega)]
    rw [ih, Nat.div_div_eq_div_mul, ← Nat.pow_succ']

theorem step_mod (w F r t : Nat) : ((F * r) % 2 ^ w * r ^ t) % 2 ^ w = (F * r ^ (t + 1)) % 2 ^ w := by
  rw [Nat.mod_mul_mod, Nat.pow_succ, Nat.mul_assoc, Nat.mul_comm r]

theorem tie_step (w tie X r : Nat) (h : 2 * tie = X % 2 ^ (w + 1)) :
    2 * (tie * r % 2 ^ w) = (X * r) % 2 ^ (w + 1) := by
  rw [Nat.pow_succ, Nat.mul_comm (2 ^ w) 2, ← Nat.mul_mod_mul_left, ← Nat.mul_assoc, h,
    ← Nat.pow_succ', Nat.mod_mul_mod]

/-- the loop of `write_frac_dec` stops early (`s < k`) only in the auto-precision mode, when the remainder or its complement is
below `tie'`, the running tie `X·10^s / 2` (mod `2^w`) -/
theorem fracLoop_spec (w begin : Nat) (auto : Bool) (hw : 3 ≤ w) :
    ∀ (k i : Nat) (data : Array Nat) (F tie : Nat) (add5 : Bool) (X : Nat), F < 2 ^ w →
      (if add5 then tie = 0 ∧ X = 1 else 2 * tie = X % 2 ^ (w + 1)) →
      ∃ s trim, s ≤ k ∧
        writeFracDecLoop w auto begin k i data F tie add5
          = (fracDigsLoop 10 w s (begin + i) data F, F * 10 ^ s % 2 ^ w, trim) ∧
        trim.getD (i + k) = i + s ∧
        (s = k ∨ (auto = true ∧ ∃ tie', 2 * tie' = (X * 10 ^ s) % 2 ^ (w + 1) ∧
           ((F * 10 ^ s) % 2 ^ w < tie' ∨ (2 ^ w - (F * 10 ^ s) % 2 ^ w) % 2 ^ w < tie'))) := by
  intro k
  induction k with
  | zero =>
    intro i data F tie add5 X hF hT
    exact ⟨0, none, Nat.le_refl _, by simp [writeFracDecLoop, fracDigsLoop, Nat.mod_eq_of_lt hF], rfl, Or.inl rfl⟩
  | succ k ih =>
    intro i data F tie add5 X hF hT
    have hP := Nat.two_pow_pos w
    have hF1 : F * 10 % 2 ^ w < 2 ^ w := Nat.mod_lt _ hP
    have htie : tie < 2 ^ w := by
      split at hT
      · omega
      · have := Nat.mod_lt X (Nat.two_pow_pos (w + 1)); rw [Nat.pow_succ] at this; omega
    have h10 : 10 < 2 ^ (w + 1) := by
      have : 2 ^ 4 ≤ 2 ^ (w + 1) := Nat.pow_le_pow_right (by decide) (by omega)
      omega
    simp only [writeFracDecLoop, mul10_spec w F hF, mul10_spec w tie htie]
    cases auto with
    | false =>
      simp only [Bool.false_eq_true, if_false]
      obtain ⟨s, trim, hs, h1, h4, h5⟩ := ih (i + 1) (data.setIfInBounds (begin + i) (F * 10 / 2 ^ w))
        (F * 10 % 2 ^ w) tie add5 X hF1 hT
      have hsk : s = k := by
        rcases h5 with h | h
        · exact h
        · exact absurd h.1 (by decide)
      subst hsk
      refine ⟨s + 1, trim, Nat.le_refl _, ?_, ?_, Or.inl rfl⟩
      · rw [h1, step_mod, ← Nat.add_assoc]; rfl
      · rw [show i + (s + 1) = i + 1 + s by omega, h4]
    | true =>
      simp only [if_true]
      have hT2 : ∃ tie2, tie2 = (if add5 = true then tie * 10 % 2 ^ w + 5 else tie * 10 % 2 ^ w) ∧
          2 * tie2 = (X * 10) % 2 ^ (w + 1) := by
        refine ⟨_, rfl, ?_⟩
        cases add5 with
        | true =>
          simp only [if_true] at hT ⊢
          obtain ⟨rfl, rfl⟩ := hT
          rw [Nat.mod_eq_of_lt (by omega : 1 * 10 < 2 ^ (w + 1))]
          simp
        | false =>
          simp only [Bool.false_eq_true, if_false] at hT ⊢
          exact tie_step w tie X 10 hT
      obtain ⟨tie2, htie2, hT2⟩ := hT2
      rw [← htie2]
      by_cases hstop : (F * 10 % 2 ^ w < tie2 || (2 ^ w - F * 10 % 2 ^ w) % 2 ^ w < tie2) = true
      · rw [if_pos hstop]
        refine ⟨1, some (i + 1), by omega, ?_, rfl, Or.inr ⟨trivial, tie2, ?_, ?_⟩⟩
        · simp only [fracDigsLoop, Nat.pow_one]
        · simpa using hT2
        · simpa using hstop
      · rw [if_neg hstop]
        obtain ⟨s, trim, hs, h1, h4, h5⟩ := ih (i + 1) (data.setIfInBounds (begin + i) (F * 10 / 2 ^ w))
          (F * 10 % 2 ^ w) tie2 false (X * 10) hF1 (by simpa using hT2)
        refine ⟨s + 1, trim, by omega, ?_, ?_, ?_⟩
        · rw [h1, step_mod, ← Nat.add_assoc]; rfl
        · rw [show i + (k + 1) = i + 1 + k by omega, h4]; omega
        · rcases h5 with h | ⟨_, tie', ht1, ht2⟩
          · exact Or.inl (by omega)
          · refine Or.inr ⟨trivial, tie', ?_, ?_⟩
            · rw [ht1, Nat.pow_succ 10 s, Nat.mul_assoc, Nat.mul_comm 10 (10 ^ s)]
            · rw [step_mod] at ht2; exact ht2

theorem stop_cond (r X D P T tie' : Nat) (hX : 0 < X) (hP : P = D * X) (hr : r < D) (hT : 0 < T)
    (htie : 2 * tie' = (X * T) % (2 * P))
    (h : r * X < tie' ∨ (P - r * X) % P < tie') : D < T ∨ 2 * r < T ∨ 2 * (D - r) < T := by
  by_cases hwrap : X * T < 2 * P
  · rw [Nat.mod_eq_of_lt hwrap] at htie
    right
    rcases h with h | h
    · left
      have : (2 * r) * X < T * X := by
        rw [Nat.mul_assoc, Nat.mul_comm T X]; omega
      exact Nat.lt_of_mul_lt_mul_right this
    · by_cases hr0 : r = 0
      · left; subst hr0; omega
      · right
        have hrX : 0 < r * X := Nat.mul_pos (by omega) hX
        have hle : r * X < P := by rw [hP]; exact Nat.mul_lt_mul_of_pos_right hr hX
        rw [Nat.mod_eq_of_lt (by omega)] at h
        have : (2 * (D - r)) * X < T * X := by
          rw [Nat.mul_assoc, Nat.sub_mul, ← hP, Nat.mul_comm T X]; omega
        exact Nat.lt_of_mul_lt_mul_right this
  · left
    have : (2 * D) * X ≤ T * X := by
      rw [Nat.mul_assoc, ← hP, Nat.mul_comm T X]; omega
    have := Nat.le_of_mul_le_mul_right this hX
    omega

/-- the value `ceil_log10_2_times(f)` computes: `⌈f · c / 2^32⌉` with `c = 0x4D104D43 = ⌈2^32 · log₁₀ 2⌉`, an upper estimate of the
number of decimal digits of an `f`-bit number -/
def clog (f : Nat) : Nat := ((f * 0x4D104D43 + 0xFFFFFFFF) >>> 32) % 2 ^ 32

theorem clog_table : ∀ f, f < 129 → 2 ^ f ≤ 10 ^ clog f ∧ (1 ≤ f → 2 ^ f < 10 ^ clog f) ∧ clog f ≤ f := by
  decide +kernel

theorem ceilLog_eq (f : Nat) (h : f < 112816) : ceilLog10_2Times f = .ok (clog f) false := by
  unfold ceilLog10_2Times Outcome.dassert clog
  simp [h]
  rfl

/-- the initial tie of `write_frac_dec`: half a unit of the last place, or "add 5" when the fraction fills the width -/
theorem initial_tie (w f : Nat) (hfw' : f ≤ w) :
    ∃ tie add5, (if f = w then (pure (0, true) : Outcome (Nat × Bool)) else do
        let t ← shrU w (msb w) f
        pure (t, false)) = .ok (tie, add5) false ∧
      (if add5 then tie = 0 ∧ 2 ^ (w - f) = 1 else 2 * tie = 2 ^ (w - f) % 2 ^ (w + 1)) := by
  by_cases hfw : f = w
  · refine ⟨0, true, by rw [if_pos hfw]; rfl, ?_⟩
    simp [hfw]
  · refine ⟨2 ^ (w - 1 - f), false, ?_, ?_⟩
    · rw [if_neg hfw]
      unfold shrU msb
      have : decide (w ≤ f) = false := by simp; omega
      rw [this, ok_false_bind, Nat.mod_eq_of_lt (by omega), Nat.shiftRight_eq_div_pow,
        Nat.pow_div (by omega) (by decide)]
      rfl
    · simp only [Bool.false_eq_true, if_false]
      rw [Nat.mod_eq_of_lt, ← Nat.pow_succ']
      · congr 1; omega
      · exact Nat.pow_lt_pow_right (by decide) (by omega)

theorem _root_.Sfx.FmtPf.Shows.writeIntDec {I n : Nat} {data : Array Nat} {c : Nat} {old fp : List Nat}
    (h : Shows ⟨I, n, data⟩ (c :: old) fp)
    (w self nbits : Nat) (hnb : self < 2 ^ nbits) (hub : self < 10 ^ I) :
    ∃ data', Display.writeIntDec w self nbits ⟨I, n, data⟩ = .ok ⟨I, n, data'⟩ false ∧
      Shows ⟨I, n, data'⟩ (c :: lowDigits 10 I self) fp := by
  have hsz := h.size
  have hl := h.len
  simp only at hsz hl
  obtain ⟨w', hw', heq⟩ := half_int (fun w s => Display.writeIntDec w s nbits ⟨I, n, data⟩) nbits
    (fun w s h => by rw [Display.writeIntDec, dif_pos h]) w self hnb
  refine ⟨_, ?_, h.lowDigitsLoop 10 self⟩
  rw [show Display.writeIntDec w self nbits ⟨I, n, data⟩ = Display.writeIntDec w' self nbits ⟨I, n, data⟩ from heq,
    Display.writeIntDec, dif_neg hw']
  simp only [int_eq I n data (by omega), ok_false_bind, show 1 + I - 1 = I by omega, writeIntDecLoop_eq,
    Nat.div_eq_of_lt hub, Outcome.dassert]
  rfl

theorem _root_.Sfx.FmtPf.Shows.writeFracDec {I t : Nat} {data : Array Nat} {ip old : List Nat}
    (h : Shows ⟨I, t, data⟩ ip old) (w m f : Nat) (auto : Bool)
    (hW : FmtPf.WidthOk w) (hf : f ≤ w) (hm : m < 2 ^ f) :
    ∃ s data', s ≤ t ∧
      Display.writeFracDec w (m * 2 ^ (w - f)) f auto ⟨I, t, data⟩ =
        .ok (⟨I, s, data'⟩, compare (2 * (m * 10 ^ s % 2 ^ f)) (2 ^ f)) false ∧
      Shows ⟨I, s, data'⟩ ip (fracDigs 10 (2 ^ f) s m) ∧
      (s = t ∨ (auto = true ∧ (2 ^ f < 10 ^ s ∨ 2 * (m * 10 ^ s % 2 ^ f) < 10 ^ s ∨
        2 * (2 ^ f - m * 10 ^ s % 2 ^ f) < 10 ^ s))) := by
  have hsz := h.size
  have hIt := h.len
  simp only at hsz hIt
  obtain ⟨e, rfl⟩ := hW.pow
  obtain ⟨w, hw', h8, hfw, heq⟩ := half_frac (fun w F => Display.writeFracDec w F f auto ⟨I, t, data⟩) f
    (fun w F h => by rw [Display.writeFracDec, dif_pos h]) e m hf hm
  rw [show Display.writeFracDec (8 * 2 ^ e) (m * 2 ^ (8 * 2 ^ e - f)) f auto ⟨I, t, data⟩
      = Display.writeFracDec w (m * 2 ^ (w - f)) f auto ⟨I, t, data⟩ from heq, Display.writeFracDec, dif_neg hw']
  have hL := fun R => left_aligned w f m R (by omega) hfw hm
  have hX : 0 < 2 ^ (w - f) := Nat.two_pow_pos _
  have hP : 2 ^ w = 2 ^ f * 2 ^ (w - f) := npow_split' 2 w f hfw
  obtain ⟨tie, add5, htie1, htie2⟩ := initial_tie w f hfw
  obtain ⟨s, trim, hs, h1, h4, h5⟩ := fracLoop_spec w (1 + I + 1) auto (by omega) t 0 data (m * 2 ^ (w - f)) tie add5
    (2 ^ (w - f)) (hL 1).1 htie2
  simp only [Nat.add_zero, Nat.zero_add] at h1 h4
  have hsh := h.fracDigsLoop 10 w s (m * 2 ^ (w - f)) hs
  rw [hP, fracDigs_scale _ _ _ hX] at hsh
  refine ⟨s, _, hs, ?_, hsh, ?_⟩
  · rw [htie1]
    simp only [ok_false_bind, frac_eq I t data hIt, show 1 + I + 1 + t - (1 + I + 1) = t by omega, h1,
      pure_eq_ok, (hL _).2.2]
    cases trim with
    | none => rw [show t = s from h4]
    | some v => rw [show v = s from h4]
  · rcases h5 with h | ⟨hauto, tie', ht1, ht2⟩
    · exact Or.inl h
    · right
      refine ⟨hauto, ?_⟩
      rw [(hL _).2.1] at ht2
      refine stop_cond (m * 10 ^ s % 2 ^ f) (2 ^ (w - f)) (2 ^ f) (2 ^ w) (10 ^ s) tie' hX hP
        (Nat.mod_lt _ (Nat.two_pow_pos f)) (Nat.pow_pos (by decide)) ?_ ht2
      rw [ht1, Nat.pow_succ, Nat.mul_comm (2 ^ w) 2]

end Sfx.FmtDecPf
