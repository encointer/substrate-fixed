import SfxModel.Display
/-
  FmtMul10.lean — `Mul10::mul10_assign` (`display.rs`): on every width, the two-limb `u128` version included, it multiplies by
  ten, keeps the low word and returns the digit that fell out at the top (`mul10_spec`).  Core Lean only.
-/
namespace Sfx.FmtDecPf
open Display

theorem mul10Widen_spec (w x : Nat) (hx : x < 2 ^ w) :
    mul10Widen w x = ((x * 10) % 2 ^ w, (x * 10) / 2 ^ w) := by
  unfold mul10Widen
  simp only [Nat.shiftRight_eq_div_pow]
  have h : x * 10 / 2 ^ w < 10 := by
    rw [Nat.div_lt_iff_lt_mul (Nat.two_pow_pos w)]
    have := Nat.two_pow_pos w
    omega
  rw [Nat.mod_eq_of_lt (a := x * 10 / 2 ^ w) (by omega)]

theorem shl_or {k : Nat} (a b : Nat) (hb : b < 2 ^ k) : (a <<< k) ||| b = a * 2 ^ k + b := by
  rw [← Nat.shiftLeft_add_eq_or_of_lt hb, Nat.shiftLeft_eq]

theorem two_limbs_lt {q r B : Nat} (hq : q < B) (hr : r < B) : q * B + r < B * B := by
  have : (q + 1) * B ≤ B * B := Nat.mul_le_mul_right B hq
  rw [Nat.add_mul, Nat.one_mul] at this
  omega

theorem mul10_limbs (B h l : Nat) (hB : 10 ≤ B) (hl : l < B) :
    (h * B + l) * 10 % (B * B) = (h * 10 % B + l * 10 / B) % B * B + l * 10 % B ∧
    (h * B + l) * 10 / (B * B) = h * 10 / B + (if B ≤ h * 10 % B + l * 10 / B then 1 else 0) := by
  have hB0 : 0 < B := by omega
  have e1 := Nat.div_add_mod (h * 10) B
  have e2 := Nat.div_add_mod (l * 10) B
  have b3 : h * 10 % B < B := Nat.mod_lt _ hB0
  have b4 : l * 10 % B < B := Nat.mod_lt _ hB0
  have b2 : l * 10 / B < 10 := by rw [Nat.div_lt_iff_lt_mul hB0]; omega
  generalize h * 10 / B = hH at *
  generalize h * 10 % B = hL at *
  generalize l * 10 / B = lH at *
  generalize l * 10 % B = lL at *
  have hBB : 0 < B * B := Nat.mul_pos hB0 hB0
  have e3 : (h * B + l) * 10 = hL * B + lH * B + lL + hH * (B * B) := by
    rw [Nat.add_mul, Nat.mul_right_comm, ← e1, ← e2, Nat.add_mul, Nat.mul_comm B lH, Nat.mul_comm B hH, Nat.mul_assoc]
    omega
  by_cases hc : B ≤ hL + lH
  · have hw : (hL + lH) % B = hL + lH - B := by
      rw [Nat.mod_eq_sub_mod hc, Nat.mod_eq_of_lt (by omega)]
    have e4 : hL * B + lH * B = (hL + lH - B) * B + B * B := by
      rw [← Nat.add_mul, ← Nat.add_mul, Nat.sub_add_cancel hc]
    have hlt : (hL + lH - B) * B + lL < B * B := two_limbs_lt (by omega) b4
    rw [e3, e4, if_pos hc, hw, show (hL + lH - B) * B + B * B + lL + hH * (B * B)
      = (hL + lH - B) * B + lL + (hH + 1) * (B * B) by rw [Nat.add_mul, Nat.one_mul]; omega,
      Nat.add_mul_mod_self_right, Nat.add_mul_div_right _ _ hBB, Nat.mod_eq_of_lt hlt, Nat.div_eq_of_lt hlt]
    omega
  · have hw : (hL + lH) % B = hL + lH := Nat.mod_eq_of_lt (by omega)
    have hlt : (hL + lH) * B + lL < B * B := two_limbs_lt (by omega) b4
    rw [e3, ← Nat.add_mul, if_neg hc, hw, Nat.add_mul_mod_self_right, Nat.add_mul_div_right _ _ hBB,
      Nat.mod_eq_of_lt hlt, Nat.div_eq_of_lt hlt]
    omega

theorem mul10U128_spec (x : Nat) (hx : x < 2 ^ 128) :
    mul10U128 x = ((x * 10) % 2 ^ 128, (x * 10) / 2 ^ 128) := by
  have hB := Nat.two_pow_pos 64
  have hh : x / 2 ^ 64 < 2 ^ 64 := by omega
  have hl : x % 2 ^ 64 < 2 ^ 64 := Nat.mod_lt _ hB
  obtain ⟨hm, hd⟩ := mul10_limbs (2 ^ 64) (x / 2 ^ 64) (x % 2 ^ 64) (by decide) hl
  have hH : x / 2 ^ 64 * 10 / 2 ^ 64 < 10 := by rw [Nat.div_lt_iff_lt_mul hB]; omega
  have hLH : x % 2 ^ 64 * 10 / 2 ^ 64 < 10 := by rw [Nat.div_lt_iff_lt_mul hB]; omega
  rw [Nat.div_add_mod' x (2 ^ 64), show (2 : Nat) ^ 64 * 2 ^ 64 = 2 ^ 128 by rw [← Nat.pow_add]] at hm hd
  unfold mul10U128
  simp only [Nat.shiftRight_eq_div_pow, Nat.and_two_pow_sub_one_eq_mod, decide_eq_true_eq]
  rw [shl_or _ _ (Nat.mod_lt _ hB), hm, hd, Nat.mod_eq_of_lt (show x / 2 ^ 64 * 10 / 2 ^ 64 < 2 ^ 64 by omega),
    Nat.mod_eq_of_lt (show x % 2 ^ 64 * 10 / 2 ^ 64 < 2 ^ 64 by omega),
    Nat.mod_eq_of_lt (show x / 2 ^ 64 * 10 / 2 ^ 64 < 256 by omega)]

theorem mul10_spec (w x : Nat) (hx : x < 2 ^ w) : Display.mul10 w x = ((x * 10) % 2 ^ w, (x * 10) / 2 ^ w) := by
  unfold mul10
  split
  · next h => subst h; exact mul10U128_spec x hx
  · exact mul10Widen_spec w x hx

end Sfx.FmtDecPf
