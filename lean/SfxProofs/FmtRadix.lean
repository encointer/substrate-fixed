import SfxProofs.FmtRadixRound
/-
  FmtRadix.lean — property C09 for the power-of-two radices: the digits produced by `fmt_radix2` (Binary, Octal,
  LowerHex, UpperHex) are the exact value, or its correct rounding (ties to even) at a requested precision.

  Level: the digit buffer after `round_and_trim`, before `encode_digits` / `pad_and_print`.  That the printed integer part is
  canonical and what the encoded buffer shows is said for both generators at once in FmtTopBytes.lean (`Finished.bytes`,
  `radix_bytes`).
-/
namespace Sfx.FmtRadixPf
open Display TextSpec
open Sfx.FmtPf (Shows absL)

theorem radix_max (radix : Radix) (h : radix ≠ .dec) : radix.max = 2 ^ radix.digitBits - 1 := by
  cases radix <;> first | rfl | exact absurd rfl h

theorem radix_db (radix : Radix) : 1 ≤ radix.digitBits ∧ radix.digitBits ≤ 4 := by
  cases radix <;> simp [Radix.digitBits]

theorem _root_.Sfx.FmtPf.Shows.writeInt {I n : Nat} {data : Array Nat} {c : Nat} {old fp : List Nat}
    (h : Shows ⟨I, n, data⟩ (c :: old) fp) (radix : Radix) (hrx : radix ≠ .dec)
    (w self nbits : Nat) (hnb : self < 2 ^ nbits)
    (hlb : 0 < I → (2 ^ radix.digitBits) ^ (I - 1) ≤ self) (hub : self < (2 ^ radix.digitBits) ^ I) :
    ∃ data', Display.writeInt w self radix nbits ⟨I, n, data⟩ = .ok ⟨I, n, data'⟩ false ∧
      Shows ⟨I, n, data'⟩ (c :: lowDigits (2 ^ radix.digitBits) I self) fp := by
  have hsz := h.size
  have hl := h.len
  simp only at hsz hl
  obtain ⟨w', hw', heq⟩ := half_int (fun w s => Display.writeInt w s radix nbits ⟨I, n, data⟩) nbits
    (fun w s h => by rw [Display.writeInt, dif_pos h]) w self hnb
  refine ⟨_, ?_, h.lowDigitsLoop (2 ^ radix.digitBits) self⟩
  have hdb := radix_db radix
  rw [show Display.writeInt w self radix nbits ⟨I, n, data⟩ = Display.writeInt w' self radix nbits ⟨I, n, data⟩ from heq,
    Display.writeInt, dif_neg hw']
  simp only [int_eq I n data (by omega), ok_false_bind, show 1 + I - 1 = I by omega, radix_max radix hrx,
    writeIntLoop_eq radix.digitBits 1 (by omega) I data self false hlb, Nat.div_eq_of_lt hub, Outcome.dbgIf,
    Outcome.dassert]
  rfl

/-- `u`, the used bits of the fraction, only steers the half-width delegation -/
theorem _root_.Sfx.FmtPf.Shows.writeFrac {I n : Nat} {data : Array Nat} {ip old : List Nat}
    (h : Shows ⟨I, n, data⟩ ip old) (radix : Radix)
    (w m f u : Nat) (hW : FmtPf.WidthOk w) (hf : f ≤ w) (hu : u ≤ f) (hm : m < 2 ^ f) (hdvd : 2 ^ (f - u) ∣ m)
    (hnz : ∀ j, j < n → m * (2 ^ radix.digitBits) ^ j % 2 ^ f ≠ 0) :
    ∃ data', Display.writeFrac w (m * 2 ^ (w - f)) radix u ⟨I, n, data⟩
        = .ok (⟨I, n, data'⟩, compare (2 * (m * (2 ^ radix.digitBits) ^ n % 2 ^ f)) (2 ^ f)) false ∧
      Shows ⟨I, n, data'⟩ ip (fracDigs (2 ^ radix.digitBits) (2 ^ f) n m) := by
  have hIn := h.len
  simp only at hIn
  -- the fraction is `c / 2^u`; that is the form in which it is delegated to the narrower types
  obtain ⟨c, rfl⟩ := hdvd
  have hX := Nat.two_pow_pos (f - u)
  have hP : 2 ^ f = 2 ^ u * 2 ^ (f - u) := npow_split' 2 f u hu
  have hc : c < 2 ^ u := by rw [hP, Nat.mul_comm] at hm; exact Nat.lt_of_mul_lt_mul_right hm
  have hmod : ∀ R, 2 ^ (f - u) * c * R % 2 ^ f = c * R % 2 ^ u * 2 ^ (f - u) := fun R => by
    rw [hP, Nat.mul_comm (2 ^ (f - u)) c, Nat.mul_right_comm, Nat.mul_mod_mul_right]
  rw [show 2 ^ (f - u) * c * 2 ^ (w - f) = c * 2 ^ (w - u) by
    rw [Nat.mul_comm (2 ^ (f - u)) c, Nat.mul_assoc, ← Nat.pow_add]; congr 2; omega]
  obtain ⟨e, rfl⟩ := hW.pow
  obtain ⟨w', hw', h8, hnw', heq⟩ := half_frac (fun w F => Display.writeFrac w F radix u ⟨I, n, data⟩) u
    (fun w F h => by rw [Display.writeFrac, dif_pos h]) e c (by omega) hc
  have hdb := radix_db radix
  have hL := fun R => left_aligned w' u c R (by omega) hnw' hc
  have hsh := h.fracDigsLoop (2 ^ radix.digitBits) w' n (c * 2 ^ (w' - u)) (Nat.le_refl n)
  rw [npow_split 2 w' (w' - u) (by omega), show w' - (w' - u) = u by omega, fracDigs_scale _ _ _ (Nat.two_pow_pos _)] at hsh
  refine ⟨_, ?_, by rw [hP, Nat.mul_comm (2 ^ (f - u)) c, fracDigs_scale _ _ _ hX]; exact hsh⟩
  have hloop := writeFracLoop_eq w' radix.digitBits (1 + I + 1) (by omega) (by omega) n 0 data
    (c * 2 ^ (w' - u)) false (hL 1).1
    (fun j hj h0 => by
      rw [(hL _).2.1] at h0
      exact hnz j hj (by rw [hmod, (Nat.mul_eq_zero.1 h0).resolve_right (Nat.ne_of_gt (Nat.two_pow_pos _)), Nat.zero_mul]))
  rw [show Display.writeFrac (8 * 2 ^ e) (c * 2 ^ (8 * 2 ^ e - u)) radix u ⟨I, n, data⟩
      = Display.writeFrac w' (c * 2 ^ (w' - u)) radix u ⟨I, n, data⟩ from heq, Display.writeFrac, dif_neg hw']
  simp only [frac_eq I n data hIn, ok_false_bind, show 1 + I + 1 + n - (1 + I + 1) = n by omega, hloop, Outcome.dbgIf,
    pure_eq_ok, (hL _).2.2, Nat.add_zero]
  rw [hmod, hP, ← Nat.mul_assoc, cmp_mul _ _ _ hX]

theorem int_digits_facts (int db bound : Nat) (hdb : 0 < db) (hint : int < 2 ^ bound) :
    int < (2 ^ db) ^ ((bitLen int + db - 1) / db) ∧
    (0 < (bitLen int + db - 1) / db → (2 ^ db) ^ ((bitLen int + db - 1) / db - 1) ≤ int) ∧
    (bitLen int + db - 1) / db ≤ bound := by
  obtain ⟨h1, h2, h3⟩ := ceil_div (bitLen int) db hdb
  have hub := bitLen_ub int
  have hle := bitLen_le hint
  generalize (bitLen int + db - 1) / db = I at *
  refine ⟨?_, ?_, by omega⟩
  · rw [← Nat.pow_mul]
    exact Nat.lt_of_lt_of_le hub (Nat.pow_le_pow_right (by decide) h1)
  · intro hI
    have h2' := h2 hI
    have hpos : 0 < int := by
      apply Classical.byContradiction; intro h0
      have : int = 0 := by omega
      subst this; simp [bitLen] at h2'
    have hlb := bitLen_lb hpos
    rw [← Nat.pow_mul]
    exact Nat.le_trans (Nat.pow_le_pow_right (by decide) (by omega)) hlb

/-- the position of the first printed byte, as computed by `pad_and_print`, on the digit values.  The same position on the encoded
bytes is `FmtPf.absBeginOf` (`Shows.absBeginOf_encoded`), on a digit list `FmtPf.absL` (`Shows.absBeginRaw_eq`) -/
def absBeginRaw (data : Array Nat) : Nat :=
  if data.getD 0 0 ≠ 0 then 0 else if data.getD 1 0 = 46 then 0 else if data.getD 1 0 = 0 then 2 else 1

/-- the integer digits `pad_and_print` will print: the slots before the point, from `abs_begin` on -/
def intList (buf : Buffer) : List Nat := (buf.data.toList.take (1 + buf.intDigits)).drop (absBeginRaw buf.data)
/-- the `frac_digits` slots behind the point -/
def fracList (buf : Buffer) : List Nat := (buf.data.toList.drop (1 + buf.intDigits + 1)).take buf.fracDigits

theorem _root_.Sfx.FmtPf.Shows.absBeginRaw_eq {buf : Buffer} {ip fp : List Nat} (h : Shows buf ip fp)
    (h46 : ∀ d ∈ ip, d ≠ 46) : absBeginRaw buf.data = absL ip := by
  obtain ⟨d0, t, rfl, h0, h1⟩ := h.slots01
  unfold absBeginRaw
  rw [h0, h1]
  cases t with
  | nil => simp [absL]
  | cons d1 t => have : d1 ≠ 46 := h46 d1 (by simp); simp [absL, this]

theorem _root_.Sfx.FmtPf.Shows.intList_eq {buf : Buffer} {ip fp : List Nat} (h : Shows buf ip fp)
    (h46 : ∀ d ∈ ip, d ≠ 46) : intList buf = ip.drop (absL ip) := by
  unfold intList
  rw [h.take_int, h.absBeginRaw_eq h46]

theorem _root_.Sfx.FmtPf.Shows.fracList_eq {buf : Buffer} {ip fp : List Nat} (h : Shows buf ip fp) : fracList buf = fp :=
  h.drop_frac

/-- the model's `fmt_radix2` up to and including `round_and_trim`: the body of `fmtRadix2` with `Buffer.finish` unfolded, cut
before `encode_digits` (see `fmtRadix2_eq_radixBuf`).  The other copy, `FmtPf.radixBuf`, goes on through `encode_digits`;
`FmtTopPf.radixBuf_glue` relates the two -/
def radixBuf (w abs fracN : Nat) (radix : Radix) (prec : Option Nat) : Outcome Buffer := do
  let (int, frac) ← splitIntFrac w abs fracN
  let digitBits := radix.digitBits
  let intUsedNbits := usedBitsHi int
  let intDigits := (intUsedNbits + digitBits - 1) / digitBits
  let fracUsedNbits := usedBitsLo w frac
  let fracDigits := (fracUsedNbits + digitBits - 1) / digitBits
  let fracDigits := match prec with
    | some precision => Nat.min fracDigits precision
    | none => fracDigits
  let buf ← Buffer.new.setLen intDigits fracDigits
  let buf ← writeInt w int radix intUsedNbits buf
  let (buf, fracRemCmpMsb) ← writeFrac w frac radix fracUsedNbits buf
  buf.roundAndTrim radix.max fracRemCmpMsb

theorem fmtRadix2_eq_radixBuf (w : Nat) (neg : Bool) (abs fracN : Nat) (radix : Radix) (spec : FmtSpec) :
    fmtRadix2 w neg abs fracN radix spec = (do
      let buf ← radixBuf w abs fracN radix spec.prec
      let buf ← buf.encodeDigits (radix == .upHex)
      buf.padAndPrint neg radix.prefix spec) := by
  unfold fmtRadix2 radixBuf Buffer.finish
  simp only [bind_assoc]
  rfl

theorem radix_pow (radix : Radix) :
    2 ≤ 2 ^ radix.digitBits ∧ 2 ^ radix.digitBits ≤ 16 ∧ 2 ^ radix.digitBits % 2 = 0 := by
  cases radix <;> decide

/-- `n` is the number of fraction digits generated (all of them, or the precision if smaller) -/
theorem radix_finished (w abs fracN : Nat) (radix : Radix) (prec : Option Nat)
    (hW : FmtPf.WidthOk w) (hf : fracN ≤ w) (ha : abs < 2 ^ w) (hrx : radix ≠ .dec) :
    ∃ buf n ip fp, radixBuf w abs fracN radix prec = .ok buf false ∧
      FmtPf.Finished (2 ^ radix.digitBits) buf ip fp ∧
      Gen (2 ^ radix.digitBits) prec abs fracN (valI (2 ^ radix.digitBits) (ip ++ fp)) fp.length n := by
  have hdb := radix_db radix
  have hw8 := hW.bounds
  have hD := Nat.two_pow_pos fracN
  have hm : abs % 2 ^ fracN < 2 ^ fracN := Nat.mod_lt _ hD
  have habs : abs / 2 ^ fracN * 2 ^ fracN + abs % 2 ^ fracN = abs := by rw [Nat.mul_comm]; exact Nat.div_add_mod abs (2 ^ fracN)
  obtain ⟨hr2, hr16, hreven⟩ := radix_pow radix
  have hintlt : abs / 2 ^ fracN < 2 ^ (w - fracN) := by
    rw [Nat.div_lt_iff_lt_mul hD, ← npow_split 2 w fracN hf]; exact ha
  obtain ⟨hIub, hIlb, hIle⟩ := int_digits_facts (abs / 2 ^ fracN) radix.digitBits (w - fracN) (by omega) hintlt
  obtain ⟨hule, hudvd, hn0dvd, hn0nz, hn0le⟩ := used_frac w fracN (abs % 2 ^ fracN) radix.digitBits (by omega) (by omega) hf hm
  unfold radixBuf
  rw [splitIntFrac_eq w abs fracN (by omega) hf ha]
  simp only [ok_false_bind, usedBitsHi]
  generalize usedBitsLo w (abs % 2 ^ fracN * 2 ^ (w - fracN)) = u at *
  generalize abs / 2 ^ fracN = int at *
  generalize (bitLen int + radix.digitBits - 1) / radix.digitBits = I at *
  generalize (u + radix.digitBits - 1) / radix.digitBits = n0 at *
  generalize hn : (match prec with
    | some precision => n0.min precision
    | none => n0) = n
  have hnle : n ≤ n0 := by
    subst hn; cases prec with
    | none => exact Nat.le_refl _
    | some p => exact Nat.min_le_left _ _
  have hncase : n = n0 ∨ prec = some n := by
    subst hn; cases prec with
    | none => left; rfl
    | some p =>
      simp only [Nat.min_def]
      split
      · left; rfl
      · right; rfl
  have hnp : ∀ p, prec = some p → n ≤ p := by
    intro p hp; subst hn; subst hp; exact Nat.min_le_right _ _
  have hIn : I + n ≤ 128 := add_le_of_parts hIle (Nat.le_trans hnle (Nat.le_trans hn0le hule)) hf hw8.2
  have hlead : I = 0 ∨ (2 ^ radix.digitBits) ^ I ≤ (2 ^ radix.digitBits) ^ 2 * int := by
    by_cases hI0 : I = 0
    · exact Or.inl hI0
    · right
      have e : (2 ^ radix.digitBits) ^ I = (2 ^ radix.digitBits) ^ (I - 1) * 2 ^ radix.digitBits := by
        rw [← Nat.pow_succ]; congr 1; omega
      rw [e, Nat.pow_two, Nat.mul_comm _ int]
      exact Nat.mul_le_mul (hIlb (by omega)) (Nat.le_mul_of_pos_left _ (by omega))
  obtain ⟨data0, e0, h0⟩ := FmtPf.setLen_shows I n hIn
  obtain ⟨data1, e1, h1⟩ := h0.writeInt radix hrx w int (bitLen int) (bitLen_ub int) hIlb hIub
  obtain ⟨data2, e2, h2⟩ := h1.writeFrac radix w (abs % 2 ^ fracN) fracN u hW hf hule hm hudvd (fun j hj => hn0nz j (by omega))
  obtain ⟨buf', ip', fp', e3, hF, hfl, hval⟩ :=
    h2.roundWritten hr2 (by omega) hreven hD hIub hm hlead
  rw [e0]; simp only [ok_false_bind]
  rw [e1]; simp only [ok_false_bind]
  rw [e2]; simp only [ok_false_bind]
  rw [radix_max radix hrx]
  rw [habs] at hval
  -- all `n0` digits are exact; fewer are generated only for a smaller precision
  have hcase : 2 ^ fracN ∣ abs * (2 ^ radix.digitBits) ^ n ∨ prec = some n := hncase.imp (fun h => by
    rw [← habs, h, Nat.add_mul]
    exact Nat.dvd_add ⟨int * (2 ^ radix.digitBits) ^ n0, by rw [Nat.mul_right_comm, Nat.mul_comm]⟩ hn0dvd) id
  refine ⟨buf', n, ip', fp', e3, hF, hfl, hval, fun p hp => ⟨hnp p hp, ?_⟩, fun hp => ?_⟩
  · rcases hcase with h | h
    · exact Or.inr h
    · left; rw [hp] at h; exact (Option.some.inj h).symm
  · have hdvd : 2 ^ fracN ∣ abs * (2 ^ radix.digitBits) ^ n := hcase.resolve_right (by rw [hp]; simp)
    refine ⟨fun _ => hdvd, Or.inr (Or.inl ?_)⟩
    rw [Nat.mod_eq_zero_of_dvd hdvd, Nat.mul_zero]
    exact Nat.pow_pos (Nat.two_pow_pos _)

/-- the digits of the finished buffer: (integer digits, most significant first; fraction digits) -/
def radixDigits (w abs fracN : Nat) (radix : Radix) (prec : Option Nat) : Outcome (List Nat × List Nat) :=
  (radixBuf w abs fracN radix prec).map' fun b => (intList b, fracList b)

theorem radixDigits_core (w abs fracN : Nat) (radix : Radix) (prec : Option Nat)
    (hW : FmtPf.WidthOk w) (hf : fracN ≤ w) (ha : abs < 2 ^ w) (hrx : radix ≠ .dec) :
    ∃ buf n ip fp, radixBuf w abs fracN radix prec = .ok buf false ∧
      FmtPf.Finished (2 ^ radix.digitBits) buf ip fp ∧
      radixDigits w abs fracN radix prec = .ok (ip.drop (absL ip), fp) false ∧
      Gen (2 ^ radix.digitBits) prec abs fracN (valI (2 ^ radix.digitBits) (ip.drop (absL ip) ++ fp)) fp.length n := by
  obtain ⟨buf, n, ip, fp, heq, hF, hG⟩ := radix_finished w abs fracN radix prec hW hf ha hrx
  have hr16 := (radix_pow radix).2.1
  refine ⟨buf, n, ip, fp, heq, hF, ?_, by rw [FmtPf.valI_drop_absL]; exact hG⟩
  unfold radixDigits
  rw [heq, ← hF.shows.intList_eq (fun d hd => by have := hF.range d (List.mem_append_left _ hd); omega),
    ← hF.shows.fracList_eq]
  rfl

/-- C09, no precision: the digits are the exact value; no check fires. -/
theorem radix_exact (w abs fracN : Nat) (radix : Radix)
    (hW : w = 8 ∨ w = 16 ∨ w = 32 ∨ w = 64 ∨ w = 128) (hf : fracN ≤ w) (ha : abs < 2 ^ w) (hrx : radix ≠ .dec) :
    ∃ ip fp, radixDigits w abs fracN radix none = .ok (ip, fp) false ∧
      valI (2 ^ radix.digitBits) (ip ++ fp) * 2 ^ fracN = abs * (2 ^ radix.digitBits) ^ fp.length := by
  obtain ⟨_, _, ip, fp, _, _, heq, hG⟩ := radixDigits_core w abs fracN radix none hW hf ha hrx
  obtain ⟨_, _, hx, _⟩ := hG.valueOk (radix_pow radix).1
  exact ⟨_, fp, heq, hx (by cases radix <;> first | decide | exact absurd rfl hrx)⟩

/-- C09, precision `p`: at most `p` fraction digits, and the digits (padded with zeros to `p` places) are the value
rounded to nearest, ties to even, at `p` places; fewer digits are shown only when the rest are zeros. -/
theorem radix_rounded (w abs fracN : Nat) (radix : Radix) (p : Nat)
    (hW : w = 8 ∨ w = 16 ∨ w = 32 ∨ w = 64 ∨ w = 128) (hf : fracN ≤ w) (ha : abs < 2 ^ w) (hrx : radix ≠ .dec) :
    ∃ ip fp, radixDigits w abs fracN radix (some p) = .ok (ip, fp) false ∧ fp.length ≤ p ∧
      valI (2 ^ radix.digitBits) (ip ++ fp) * (2 ^ radix.digitBits) ^ (p - fp.length)
        = rneDiv (abs * (2 ^ radix.digitBits) ^ p) (2 ^ fracN) := by
  obtain ⟨_, _, ip, fp, _, _, heq, hG⟩ := radixDigits_core w abs fracN radix (some p) hW hf ha hrx
  obtain ⟨hl, hv⟩ := hG.valueOk (radix_pow radix).1
  exact ⟨_, fp, heq, by omega, hv⟩

#print axioms fmtRadix2_eq_radixBuf
#print axioms radix_exact
#print axioms radix_rounded

end Sfx.FmtRadixPf
