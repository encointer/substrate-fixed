import SfxModel.Display
import SfxProofs.PrimLemmas
/-
  FmtRadixBase.lean — common root of the proofs about `fmt_radix2` and `fmt_dec` (C09): `Outcome` monad laws, array access and
  the buffer's slice checks, the prologue (`set_len`, the integer / fraction split), powers and left-aligned fractions; the
  value `valI r` of a digit list and the digit lists the writers produce (`lowDigits`, `fracDigs`); and the view in which every
  later file speaks of the buffer: `Shows buf ip fp`, the string `ip '.' fp` it holds, with `Finished`, what a digit generator
  hands on.  Core Lean only.
-/
namespace Sfx.FmtPf

/-- the widths of the primitives; unfolds to the disjunction that the C09 statements of `FmtRadix.lean` / `FmtDec.lean` spell out,
so a proof of either is a proof of the other -/
def WidthOk (w : Nat) : Prop := w = 8 ∨ w = 16 ∨ w = 32 ∨ w = 64 ∨ w = 128

theorem WidthOk.pow {w : Nat} (hw : WidthOk w) : ∃ e, w = 8 * 2 ^ e := by
  rcases hw with h | h | h | h | h
  · exact ⟨0, h⟩
  · exact ⟨1, h⟩
  · exact ⟨2, h⟩
  · exact ⟨3, h⟩
  · exact ⟨4, h⟩

theorem WidthOk.bounds {w : Nat} (hw : WidthOk w) : 8 ≤ w ∧ w ≤ 128 := by
  unfold WidthOk at hw; omega

end Sfx.FmtPf

namespace Sfx.FmtRadixPf
open Display

theorem _root_.Sfx.Outcome.bind_assoc' {α β γ : Type} (x : Outcome α) (f : α → Outcome β) (g : β → Outcome γ) :
    Outcome.bind (Outcome.bind x f) g = Outcome.bind x (fun a => Outcome.bind (f a) g) := by
  cases x with
  | panic => rfl
  | ok v d =>
    simp only [Outcome.bind]
    cases f v with
    | panic => rfl
    | ok u d' =>
      simp only []
      cases g u with
      | panic => rfl
      | ok t d'' => simp [Bool.or_assoc]

instance : LawfulMonad Outcome := LawfulMonad.mk' Outcome
  (id_map := by
    intro α x; cases x <;> simp [Functor.map, Outcome.bind])
  (pure_bind := by
    intro α β a f; simp only [bind, pure, Outcome.bind]; cases f a <;> simp)
  (bind_assoc := by
    intro α β γ x f g; exact Outcome.bind_assoc' x f g)

theorem pure_eq {α : Type} (x : α) : (pure x : Outcome α) = .ok x false := rfl

theorem idx_eq (data : Array Nat) (i : Nat) (h : i < data.size) : idx data i = .ok (data.getD i 0) false := by
  unfold idx; simp [h, pure]

theorem sliceChk_eq (b e : Nat) (h1 : b ≤ e) (h2 : e ≤ 130) : sliceChk b e = .ok () false := by
  simp [sliceChk, h1, h2, pure]

theorem int_eq (I n : Nat) (data : Array Nat) (h : I ≤ 129) : Buffer.int ⟨I, n, data⟩ = .ok (1, 1 + I) false := by
  simp only [Buffer.int, sliceChk_eq 1 (1 + I) (by omega) (by omega), ok_false_bind, pure_eq_ok]

theorem frac_eq (I n : Nat) (data : Array Nat) (h : I + n ≤ 128) :
    Buffer.frac ⟨I, n, data⟩ = .ok (1 + I + 1, 1 + I + 1 + n) false := by
  simp only [Buffer.frac, sliceChk_eq (1 + I + 1) (1 + I + 1 + n) (by omega) (by omega), ok_false_bind, pure_eq_ok]

theorem setLen_eq (I n : Nat) (h : I + n ≤ 128) :
    Buffer.new.setLen I n = .ok ⟨I, n, (Array.replicate 130 0).setIfInBounds (1 + I) 46⟩ false := by
  unfold Buffer.setLen Buffer.new
  simp only [Array.size_replicate]
  rw [if_neg (by omega), if_neg (by omega)]; rfl

theorem npow_split (r a b : Nat) (h : b ≤ a) : r ^ a = r ^ (a - b) * r ^ b := by
  rw [← Nat.pow_add]; congr 1; omega

theorem npow_split' (r a b : Nat) (h : b ≤ a) : r ^ a = r ^ b * r ^ (a - b) := by
  rw [Nat.mul_comm]; exact npow_split r a b h

theorem splitIntFrac_eq (w abs f : Nat) (hw2 : w < 2 ^ 32) (hf : f ≤ w) (ha : abs < 2 ^ w) :
    splitIntFrac w abs f = .ok (abs / 2 ^ f, (abs % 2 ^ f) * 2 ^ (w - f)) false := by
  unfold splitIntFrac
  by_cases h0 : f = 0
  · subst h0; simp [pure_eq_ok, Nat.mod_one]
  · rw [if_neg h0]
    by_cases h1 : f = w
    · subst h1; simp [pure_eq_ok, Nat.div_eq_of_lt ha, Nat.mod_eq_of_lt ha]
    · rw [if_neg h1]
      have hfw : f < w := by omega
      have hk : (w + 2 ^ 32 - f % 2 ^ 32) % 2 ^ 32 = w - f := by
        rw [Nat.mod_eq_of_lt (Nat.lt_trans hfw hw2), Nat.add_comm w, Nat.add_sub_assoc (Nat.le_of_lt hfw),
          Nat.add_mod_left, Nat.mod_eq_of_lt (Nat.lt_of_le_of_lt (Nat.sub_le _ _) hw2)]
      unfold shrU shlU Outcome.dbgIf
      rw [hk]
      have d1 : decide (w ≤ f) = false := by simp; omega
      have d2 : decide (w < f) = false := by simp; omega
      have d3 : decide (w ≤ w - f) = false := by simp; omega
      simp only [d1, d2, ok_false_bind, pure_eq_ok]
      rw [d3]
      simp only [ok_false_bind]
      rw [Nat.mod_eq_of_lt hfw, Nat.mod_eq_of_lt (by omega : w - f < w), Nat.shiftRight_eq_div_pow, Nat.shiftLeft_eq]
      have hP : 2 ^ w = 2 ^ f * 2 ^ (w - f) := npow_split' 2 w f hf
      rw [hP, Nat.mul_mod_mul_right]

theorem add_le_of_parts {I n f w N : Nat} (h1 : I ≤ w - f) (h2 : n ≤ f) (h3 : f ≤ w) (h4 : w ≤ N) : I + n ≤ N := by omega

theorem floor_split (q r W T : Nat) (hW : 0 < W) :
    (q * W + r) * T / W = q * T + r * T / W ∧ (q * W + r) * T % W = r * T % W := by
  have e : (q * W + r) * T = r * T + (q * T) * W := by
    rw [Nat.add_mul, Nat.mul_right_comm, Nat.add_comm]
  rw [e, Nat.add_mul_div_right _ _ hW, Nat.add_mul_mod_self_right]
  exact ⟨Nat.add_comm _ _, rfl⟩

theorem cmp_mul (a b c : Nat) (hc : 0 < c) : compare (a * c) (b * c) = compare a b := by
  simp only [Nat.compare_eq_ite_lt, Nat.mul_lt_mul_right hc]

theorem left_aligned (w f m R : Nat) (hw : 0 < w) (hf : f ≤ w) (hm : m < 2 ^ f) :
    m * 2 ^ (w - f) < 2 ^ w ∧
    m * 2 ^ (w - f) * R % 2 ^ w = m * R % 2 ^ f * 2 ^ (w - f) ∧
    compare (m * 2 ^ (w - f) * R % 2 ^ w) (msb w) = compare (2 * (m * R % 2 ^ f)) (2 ^ f) := by
  have hX := Nat.two_pow_pos (w - f)
  have hP : 2 ^ w = 2 ^ f * 2 ^ (w - f) := npow_split' 2 w f hf
  have hmod : m * 2 ^ (w - f) * R % 2 ^ w = m * R % 2 ^ f * 2 ^ (w - f) := by
    rw [hP, Nat.mul_right_comm, Nat.mul_mod_mul_right]
  refine ⟨?_, hmod, ?_⟩
  · rw [hP]; exact Nat.mul_lt_mul_of_pos_right hm hX
  · have hH : msb w * 2 = 2 ^ f * 2 ^ (w - f) := by
      unfold msb; rw [← hP, ← Nat.pow_succ]; congr 1; omega
    rw [hmod, ← cmp_mul _ (msb w) 2 (by decide), hH, Nat.mul_right_comm, cmp_mul _ _ _ hX, Nat.mul_comm]

/-- value of a digit list, most significant digit first -/
def valI (r : Nat) (ds : List Nat) : Nat := ds.foldl (fun a d => a * r + d) 0

theorem foldl_val (r : Nat) (ds : List Nat) (a : Nat) :
    ds.foldl (fun a d => a * r + d) a = a * r ^ ds.length + valI r ds := by
  induction ds generalizing a with
  | nil => simp [valI]
  | cons d ds ih =>
    unfold valI
    simp only [List.foldl_cons, List.length_cons]
    rw [ih, ih (0 * r + d)]
    grind

theorem valI_append (r : Nat) (a b : List Nat) : valI r (a ++ b) = valI r a * r ^ b.length + valI r b := by
  unfold valI; rw [List.foldl_append, foldl_val]; rfl

theorem valI_cons (r d : Nat) (l : List Nat) : valI r (d :: l) = d * r ^ l.length + valI r l := by
  have := valI_append r [d] l
  simpa [valI] using this

theorem valI_lt (r : Nat) : ∀ (l : List Nat), (∀ d ∈ l, d < r) → valI r l < r ^ l.length := by
  intro l
  induction l with
  | nil => intro _; simp [valI]
  | cons d l ih =>
    intro h
    have h1 := h d (List.mem_cons_self ..)
    have h2 := ih (fun x hx => h x (List.mem_cons_of_mem _ hx))
    rw [valI_cons, List.length_cons, Nat.pow_succ]
    have : (d + 1) * r ^ l.length ≤ r * r ^ l.length := Nat.mul_le_mul_right _ h1
    rw [Nat.add_mul, Nat.one_mul] at this
    rw [Nat.mul_comm (r ^ l.length) r]
    omega

theorem valI_zeros_right (r : Nat) (l : List Nat) (t : Nat) : valI r (l ++ List.replicate t 0) = valI r l * r ^ t := by
  induction t with
  | zero => simp
  | succ t ih =>
    rw [List.replicate_succ', ← List.append_assoc, valI_append, ih, Nat.pow_succ]; simp [valI, Nat.mul_assoc]

theorem valI_rev_cons (r d : Nat) (t : List Nat) : valI r (d :: t).reverse = valI r t.reverse * r + d := by
  rw [List.reverse_cons, valI_append]; simp [valI]

/-- the `k` low digits of `s` in radix `B`, most significant first: what `write_int` / `write_int_dec` write -/
def lowDigits (B : Nat) : Nat → Nat → List Nat
  | 0, _ => []
  | k + 1, s => lowDigits B k (s / B) ++ [s % B]

/-- the first `k` digits of the fraction `F / W` in radix `B`: what `write_frac` / `write_frac_dec` write -/
def fracDigs (B W : Nat) : Nat → Nat → List Nat
  | 0, _ => []
  | k + 1, F => (F * B / W) :: fracDigs B W k (F * B % W)

@[simp] theorem lowDigits_length (B k s : Nat) : (lowDigits B k s).length = k := by
  induction k generalizing s with
  | zero => rfl
  | succ k ih => simp [lowDigits, ih]

@[simp] theorem fracDigs_length (B W k F : Nat) : (fracDigs B W k F).length = k := by
  induction k generalizing F with
  | zero => rfl
  | succ k ih => simp [fracDigs, ih]

theorem lowDigits_val (B k s : Nat) : valI B (lowDigits B k s) = s % B ^ k := by
  induction k generalizing s with
  | zero => simp [lowDigits, valI, Nat.mod_one]
  | succ k ih =>
    rw [lowDigits, valI_append, ih, Nat.pow_succ', Nat.mod_mul, Nat.mul_comm]
    simp [valI]; omega

theorem lowDigits_lt (B : Nat) (hB : 0 < B) (k s : Nat) : ∀ d ∈ lowDigits B k s, d < B := by
  induction k generalizing s with
  | zero => simp [lowDigits]
  | succ k ih =>
    intro d hd
    rw [lowDigits, List.mem_append] at hd
    rcases hd with hd | hd
    · exact ih _ d hd
    · rw [List.mem_singleton.1 hd]; exact Nat.mod_lt _ hB

theorem fracDigs_val (B W : Nat) (hW : 0 < W) (k F : Nat) (hF : F < W) : valI B (fracDigs B W k F) = F * B ^ k / W := by
  induction k generalizing F with
  | zero => simp [fracDigs, valI, Nat.div_eq_of_lt hF]
  | succ k ih =>
    rw [fracDigs, valI_cons, ih _ (Nat.mod_lt _ hW), fracDigs_length, ← (floor_split _ _ _ (B ^ k) hW).1, Nat.div_add_mod',
      Nat.pow_succ', Nat.mul_assoc]

theorem fracDigs_lt (B W : Nat) (hB : 0 < B) (hW : 0 < W) : ∀ (k F : Nat), F < W → ∀ d ∈ fracDigs B W k F, d < B := by
  intro k
  induction k with
  | zero => intro F _ d hd; simp [fracDigs] at hd
  | succ k ih =>
    intro F hF d hd
    rw [fracDigs, List.mem_cons] at hd
    rcases hd with rfl | hd
    · rw [Nat.div_lt_iff_lt_mul hW, Nat.mul_comm]; exact Nat.mul_lt_mul_of_pos_left hF hB
    · exact ih _ (Nat.mod_lt _ hW) d hd

/-- a fraction handed over left-aligned in a wider word has the same digits -/
theorem fracDigs_scale (B W X : Nat) (hX : 0 < X) : ∀ (k F : Nat), fracDigs B (W * X) k (F * X) = fracDigs B W k F := by
  intro k
  induction k with
  | zero => intro F; rfl
  | succ k ih =>
    intro F
    rw [fracDigs, fracDigs, Nat.mul_right_comm, Nat.mul_div_mul_right _ _ hX, Nat.mul_mod_mul_right, ih]

theorem toList_set_at {data : Array Nat} {a b : List Nat} {x : Nat} (h : data.toList = a ++ x :: b) (v : Nat) :
    (data.setIfInBounds a.length v).toList = a ++ v :: b := by
  rw [Array.toList_setIfInBounds, h, List.set_append_right _ _ (Nat.le_refl _), Nat.sub_self, List.set_cons_zero]

theorem getD_at {data : Array Nat} {a b : List Nat} {x : Nat} (h : data.toList = a ++ x :: b) :
    data.getD a.length 0 = x := by
  have : data.getD a.length 0 = data.toList.getD a.length 0 := by
    simp [Array.getD_eq_getD_getElem?, List.getD_eq_getElem?_getD]
  rw [this, h]; simp [List.getD_eq_getElem?_getD]

theorem rev_ind {α : Type} {P : List α → Prop} (nil : P []) (append_singleton : ∀ l x, P l → P (l ++ [x])) : ∀ l, P l := by
  intro l
  rw [← List.reverse_reverse l]
  induction l.reverse with
  | nil => exact nil
  | cons x t ih => rw [List.reverse_cons]; exact append_singleton _ _ ih

end Sfx.FmtRadixPf

namespace Sfx.FmtPf
open Sfx.Display

/-- The Rust `Buffer` read as the string it holds: the digits `ip` from slot 0 on (the spare carry slot included), the byte
`'.'`, the digits `fp`.  What lies behind `fp` (`rest`) is not looked at, so a smaller `frac_digits` shows a prefix. -/
structure Shows (buf : Buffer) (ip fp : List Nat) : Prop where
  ilen : ip.length = 1 + buf.intDigits
  flen : fp.length = buf.fracDigits
  split : ∃ rest, buf.data.toList = ip ++ 46 :: fp ++ rest ∧ (ip ++ 46 :: fp ++ rest).length = 130

namespace Shows
variable {buf : Buffer} {ip fp : List Nat}

theorem size (h : Shows buf ip fp) : buf.data.size = 130 := by
  obtain ⟨rest, hr, h130⟩ := h.split
  rw [← Array.length_toList, hr, h130]

theorem len (h : Shows buf ip fp) : buf.intDigits + buf.fracDigits ≤ 128 := by
  obtain ⟨rest, _, h130⟩ := h.split
  simp only [List.length_append, List.length_cons, h.ilen, h.flen] at h130
  omega

theorem take_int (h : Shows buf ip fp) : buf.data.toList.take (1 + buf.intDigits) = ip := by
  obtain ⟨rest, hr, _⟩ := h.split
  rw [hr, List.append_assoc, ← h.ilen, List.take_left' rfl]

theorem drop_frac (h : Shows buf ip fp) : (buf.data.toList.drop (1 + buf.intDigits + 1)).take buf.fracDigits = fp := by
  obtain ⟨rest, hr, _⟩ := h.split
  rw [hr, ← h.flen, show 1 + buf.intDigits + 1 = (ip ++ [46]).length by simp [h.ilen],
    show ip ++ 46 :: fp ++ rest = (ip ++ [46]) ++ (fp ++ rest) by simp, List.drop_left' rfl, List.take_left' rfl]

/-- the two slots `pad_and_print` looks at: the carry slot and the slot after it (a digit, or the point) -/
theorem slots01 (h : Shows buf ip fp) :
    ∃ d0 t, ip = d0 :: t ∧ buf.data.getD 0 0 = d0 ∧ buf.data.getD 1 0 = (t ++ [46]).headD 0 := by
  have hl := h.ilen
  obtain ⟨rest, hr, _⟩ := h.split
  match ip, hr, hl with
  | [], _, hl => simp at hl; omega
  | [d0], hr, _ => exact ⟨d0, [], rfl, FmtRadixPf.getD_at (a := []) hr, FmtRadixPf.getD_at (a := [d0]) hr⟩
  | d0 :: d1 :: t, hr, _ => exact ⟨d0, d1 :: t, rfl, FmtRadixPf.getD_at (a := []) hr, FmtRadixPf.getD_at (a := [d0]) hr⟩

end Shows

theorem Shows.of_split {I fd : Nat} {data : Array Nat} {ip fp : List Nat} (rest : List Nat)
    (h : data.toList = ip ++ 46 :: fp ++ rest) (h130 : (ip ++ 46 :: fp ++ rest).length = 130)
    (hi : ip.length = 1 + I) (hf : fp.length = fd) : Shows ⟨I, fd, data⟩ ip fp :=
  ⟨hi, hf, rest, h, h130⟩

/-- where `pad_and_print` starts printing (`abs_begin`), read off the integer digits: a zero carry slot is skipped, and one
more zero after it -/
def absL (ip : List Nat) : Nat :=
  match ip with
  | [] => 0
  | [_] => 0
  | d0 :: d1 :: _ => if d0 ≠ 0 then 0 else if d1 = 0 then 2 else 1

theorem valI_drop_absL (r : Nat) (ip l : List Nat) : FmtRadixPf.valI r (ip.drop (absL ip) ++ l) = FmtRadixPf.valI r (ip ++ l) := by
  match ip with
  | [] => rfl
  | [_] => rfl
  | d0 :: d1 :: t =>
    simp only [absL]
    split
    · rfl
    · rename_i h0
      have h0 : d0 = 0 := by omega
      subst h0
      split
      · rename_i h1; subst h1
        simp [FmtRadixPf.valI_cons]
      · simp [FmtRadixPf.valI_cons]

theorem setLen_shows (I n : Nat) (h : I + n ≤ 128) :
    ∃ data, Buffer.new.setLen I n = .ok ⟨I, n, data⟩ false ∧
      Shows ⟨I, n, data⟩ (0 :: List.replicate I 0) (List.replicate n 0) := by
  refine ⟨_, FmtRadixPf.setLen_eq I n h, .of_split (List.replicate (128 - I - n) 0) ?_ ?_ (by simp; omega) (by simp)⟩
  · rw [Array.toList_setIfInBounds, Array.toList_replicate, List.set_eq_take_append_cons_drop,
      if_pos (by simp; omega)]
    simp only [List.take_replicate, List.drop_replicate, List.append_assoc, List.cons_append]
    rw [show min (1 + I) 130 = 1 + I by omega, show 130 - (1 + I + 1) = n + (128 - I - n) by omega]
    simp [List.replicate_append_replicate, Nat.add_comm 1 I, List.replicate_succ]
  · simp only [List.length_append, List.length_cons, List.length_replicate]; omega

/-- What a digit generator leaves after `round_and_trim`, for `pad_and_print` to skip leading zeros soundly: digits of the
radix, no trailing fraction zero, and at most one integer digit more than the value needs (`lead`). -/
structure Finished (r : Nat) (buf : Buffer) (ip fp : List Nat) : Prop where
  shows : Shows buf ip fp
  range : ∀ d ∈ ip ++ fp, d < r
  trimmed : fp.getLast? ≠ some 0
  lead : ip.length = 1 ∨ r ^ (ip.length - 1) ≤ r ^ 2 * FmtRadixPf.valI r ip

end Sfx.FmtPf
