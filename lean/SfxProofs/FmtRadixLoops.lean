import SfxProofs.FmtRadixBase
/-
  FmtRadixLoops.lean — the loops of the digit writers and of `round_and_trim`, shared by the radix-`2^k` and the decimal
  development.  The array is read as a list `pre ++ segment ++ post`; each loop is one induction over the segment it visits and
  says what the segment holds afterwards (`lowDigitsLoop_split`, `fracDigsLoop_split`, `roundUpLoop_split`, `trimCount_split`).  The
  model's `write_int*` / `write_frac*` loops are first equated with the two radix-generic array loops `lowDigitsLoop` / `fracDigsLoop`
  (`writeIntLoop_eq`, `writeFracLoop_eq`; the decimal ones in FmtDecWrite.lean).  Then: the half-width delegation of the writers,
  the arithmetic of the round-up on digit lists (`bumpRev`), and a last section of bit counting.  Core Lean only.
-/
namespace Sfx.FmtRadixPf
open Display

/-- `k` digits of `s` in radix `B` at `b … b+k-1`, written from the least significant one: the loop of `write_int` and
of `write_int_dec` -/
def lowDigitsLoop (B b : Nat) : Nat → Array Nat → Nat → Array Nat
  | 0, data, _ => data
  | k + 1, data, s => lowDigitsLoop B b k (data.setIfInBounds (b + k) (s % B)) (s / B)

/-- `k` digits of the fraction `F / 2^w` in radix `B` at `p … p+k-1`: the loop of `write_frac` and of `write_frac_dec` -/
def fracDigsLoop (B w : Nat) : Nat → Nat → Array Nat → Nat → Array Nat
  | 0, _, data, _ => data
  | k + 1, p, data, F => fracDigsLoop B w k (p + 1) (data.setIfInBounds p (F * B / 2 ^ w)) (F * B % 2 ^ w)

theorem lowDigitsLoop_split (B : Nat) : ∀ (old pre post : List Nat) (data : Array Nat) (s : Nat),
    data.toList = pre ++ old ++ post →
    (lowDigitsLoop B pre.length old.length data s).toList = pre ++ lowDigits B old.length s ++ post := by
  intro old
  induction old using rev_ind with
  | nil => intro pre post data s h; simpa [lowDigitsLoop, lowDigits] using h
  | append_singleton old x ih =>
    intro pre post data s h
    have h' : data.toList = (pre ++ old) ++ x :: post := by simp [h]
    have := toList_set_at h' (s % B)
    rw [List.length_append] at this
    rw [List.length_append, List.length_singleton, lowDigitsLoop, ih pre ((s % B) :: post) _ (s / B) (by rw [this]), lowDigits]
    simp

theorem fracDigsLoop_split (B w : Nat) : ∀ (old pre post : List Nat) (data : Array Nat) (F : Nat),
    data.toList = pre ++ old ++ post →
    (fracDigsLoop B w old.length pre.length data F).toList = pre ++ fracDigs B (2 ^ w) old.length F ++ post := by
  intro old
  induction old with
  | nil => intro pre post data F h; simpa [fracDigsLoop, fracDigs] using h
  | cons x old ih =>
    intro pre post data F h
    have h' : data.toList = pre ++ x :: (old ++ post) := by simp [h]
    have := toList_set_at h' (F * B / 2 ^ w)
    have e := ih (pre ++ [F * B / 2 ^ w]) post (data.setIfInBounds pre.length (F * B / 2 ^ w)) (F * B % 2 ^ w) (by rw [this]; simp)
    rw [List.length_append, List.length_singleton] at e
    rw [List.length_cons, fracDigsLoop, e, fracDigs]
    simp

theorem _root_.Sfx.FmtPf.Shows.lowDigitsLoop {I n : Nat} {data : Array Nat} {c : Nat} {old fp : List Nat}
    (h : FmtPf.Shows ⟨I, n, data⟩ (c :: old) fp) (B self : Nat) :
    FmtPf.Shows ⟨I, n, lowDigitsLoop B 1 I data self⟩ (c :: lowDigits B I self) fp := by
  obtain ⟨rest, hr, h130⟩ := h.split
  have hi : old.length = I := by have := h.ilen; simp at this; omega
  have e := lowDigitsLoop_split B old [c] (46 :: fp ++ rest) data self (by simpa using hr)
  rw [hi] at e
  exact .of_split rest (by simpa using e) (by simp at h130 ⊢; omega) (by simp; omega) h.flen

theorem _root_.Sfx.FmtPf.Shows.fracDigsLoop {I n : Nat} {data : Array Nat} {ip old : List Nat}
    (h : FmtPf.Shows ⟨I, n, data⟩ ip old) (B w s F : Nat) (hs : s ≤ n) :
    FmtPf.Shows ⟨I, s, fracDigsLoop B w s (1 + I + 1) data F⟩ ip (fracDigs B (2 ^ w) s F) := by
  obtain ⟨rest, hr, h130⟩ := h.split
  have hi := h.ilen
  have hf := h.flen
  simp only at hr hi hf
  have hlen : (ip ++ [46]).length = 1 + I + 1 := by rw [List.length_append, hi]; rfl
  have e := fracDigsLoop_split B w (old.take s) (ip ++ [46]) (old.drop s ++ rest) data F
    (by conv => rhs; rw [List.append_assoc, ← List.append_assoc (old.take s), List.take_append_drop]
        simpa using hr)
  rw [List.length_take, Nat.min_eq_left (by omega), hlen] at e
  exact .of_split (old.drop s ++ rest) (by simpa using e) (by simp at h130 ⊢; omega) hi (by simp)

/-- a digit of `db ≤ 8` bits: `lower_byte() & mask` -/
theorem low_and_mask (x db : Nat) (h : db ≤ 8) : (x % 256) &&& (2 ^ db - 1) = x % 2 ^ db := by
  rw [Nat.and_two_pow_sub_one_eq_mod]
  have : (256 : Nat) = 2 ^ 8 := by decide
  rw [this]
  exact Nat.mod_mod_of_dvd x (Nat.pow_dvd_pow 2 h)

/-- the `debug_assert!` in the loop of `write_int` is silent while the number has at least as many digits as are still to be
written -/
theorem writeIntLoop_eq (db b : Nat) (hdb : db ≤ 8) :
    ∀ (k : Nat) (data : Array Nat) (self : Nat) (dbg : Bool), (0 < k → (2 ^ db) ^ (k - 1) ≤ self) →
      writeIntLoop db (2 ^ db - 1) b k data self dbg = (lowDigitsLoop (2 ^ db) b k data self, self / (2 ^ db) ^ k, dbg) := by
  intro k
  induction k with
  | zero => intro data self dbg _; simp [writeIntLoop, lowDigitsLoop]
  | succ k ih =>
    intro data self dbg hlb
    have hr := Nat.two_pow_pos db
    have hlb' : (2 ^ db) ^ k ≤ self := by simpa using hlb (by omega)
    have hself : self ≠ 0 := by
      have := Nat.two_pow_pos (db * k); rw [Nat.pow_mul] at this; omega
    have hk : 0 < k → (2 ^ db) ^ (k - 1) ≤ self / 2 ^ db := by
      intro hk
      rw [Nat.le_div_iff_mul_le hr, ← Nat.pow_succ, show (k - 1).succ = k by omega]
      exact hlb'
    have hd : (dbg || self == 0) = dbg := by simp [hself]
    simp only [writeIntLoop, lowDigitsLoop, low_and_mask _ _ hdb, Nat.shiftRight_eq_div_pow, hd]
    rw [ih _ _ _ hk, Nat.div_div_eq_div_mul, ← Nat.pow_succ']

/-- the `debug_assert!` in the loop of `write_frac` is silent while the remainder is not zero -/
theorem writeFracLoop_eq (w db b : Nat) (hdb : db ≤ 8) (hw : db ≤ w) :
    ∀ (k i : Nat) (data : Array Nat) (self : Nat) (dbg : Bool), self < 2 ^ w →
      (∀ j, j < k → self * (2 ^ db) ^ j % 2 ^ w ≠ 0) →
      writeFracLoop w db b k i data self dbg
        = (fracDigsLoop (2 ^ db) w k (b + i) data self, self * (2 ^ db) ^ k % 2 ^ w, dbg) := by
  intro k
  induction k with
  | zero => intro i data self dbg hs _; simp [writeFracLoop, fracDigsLoop, Nat.mod_eq_of_lt hs]
  | succ k ih =>
    intro i data self dbg hs hnz
    have hW := Nat.two_pow_pos w
    have hself : self ≠ 0 := by
      have := hnz 0 (by omega); simp [Nat.mod_eq_of_lt hs] at this; exact this
    have hstep : ∀ j, self * 2 ^ db % 2 ^ w * (2 ^ db) ^ j % 2 ^ w = self * (2 ^ db) ^ (j + 1) % 2 ^ w := by
      intro j
      rw [Nat.mod_mul_mod, Nat.pow_succ', Nat.mul_assoc]
    have hWs : 2 ^ w = 2 ^ (w - db) * 2 ^ db := npow_split 2 w db hw
    have htop : self / 2 ^ (w - db) = self * 2 ^ db / 2 ^ w := by
      rw [hWs, Nat.mul_div_mul_right _ _ (Nat.two_pow_pos db)]
    have hdig : self * 2 ^ db / 2 ^ w < 256 := by
      have h1 : self / 2 ^ (w - db) < 2 ^ db := by
        rw [Nat.div_lt_iff_lt_mul (Nat.two_pow_pos _), Nat.mul_comm, ← hWs]; exact hs
      have h2 : 2 ^ db ≤ 2 ^ 8 := Nat.pow_le_pow_right (by decide) hdb
      omega
    have hd : (dbg || self == 0) = dbg := by simp [hself]
    simp only [writeFracLoop, fracDigsLoop, Nat.shiftRight_eq_div_pow, Nat.shiftLeft_eq, hd, htop, Nat.mod_eq_of_lt hdig]
    rw [ih (i + 1) _ _ _ (Nat.mod_lt _ hW) (fun j hj => by rw [hstep]; exact hnz (j + 1) (by omega)), hstep,
      Nat.add_assoc]

/-! ### the half-width delegation of `write_int*` / `write_frac*`

Each of the four functions hands a value that fits the half-width type to the same function of that type, down to a
width that does not delegate; `f` is the function as a function of the width and the value.  `half_int` follows an
integer value down, `half_frac` a left-aligned fraction; the latter recurses over `e` with `w = 8·2^e` because halving a
left-aligned fraction is exact only when the width is even at every step, which a bare `w` does not say. -/

theorem half_int {α : Type} (f : Nat → Nat → α) (nbits : Nat)
    (hf : ∀ w self, 8 < w ∧ nbits < w / 2 → f w self = f (w / 2) (self % 2 ^ (w / 2))) :
    ∀ w self, self < 2 ^ nbits → ∃ w', ¬ (8 < w' ∧ nbits < w' / 2) ∧ f w self = f w' self := by
  intro w
  induction w using Nat.strongRecOn with
  | _ w ih =>
    intro self hs
    by_cases h : 8 < w ∧ nbits < w / 2
    · rw [hf w self h, Nat.mod_eq_of_lt (Nat.lt_of_lt_of_le hs (Nat.pow_le_pow_right (by decide) (by omega)))]
      exact ih (w / 2) (by omega) self hs
    · exact ⟨w, h, rfl⟩

theorem shr_half (h f m : Nat) (hf : f < h) (hm : m < 2 ^ f) :
    ((m * 2 ^ (2 * h - f)) >>> h) % 2 ^ h = m * 2 ^ (h - f) := by
  have e : 2 ^ (2 * h - f) = 2 ^ (h - f) * 2 ^ h := by rw [← Nat.pow_add]; congr 1; omega
  rw [Nat.shiftRight_eq_div_pow, e, ← Nat.mul_assoc, Nat.mul_div_cancel _ (Nat.two_pow_pos h)]
  apply Nat.mod_eq_of_lt
  rw [npow_split 2 h (h - f) (by omega), show h - (h - f) = f by omega]
  exact Nat.mul_lt_mul_of_pos_right hm (Nat.two_pow_pos _)

theorem half_frac {α : Type} (f : Nat → Nat → α) (nbits : Nat)
    (hf : ∀ w F, 8 < w ∧ nbits < w / 2 → f w F = f (w / 2) ((F >>> (w / 2)) % 2 ^ (w / 2))) :
    ∀ e m, nbits ≤ 8 * 2 ^ e → m < 2 ^ nbits →
      ∃ w', ¬ (8 < w' ∧ nbits < w' / 2) ∧ 8 ≤ w' ∧ nbits ≤ w' ∧
        f (8 * 2 ^ e) (m * 2 ^ (8 * 2 ^ e - nbits)) = f w' (m * 2 ^ (w' - nbits)) := by
  intro e
  induction e with
  | zero => intro m hn _; exact ⟨8, by omega, Nat.le_refl _, hn, rfl⟩
  | succ e ih =>
    intro m hn hm
    have hP := Nat.two_pow_pos e
    have hw : 8 * 2 ^ (e + 1) = 2 * (8 * 2 ^ e) := by rw [Nat.pow_succ]; omega
    by_cases hd : nbits < 8 * 2 ^ e
    · obtain ⟨w', h1, h2, h3, h4⟩ := ih m (by omega) hm
      refine ⟨w', h1, h2, h3, ?_⟩
      rw [hf _ _ (by omega), hw, Nat.mul_div_cancel_left _ (by decide : 0 < 2), shr_half _ _ _ hd hm, h4]
    · exact ⟨8 * 2 ^ (e + 1), by omega, by omega, hn, rfl⟩

/-- the round-up loop on the visited slots, last slot first: (the slots afterwards, `frac_digits`, whether the point was met
with `frac_digits ≠ 0`) -/
def bumpRev (mx : Nat) : List Nat → Nat → List Nat × Nat × Bool
  | [], fd => ([], fd, false)
  | b :: t, fd =>
    if b < mx then ((b + 1) :: t, fd, false)
    else if b = 46 then (46 :: (bumpRev mx t fd).1, (bumpRev mx t fd).2.1, (fd != 0 || (bumpRev mx t fd).2.2))
    else (0 :: (bumpRev mx t (fd - 1)).1, (bumpRev mx t (fd - 1)).2)

theorem roundUpLoop_split (mx : Nat) : ∀ (vis post : List Nat) (data : Array Nat) (fd : Nat) (dbg : Bool),
    data.toList = vis ++ post →
    ∃ data', roundUpLoop mx vis.length data fd dbg
        = (data', (bumpRev mx vis.reverse fd).2.1, dbg || (bumpRev mx vis.reverse fd).2.2) ∧
      data'.toList = (bumpRev mx vis.reverse fd).1.reverse ++ post := by
  intro vis
  induction vis using rev_ind with
  | nil => intro post data fd dbg h; exact ⟨data, by simp [roundUpLoop, bumpRev], by simpa [bumpRev] using h⟩
  | append_singleton vis b ih =>
    intro post data fd dbg h
    have h' : data.toList = vis ++ b :: post := by simp [h]
    rw [List.length_append, List.length_singleton, List.reverse_append, List.reverse_singleton, List.singleton_append]
    simp only [roundUpLoop, bumpRev, getD_at h']
    by_cases h1 : b < mx
    · simp only [if_pos h1]
      exact ⟨data.setIfInBounds vis.length (b + 1), by simp, by rw [toList_set_at h']; simp⟩
    · simp only [if_neg h1]
      by_cases h2 : b = 46
      · simp only [if_pos h2]
        obtain ⟨data', e1, e2⟩ := ih (b :: post) data fd (dbg || fd != 0) h'
        exact ⟨data', by rw [e1]; simp [Bool.or_assoc], by rw [e2, h2]; simp⟩
      · simp only [if_neg h2]
        have hfd : (if fd > 0 then fd - 1 else fd) = fd - 1 := by split <;> omega
        obtain ⟨data', e1, e2⟩ := ih (0 :: post) _ (fd - 1) dbg (toList_set_at h' 0)
        exact ⟨data', by rw [hfd, e1], by rw [e2]; simp⟩

/-- the integer phase: plain increment with carry; it stops because some slot (the carry slot) is below the maximum -/
theorem bumpRev_int (mx : Nat) (hmx : mx < 46) : ∀ (l : List Nat), (∀ d ∈ l, d ≤ mx) → (∃ d ∈ l, d < mx) →
    ∃ l', bumpRev mx l 0 = (l', 0, false) ∧ l'.length = l.length ∧ (∀ d ∈ l', d ≤ mx) ∧
      valI (mx + 1) l'.reverse = valI (mx + 1) l.reverse + 1 := by
  intro l
  induction l with
  | nil => intro _ ⟨d, hd, _⟩; simp at hd
  | cons b t ih =>
    intro hle hno
    have hb := hle b (List.mem_cons_self ..)
    by_cases h1 : b < mx
    · refine ⟨(b + 1) :: t, by simp [bumpRev, h1], rfl, ?_, by rw [valI_rev_cons, valI_rev_cons]; omega⟩
      intro d hd
      rcases List.mem_cons.1 hd with rfl | hd
      · omega
      · exact hle d (List.mem_cons_of_mem _ hd)
    · obtain ⟨l', e, hlen, hle', hv⟩ := ih (fun d hd => hle d (List.mem_cons_of_mem _ hd)) (by
        obtain ⟨d, hd, hlt⟩ := hno
        rcases List.mem_cons.1 hd with rfl | hd
        · exact absurd hlt h1
        · exact ⟨d, hd, hlt⟩)
      refine ⟨0 :: l', by simp [bumpRev, h1, show b ≠ 46 by omega, e], by simp [hlen], ?_, ?_⟩
      · intro d hd
        rcases List.mem_cons.1 hd with rfl | hd
        · omega
        · exact hle' d hd
      · rw [valI_rev_cons, valI_rev_cons, hv, show b = mx by omega, Nat.add_mul]; omega

/-- the fraction phase: `z` slots are zeroed and dropped from `frac_digits`, then a slot is incremented, or the point is passed
and the integer phase follows -/
theorem bumpRev_frac (mx : Nat) (hmx : mx < 46) (ir : List Nat) (hir : ∀ d ∈ ir, d ≤ mx) (hno : ∃ d ∈ ir, d < mx) :
    ∀ (fr : List Nat), (∀ d ∈ fr, d ≤ mx) →
    ∃ z fr' ir', bumpRev mx (fr ++ 46 :: ir) fr.length = (List.replicate z 0 ++ fr' ++ 46 :: ir', fr'.length, false) ∧
      z + fr'.length = fr.length ∧ ir'.length = ir.length ∧ (∀ d ∈ fr' ++ ir', d ≤ mx) ∧ fr'.head? ≠ some 0 ∧
      (valI (mx + 1) ir'.reverse * (mx + 1) ^ fr'.length + valI (mx + 1) fr'.reverse) * (mx + 1) ^ z
        = valI (mx + 1) ir.reverse * (mx + 1) ^ fr.length + valI (mx + 1) fr.reverse + 1 ∧
      valI (mx + 1) ir.reverse ≤ valI (mx + 1) ir'.reverse := by
  intro fr
  induction fr with
  | nil =>
    intro _
    obtain ⟨l', e, hlen, hle', hv⟩ := bumpRev_int mx hmx ir hir hno
    exact ⟨0, [], l', by simp [bumpRev, show ¬ 46 < mx by omega, e], rfl, hlen, by simpa using hle', by simp,
      by rw [hv]; simp [valI], by omega⟩
  | cons b t ih =>
    intro hle
    have hb := hle b (List.mem_cons_self ..)
    by_cases h1 : b < mx
    · refine ⟨0, (b + 1) :: t, ir, by simp [bumpRev, h1], by simp, rfl, ?_, by simp, ?_, Nat.le_refl _⟩
      · intro d hd
        rcases List.mem_append.1 hd with hd | hd
        · rcases List.mem_cons.1 hd with rfl | hd
          · omega
          · exact hle d (List.mem_cons_of_mem _ hd)
        · exact hir d hd
      · rw [valI_rev_cons, valI_rev_cons]; simp only [List.length_cons, Nat.pow_zero, Nat.mul_one]; omega
    · obtain ⟨z, fr', ir', e, hz, hlen, hle', hhd, hv, hmono⟩ := ih (fun d hd => hle d (List.mem_cons_of_mem _ hd))
      refine ⟨z + 1, fr', ir', ?_, by simp; omega, hlen, hle', hhd, ?_, hmono⟩
      · simp [bumpRev, h1, show b ≠ 46 by omega, e, List.replicate_succ]
      · rw [Nat.pow_succ, ← Nat.mul_assoc, hv, valI_rev_cons, show b = mx by omega, List.length_cons, Nat.pow_succ]
        simp only [Nat.add_mul, Nat.mul_assoc]; omega

theorem trimCount_split : ∀ (seg pre post : List Nat) (data : Array Nat), data.toList = pre ++ seg ++ post →
    ∃ l, seg = l ++ List.replicate (trimCount pre.length seg.length data) 0 ∧ l.getLast? ≠ some 0 := by
  intro seg
  induction seg using rev_ind with
  | nil => intro pre post data _; exact ⟨[], by simp [trimCount], by simp⟩
  | append_singleton seg v ih =>
    intro pre post data h
    have h' : data.toList = (pre ++ seg) ++ v :: post := by simp [h]
    have hg := getD_at h'
    rw [List.length_append] at hg
    rw [List.length_append, List.length_singleton]
    simp only [trimCount, hg]
    by_cases hv : v = 0
    · subst hv
      obtain ⟨l, e, hl⟩ := ih pre (0 :: post) data (by simp [h])
      refine ⟨l, ?_, hl⟩
      conv => lhs; rw [e]
      simp [Nat.add_comm 1, List.replicate_succ']
    · exact ⟨seg ++ [v], by simp [hv], by simp [hv]⟩

theorem ceil_div (n db : Nat) (hdb : 0 < db) :
    n ≤ db * ((n + db - 1) / db) ∧ (0 < (n + db - 1) / db → db * ((n + db - 1) / db - 1) < n) ∧
      (n + db - 1) / db ≤ n := by
  have h := Nat.div_add_mod (n + db - 1) db
  have h2 := Nat.mod_lt (n + db - 1) hdb
  generalize (n + db - 1) / db = q at *
  generalize (n + db - 1) % db = m at *
  refine ⟨by omega, ?_, ?_⟩
  · intro hq
    obtain ⟨q', rfl⟩ : ∃ q', q = q' + 1 := ⟨q - 1, by omega⟩
    rw [Nat.mul_succ] at h
    simp only [Nat.add_sub_cancel]
    omega
  · cases q with
    | zero => omega
    | succ q =>
      rw [Nat.mul_succ] at h
      have : q ≤ db * q := Nat.le_mul_of_pos_left q hdb
      omega

theorem tzU_spec (w F : Nat) (hF : F < 2 ^ w) :
    trailingZerosU w F ≤ w ∧ 2 ^ trailingZerosU w F ∣ F ∧ (F ≠ 0 → ¬ 2 ^ (trailingZerosU w F + 1) ∣ F) ∧
      (F = 0 → trailingZerosU w F = w) := by
  unfold trailingZerosU
  by_cases h : F = 0
  · subst h; simp
  · rw [if_neg h]
    obtain ⟨h1, h2, h3⟩ := trailingZerosNat_spec w F h hF
    exact ⟨by omega, h2, fun _ => h3, fun h0 => absurd h0 h⟩

theorem dvd_shift {w k F : Nat} (hk : k ≤ w) (h : 2 ^ w ∣ F * 2 ^ k) : 2 ^ (w - k) ∣ F := by
  rw [npow_split 2 w k hk] at h
  exact Nat.dvd_of_mul_dvd_mul_right (Nat.two_pow_pos k) h

theorem frac_count_word (w db F : Nat) (hdb : 0 < db) (hF : F < 2 ^ w) :
    2 ^ w ∣ F * (2 ^ db) ^ ((usedBitsLo w F + db - 1) / db) ∧
    (∀ j, j < (usedBitsLo w F + db - 1) / db → F * (2 ^ db) ^ j % 2 ^ w ≠ 0) ∧
    (usedBitsLo w F + db - 1) / db ≤ usedBitsLo w F ∧ 2 ^ (w - usedBitsLo w F) ∣ F := by
  obtain ⟨ht1, ht2, ht3, ht4⟩ := tzU_spec w F hF
  unfold usedBitsLo
  generalize trailingZerosU w F = t at *
  obtain ⟨h1, h2, h3⟩ := ceil_div (w - t) db hdb
  generalize (w - t + db - 1) / db = n0 at *
  refine ⟨?_, ?_, h3, by rw [show w - (w - t) = t by omega]; exact ht2⟩
  · rw [← Nat.pow_mul, npow_split 2 w (w - t) (by omega), show w - (w - t) = t by omega]
    exact Nat.mul_dvd_mul ht2 (Nat.pow_dvd_pow 2 h1)
  · intro j hj hmod
    have hlt : db * j < w - t := by
      have := h2 (by omega)
      have : db * j ≤ db * (n0 - 1) := Nat.mul_le_mul_left db (by omega)
      omega
    rw [← Nat.pow_mul] at hmod
    have hd := dvd_shift (by omega) (Nat.dvd_of_mod_eq_zero hmod)
    have hF0 : F ≠ 0 := by intro h0; have := ht4 h0; omega
    exact ht3 hF0 (Nat.dvd_trans (Nat.pow_dvd_pow 2 (by omega)) hd)

theorem used_frac (w f m0 db : Nat) (hw : 0 < w) (hdb : 0 < db) (hf : f ≤ w) (hm0 : m0 < 2 ^ f) :
    usedBitsLo w (m0 * 2 ^ (w - f)) ≤ f ∧ 2 ^ (f - usedBitsLo w (m0 * 2 ^ (w - f))) ∣ m0 ∧
    2 ^ f ∣ m0 * (2 ^ db) ^ ((usedBitsLo w (m0 * 2 ^ (w - f)) + db - 1) / db) ∧
    (∀ j, j < (usedBitsLo w (m0 * 2 ^ (w - f)) + db - 1) / db → m0 * (2 ^ db) ^ j % 2 ^ f ≠ 0) ∧
    (usedBitsLo w (m0 * 2 ^ (w - f)) + db - 1) / db ≤ usedBitsLo w (m0 * 2 ^ (w - f)) := by
  have hX := Nat.two_pow_pos (w - f)
  have hL := fun R => left_aligned w f m0 R hw hf hm0
  obtain ⟨h1, h2, h3, h4⟩ := frac_count_word w db (m0 * 2 ^ (w - f)) hdb (hL 1).1
  have hu : usedBitsLo w (m0 * 2 ^ (w - f)) ≤ f := by
    by_cases h0 : m0 = 0
    · subst h0; simp [usedBitsLo, trailingZerosU]
    · obtain ⟨t1, _, t3, _⟩ := tzU_spec w _ (hL 1).1
      unfold usedBitsLo
      apply Classical.byContradiction; intro hlt
      exact t3 (Nat.mul_ne_zero h0 (by omega)) (Nat.dvd_trans (Nat.pow_dvd_pow 2 (by omega)) (Nat.dvd_mul_left _ _))
  generalize usedBitsLo w (m0 * 2 ^ (w - f)) = u at *
  refine ⟨hu, ?_, ?_, ?_, h3⟩
  · rw [npow_split 2 (w - u) (w - f) (by omega), show w - u - (w - f) = f - u by omega] at h4
    exact Nat.dvd_of_mul_dvd_mul_right hX h4
  · have := Nat.mod_eq_zero_of_dvd h1
    rw [(hL _).2.1] at this
    exact Nat.dvd_of_mod_eq_zero ((Nat.mul_eq_zero.1 this).resolve_right (by omega))
  · intro j hj h0
    exact h2 j hj (by rw [(hL _).2.1, h0, Nat.zero_mul])

end Sfx.FmtRadixPf
