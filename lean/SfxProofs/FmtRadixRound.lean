import SfxProofs.FmtRadixLoops
import SfxProofs.TextSpecLemmas
/-
  FmtRadixRound.lean — `Buffer::round_and_trim` as a step between digit strings (`Shows.roundAndTrim`): the string is
  incremented exactly when the comparison of the remainder with one half (ties to even) says so, trailing zeros are trimmed;
  with `TextSpec.rneDiv`: what `set_len`, `write_int*`, `write_frac*`, `round_and_trim` leave is the correctly rounded value
  (`Shows.roundWritten`, used for every radix).  `Gen` is what a digit generator establishes about the numbers (places generated
  and shown, precision, exactness or stop condition); `Gen.valueOk` derives C09's value clause from it once, for any radix.
-/
namespace Sfx.FmtRadixPf
open Display

@[local simp] theorem ok_bind' {α β : Type} (v : α) (d : Bool) (f : α → Outcome β) :
    (Outcome.ok v d >>= f) = match f v with | .panic => .panic | .ok w d' => .ok w (d || d') := rfl

@[local simp] theorem map_ok {α β : Type} (f : α → β) (v : α) (d : Bool) : f <$> Outcome.ok v d = Outcome.ok (f v) d := by
  cases d <;> rfl

/-- `len` is the number of slots in use -/
theorem roundAndTrim_eq (mx I n : Nat) (data : Array Nat) (ord : Ordering)
    (hsz : data.size = 130) (hIn : I + n ≤ 128) (len : Nat) (hl : len = if n > 0 then I + n + 2 else I + 1) :
    Buffer.roundAndTrim ⟨I, n, data⟩ mx ord =
      if (ord == .gt || (ord == .eq && data.getD (len - 1) 0 % 2 == 1)) then
        .ok ⟨I, (roundUpLoop mx len data n false).2.1, (roundUpLoop mx len data n false).1⟩
          (roundUpLoop mx len data n false).2.2
      else .ok ⟨I, n - trimCount (1 + I + 1) n data, data⟩ false := by
  subst hl
  have hlen : (if n > 0 then I + n + 2 else I + 1) ≤ 130 := by split <;> omega
  have hlen1 : (if n > 0 then I + n + 2 else I + 1) - 1 < data.size := by split <;> omega
  unfold Buffer.roundAndTrim
  simp only []
  generalize (if n > 0 then I + n + 2 else I + 1) = len at *
  have hfr := sliceChk_eq _ _ (show 1 + I + 1 ≤ 1 + I + 1 + n by omega) (show 1 + I + 1 + n ≤ 130 by omega)
  have hsl := sliceChk_eq 0 len (by omega) hlen
  have hidx := idx_eq data (len - 1) hlen1
  generalize data.getD (len - 1) 0 = last at hidx ⊢
  have hsub : 1 + I + 1 + n - (1 + I + 1) = n := by omega
  cases ord
  · simp [Buffer.frac, hfr, hsub]
  · simp only [Buffer.frac, hfr, hsl, hidx, Outcome.dbgIf]
    by_cases hp : last % 2 = 1
    · simp [hp]
    · simp [hp]
  · simp [hsl, Outcome.dbgIf]

theorem parity_last (M r last : Nat) (h : r % 2 = 0) : (M * r + last) % 2 = last % 2 := by
  rw [Nat.add_mod, Nat.mul_mod, h]; simp

open TextSpec

open Sfx.ParsePf (rneDiv_of_dvd rneDiv_near rneDiv_of_strict rneDiv_ord)

theorem rneDiv_pad (A D r s p V L : Nat) (hD : 0 < D) (hsp : s ≤ p) (hL : L ≤ s) (hdvd : s = p ∨ D ∣ A * r ^ s)
    (hv : V * r ^ (s - L) = rneDiv (A * r ^ s) D) : V * r ^ (p - L) = rneDiv (A * r ^ p) D := by
  rcases hdvd with rfl | ⟨q, hq⟩
  · exact hv
  have e1 : r ^ p = r ^ s * r ^ (p - s) := npow_split' r p s hsp
  have e2 : r ^ (p - L) = r ^ (s - L) * r ^ (p - s) := by rw [← Nat.pow_add]; congr 1; omega
  rw [rneDiv_of_dvd _ _ hD ⟨q, hq⟩, hq, Nat.mul_div_cancel_left _ hD] at hv
  rw [e1, e2, ← Nat.mul_assoc, ← Nat.mul_assoc, hv, hq, Nat.mul_assoc,
    rneDiv_of_dvd _ _ hD (Nat.dvd_mul_right _ _), Nat.mul_div_cancel_left _ hD]

theorem round_value (int m D R : Nat) (hD : 0 < D) :
    int * R + m * R / D
      + (if compare (2 * (m * R % D)) D = .gt ∨
            (compare (2 * (m * R % D)) D = .eq ∧ (int * R + m * R / D) % 2 = 1) then 1 else 0)
      = rneDiv ((int * D + m) * R) D := by
  have h := floor_split int m D R hD
  rw [← h.1, ← h.2]
  exact rneDiv_ord _ _ hD

theorem near_cancel (x a T E : Nat)
    (h : 2 * (x * E) < 2 * (a * E) + T * E ∧ 2 * (a * E) < 2 * (x * E) + T * E) :
    2 * x < 2 * a + T ∧ 2 * a < 2 * x + T := by
  constructor
  · have : (2 * x) * E < (2 * a + T) * E := by
      rw [Nat.add_mul, Nat.mul_assoc, Nat.mul_assoc]; exact h.1
    exact Nat.lt_of_mul_lt_mul_right this
  · have : (2 * a) * E < (2 * x + T) * E := by
      rw [Nat.add_mul, Nat.mul_assoc, Nat.mul_assoc]; exact h.2
    exact Nat.lt_of_mul_lt_mul_right this

theorem near_strict (x a D E : Nat) (hD : 0 < D) (hE : 2 ≤ E)
    (h : 2 * (x * E) < 2 * (a * E) + (D + 1) ∧ 2 * (a * E) < 2 * (x * E) + (D + 1)) :
    2 * x < 2 * a + D ∧ 2 * a < 2 * x + D := by
  have hDE : D * 2 ≤ D * E := Nat.mul_le_mul_left D hE
  constructor
  · apply Nat.lt_of_not_le
    intro hc
    have := Nat.mul_le_mul_right E hc
    rw [Nat.add_mul, Nat.mul_assoc, Nat.mul_assoc] at this
    omega
  · apply Nat.lt_of_not_le
    intro hc
    have := Nat.mul_le_mul_right E hc
    rw [Nat.add_mul, Nat.mul_assoc, Nat.mul_assoc] at this
    omega

/-- C09's value clause, on numbers: `V` is the value of the printed digit string, `L` the number of its fraction digits, `ez` the
zeros appended; for the value `abs / 2^fracN` in radix `R` -/
def ValueOk (R : Nat) (prec : Option Nat) (abs fracN V L ez : Nat) : Prop :=
  match prec with
  | none =>
    ez = 0 ∧ V = rneDiv (abs * R ^ L) (2 ^ fracN) ∧
    (R ≠ 10 → V * 2 ^ fracN = abs * R ^ L) ∧
    (R = 10 → rneDiv (V * 2 ^ fracN) (10 ^ L) = abs ∧
      2 * (V * 2 ^ fracN) < 2 * (abs * 10 ^ L) + 10 ^ L ∧ 2 * (abs * 10 ^ L) < 2 * (V * 2 ^ fracN) + 10 ^ L)
  | some p => L + ez = p ∧ V * R ^ ez = rneDiv (abs * R ^ p) (2 ^ fracN)

/-- What a digit generator establishes, on numbers: `s` fraction places were generated and rounded half-even, `L ≤ s` are shown (the rest
were zeros) with value `V`; with a precision `p`, `s = p` unless the value is exact at `s` places; without, the value is exact at `s`
places (power-of-two radices) or `s` places identify it (the stop condition of `write_frac_dec`). -/
structure Gen (R : Nat) (prec : Option Nat) (abs fracN V L s : Nat) : Prop where
  len : L ≤ s
  val : V * R ^ (s - L) = rneDiv (abs * R ^ s) (2 ^ fracN)
  atPrec : ∀ p, prec = some p → s ≤ p ∧ (s = p ∨ 2 ^ fracN ∣ abs * R ^ s)
  auto : prec = none → (R ≠ 10 → 2 ^ fracN ∣ abs * R ^ s) ∧
    (2 ^ fracN < R ^ s ∨ 2 * (abs * R ^ s % 2 ^ fracN) < R ^ s ∨ 2 * (2 ^ fracN - abs * R ^ s % 2 ^ fracN) < R ^ s)

theorem Gen.valueOk {R : Nat} {prec : Option Nat} {abs fracN V L s : Nat} (hR : 2 ≤ R) (g : Gen R prec abs fracN V L s) :
    ValueOk R prec abs fracN V L (prec.getD 0 - L) := by
  obtain ⟨h3, h5, hsome, hnone⟩ := g
  have hD := Nat.two_pow_pos fracN
  unfold ValueOk
  cases prec with
  | some p =>
    obtain ⟨hsp, hc⟩ := hsome p rfl
    exact ⟨by simp; omega, by simpa using rneDiv_pad abs (2 ^ fracN) R s p V L hD hsp h3 hc h5⟩
  | none =>
    obtain ⟨hex, hstop⟩ := hnone rfl
    have hE : 0 < R ^ (s - L) := Nat.pow_pos (by omega)
    have hTs : R ^ s = R ^ L * R ^ (s - L) := npow_split' R s L h3
    have e1 : rneDiv (abs * R ^ s) (2 ^ fracN) * 2 ^ fracN = (V * 2 ^ fracN) * R ^ (s - L) := by
      rw [← h5, Nat.mul_right_comm]
    have e2 : abs * R ^ s = (abs * R ^ L) * R ^ (s - L) := by rw [hTs, Nat.mul_assoc]
    have hnear := rneDiv_near (abs * R ^ s) (2 ^ fracN) (R ^ s) hD hstop
    rw [e1, e2, hTs] at hnear
    have hnear' := near_cancel _ _ _ _ hnear
    have hround : V = rneDiv (abs * R ^ L) (2 ^ fracN) := by
      by_cases hsL : s = L
      · subst hsL
        rw [Nat.sub_self, Nat.pow_zero, Nat.mul_one] at h5
        exact h5
      · have hE2 : 2 ≤ R ^ (s - L) := by
          have : R ^ 1 ≤ R ^ (s - L) := Nat.pow_le_pow_right (by omega) (by omega)
          rw [Nat.pow_one] at this
          omega
        have hn2 := rneDiv_near (abs * R ^ s) (2 ^ fracN) (2 ^ fracN + 1) hD (Or.inl (Nat.lt_succ_self _))
        rw [e1, e2] at hn2
        have := near_strict _ _ _ _ hD hE2 hn2
        exact (rneDiv_of_strict _ _ _ this.1 this.2).symm
    refine ⟨by simp, hround, fun h10 => ?_, fun h10 => ?_⟩
    · have hdvd := hex h10
      rw [rneDiv_of_dvd _ _ hD hdvd] at e1
      rw [Nat.div_mul_cancel hdvd, e2] at e1
      exact (Nat.eq_of_mul_eq_mul_right hE e1).symm
    · subst h10
      exact ⟨rneDiv_of_strict _ _ _ hnear'.2 hnear'.1, hnear'⟩

end Sfx.FmtRadixPf

namespace Sfx.FmtPf
open Sfx.Display Sfx.TextSpec
open Sfx.FmtRadixPf

namespace Shows
variable {buf : Buffer} {ip fp : List Nat}

/-- the slot `round_and_trim` reads on a tie holds the last digit; in an even radix that is the parity of the digit string -/
theorem last_parity (h : Shows buf ip fp) (r : Nat) (heven : r % 2 = 0) :
    buf.data.getD ((if buf.fracDigits > 0 then buf.intDigits + buf.fracDigits + 2 else buf.intDigits + 1) - 1) 0 % 2
      = valI r (ip ++ fp) % 2 := by
  have hi := h.ilen
  have hf := h.flen
  obtain ⟨rest, hr, _⟩ := h.split
  rcases List.eq_nil_or_concat fp with rfl | ⟨f0, d, rfl⟩
  · simp only [List.length_nil] at hf
    rcases List.eq_nil_or_concat ip with rfl | ⟨i0, d, rfl⟩
    · simp at hi; omega
    · simp only [List.concat_eq_append, List.length_append, List.length_cons, List.length_nil] at hi
      have hg := getD_at (a := i0) (x := d) (b := 46 :: rest) (by simpa using hr)
      rw [← hf, if_neg (by omega), show buf.intDigits + 1 - 1 = i0.length by omega, hg, List.append_nil,
        List.concat_eq_append, valI_append]
      simp [valI, parity_last _ _ _ heven]
  · simp only [List.concat_eq_append, List.length_append, List.length_cons, List.length_nil] at hf
    have hg := getD_at (a := ip ++ 46 :: f0) (x := d) (b := rest) (by simpa using hr)
    rw [if_pos (by omega), show buf.intDigits + buf.fracDigits + 2 - 1 = (ip ++ 46 :: f0).length by simp; omega, hg,
      List.concat_eq_append, ← List.append_assoc ip, valI_append]
    simp [valI, parity_last _ _ _ heven]

/-- with no fraction digit the loop of `round_and_trim` stops short of the point; visiting it changes nothing -/
theorem roundUpLoop_len {I n : Nat} {data : Array Nat} (h : Shows ⟨I, n, data⟩ ip fp) (mx : Nat) (hmx : mx < 46) :
    roundUpLoop mx (if n > 0 then I + n + 2 else I + 1) data n false = roundUpLoop mx (I + n + 2) data n false := by
  split
  · rfl
  · obtain rfl : n = 0 := by omega
    obtain ⟨rest, hr, _⟩ := h.split
    have hg := getD_at (a := ip) (by simpa using hr)
    rw [h.ilen] at hg
    simp only at hg
    symm
    rw [show I + 0 + 2 = (1 + I) + 1 by omega, roundUpLoop, hg, if_neg (by omega), if_pos rfl, Nat.add_comm 1 I]
    rfl

theorem roundUp {I n : Nat} {data : Array Nat} (h : Shows ⟨I, n, data⟩ ip fp) (mx : Nat) (hmx : mx < 46)
    (hle : ∀ d ∈ ip ++ fp, d ≤ mx) (hno : ∃ d ∈ ip, d < mx) :
    ∃ data' ip' fp', roundUpLoop mx (I + n + 2) data n false = (data', fp'.length, false) ∧
      Shows ⟨I, fp'.length, data'⟩ ip' fp' ∧ ip'.length = ip.length ∧ fp'.length ≤ fp.length ∧
      (∀ d ∈ ip' ++ fp', d ≤ mx) ∧ fp'.getLast? ≠ some 0 ∧
      valI (mx + 1) (ip' ++ fp') * (mx + 1) ^ (fp.length - fp'.length) = valI (mx + 1) (ip ++ fp) + 1 ∧
      valI (mx + 1) ip ≤ valI (mx + 1) ip' := by
  obtain ⟨rest, hr, h130⟩ := h.split
  have hi := h.ilen
  have hf := h.flen
  simp only at hr hi hf
  obtain ⟨z, fr', ir', eb, hz, hlen, hle', hhd, hv, hmono⟩ := bumpRev_frac mx hmx ip.reverse
    (fun d hd => hle d (List.mem_append_left _ (List.mem_reverse.1 hd)))
    (by obtain ⟨d, hd, hlt⟩ := hno; exact ⟨d, List.mem_reverse.2 hd, hlt⟩) fp.reverse
    (fun d hd => hle d (List.mem_append_right _ (List.mem_reverse.1 hd)))
  obtain ⟨data', e1, e2⟩ := roundUpLoop_split mx (ip ++ 46 :: fp) rest data n false (by simpa using hr)
  have hrev : (ip ++ 46 :: fp).reverse = fp.reverse ++ 46 :: ip.reverse := by simp
  rw [show (ip ++ 46 :: fp).length = I + n + 2 by simp [hi, hf]; omega, hrev, ← hf, ← List.length_reverse, eb] at e1
  rw [hrev, ← hf, ← List.length_reverse, eb] at e2
  simp only [List.length_reverse, List.reverse_reverse] at hz hlen hmono e1 e2
  rw [← hf]
  refine ⟨data', ir'.reverse, fr'.reverse, by simpa using e1, ?_,
    by simp [hlen], by simp; omega, fun d hd => hle' d (by simpa [or_comm] using hd),
    by rw [List.getLast?_reverse]; exact hhd, ?_, hmono⟩
  · rw [List.length_reverse]
    exact .of_split (List.replicate z 0 ++ rest) (by simpa using e2) (by simp at h130 ⊢; omega) (by simp [hlen, hi]) (by simp)
  · simp only [List.length_reverse, List.reverse_reverse] at hv
    rw [valI_append, List.length_reverse, show fp.length - fr'.length = z by omega, hv, valI_append (mx + 1) ip fp]

theorem trim {I n : Nat} {data : Array Nat} (h : Shows ⟨I, n, data⟩ ip fp) (r : Nat) :
    ∃ fp', Shows ⟨I, n - trimCount (1 + I + 1) n data, data⟩ ip fp' ∧ fp'.length ≤ fp.length ∧ (∀ d ∈ fp', d ∈ fp) ∧
      fp'.getLast? ≠ some 0 ∧ valI r (ip ++ fp') * r ^ (fp.length - fp'.length) = valI r (ip ++ fp) := by
  obtain ⟨rest, hr, h130⟩ := h.split
  have hf := h.flen
  have hi := h.ilen
  simp only at hr hf hi
  obtain ⟨l, e, hl⟩ := trimCount_split fp (ip ++ [46]) rest data (by simpa using hr)
  have hlen : (ip ++ [46]).length = 1 + I + 1 := by rw [List.length_append, hi]; rfl
  rw [hlen, hf] at e
  generalize trimCount (1 + I + 1) n data = t at e ⊢
  subst e
  simp only [List.length_append, List.length_replicate] at hf
  refine ⟨l, .of_split (List.replicate t 0 ++ rest) (by simpa using hr) (by simpa using h130) hi (by omega),
    by simp, fun d hd => List.mem_append_left _ hd, hl, ?_⟩
  rw [← List.append_assoc, valI_zeros_right]
  simp

theorem roundAndTrim {buf : Buffer} {ip fp : List Nat} (h : Shows buf ip fp) (mx : Nat) (hmx : mx < 46)
    (heven : (mx + 1) % 2 = 0) (hle : ∀ d ∈ ip ++ fp, d ≤ mx) (hno : ∃ d ∈ ip, d < mx) (ord : Ordering) :
    ∃ buf' ip' fp', buf.roundAndTrim mx ord = .ok buf' false ∧ Shows buf' ip' fp' ∧ ip'.length = ip.length ∧
      fp'.length ≤ fp.length ∧ (∀ d ∈ ip' ++ fp', d ≤ mx) ∧ fp'.getLast? ≠ some 0 ∧
      valI (mx + 1) (ip' ++ fp') * (mx + 1) ^ (fp.length - fp'.length)
        = valI (mx + 1) (ip ++ fp)
          + (if ord = .gt ∨ (ord = .eq ∧ valI (mx + 1) (ip ++ fp) % 2 = 1) then 1 else 0) ∧
      valI (mx + 1) ip ≤ valI (mx + 1) ip' := by
  have hpar := h.last_parity (mx + 1) heven
  obtain ⟨I, n, data⟩ := buf
  rw [roundAndTrim_eq mx I n data ord h.size h.len _ rfl, hpar]
  by_cases hup : ord = .gt ∨ (ord = .eq ∧ valI (mx + 1) (ip ++ fp) % 2 = 1)
  · obtain ⟨data', ip', fp', e, hS, hrest⟩ := h.roundUp mx hmx hle hno
    rw [if_pos (by simpa using hup), if_pos hup, h.roundUpLoop_len mx hmx, e]
    exact ⟨_, ip', fp', rfl, hS, hrest⟩
  · obtain ⟨fp', hS, hlen, hmem, hlast, hval⟩ := h.trim (mx + 1)
    rw [if_neg (by simpa using hup), if_neg hup]
    refine ⟨_, ip, fp', rfl, hS, rfl, hlen, ?_, hlast, hval, Nat.le_refl _⟩
    intro d hd
    rcases List.mem_append.1 hd with hd | hd
    · exact hle d (List.mem_append_left _ hd)
    · exact hle d (List.mem_append_right _ (hmem d hd))

/-- `r ≤ 46` keeps every digit below the byte 46 (`'.'`) by which the loops find the point; the comparison is the one `write_frac*`
hands over. -/
theorem roundWritten {r I n int m D : Nat} (h : Shows buf (0 :: lowDigits r I int) (fracDigs r D n m))
    (hr2 : 2 ≤ r) (hr46 : r ≤ 46) (heven : r % 2 = 0) (hD : 0 < D) (hint : int < r ^ I) (hm : m < D)
    (hlead : I = 0 ∨ r ^ I ≤ r ^ 2 * int) :
    ∃ buf' ip' fp', buf.roundAndTrim (r - 1) (compare (2 * (m * r ^ n % D)) D) = .ok buf' false ∧
      Finished r buf' ip' fp' ∧ fp'.length ≤ n ∧
      valI r (ip' ++ fp') * r ^ (n - fp'.length) = rneDiv ((int * D + m) * r ^ n) D := by
  obtain ⟨mx, rfl⟩ : ∃ mx, r = mx + 1 := ⟨r - 1, by omega⟩
  rw [Nat.add_sub_cancel]
  have hi : valI (mx + 1) (0 :: lowDigits (mx + 1) I int) = int := by
    rw [valI_cons, lowDigits_val, Nat.mod_eq_of_lt hint]; simp
  have hv : valI (mx + 1) ((0 :: lowDigits (mx + 1) I int) ++ fracDigs (mx + 1) D n m)
      = int * (mx + 1) ^ n + m * (mx + 1) ^ n / D := by
    rw [valI_append, hi, fracDigs_length, fracDigs_val _ D hD n m hm]
  have hle : ∀ d ∈ (0 :: lowDigits (mx + 1) I int) ++ fracDigs (mx + 1) D n m, d ≤ mx := by
    intro d hd
    rcases List.mem_append.1 hd with hd | hd
    · rcases List.mem_cons.1 hd with rfl | hd
      · omega
      · have := lowDigits_lt (mx + 1) (by omega) I int d hd; omega
    · have := fracDigs_lt (mx + 1) D (by omega) hD n m hm d hd; omega
  obtain ⟨buf', ip', fp', e, hS, hil, hfl, hle', hlast, hval, hmono⟩ :=
    h.roundAndTrim mx (by omega) heven hle ⟨0, by simp, by omega⟩ (compare (2 * (m * (mx + 1) ^ n % D)) D)
  rw [hv, round_value int m D _ hD, fracDigs_length] at hval
  rw [hi] at hmono
  rw [fracDigs_length] at hfl
  simp only [List.length_cons, lowDigits_length] at hil
  refine ⟨buf', ip', fp', e, ⟨hS, fun d hd => by have := hle' d hd; omega, hlast, ?_⟩, hfl, hval⟩
  rw [hil, Nat.add_sub_cancel]
  rcases hlead with h0 | h0
  · left; omega
  · exact Or.inr (Nat.le_trans h0 (Nat.mul_le_mul_left _ hmono))

end Shows
end Sfx.FmtPf

