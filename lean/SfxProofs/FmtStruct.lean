import SfxProofs.FmtRadixBase
import SfxProofs.Returns
/-
  FmtStruct.lean — property C09, structural half.
  * `encode_digits` on one byte (`enc_cases` and its consequences) and on a digit string (`Shows.encode`).
  * `pad_and_print` on an encoded digit string (`Shows.padAndPrint`): the bytes written are `assemble` (sign, prefix, padding —
    the only place where the sign and the flags are read) of `bodyOf`, the string from `abs_begin` on (`Shows.bodyOf_eq`).  The
    two heads that compute `abs_begin` and `end_zeros` are rules for an arbitrary continuation (`absBegin_rule`,
    `endZeros_rule`), so the shared tail of the model's `do` block is walked once.  The shape of `assemble` and its length law.
  * the digit buffer after `encode_digits` and the printed body as functions of kind, precision and value (`digitsBuf`,
    `body`); what they are is said in FmtTopBytes.lean / FmtTop.lean from the two value developments.
  * the vocabulary of the C09 statements: `KindOk`, `PrecOk`, `assemble`, `radixOf`; and `debug_eq_display`.
-/
namespace Sfx.FmtPf
open Sfx.Display
open Sfx.TextSpec (FmtSpec charLen)
open Sfx.FmtRadixPf (idx_eq sliceChk_eq toList_set_at getD_at rev_ind)

/-! small facts the later files of the formatter ask for under these names -/

theorem dbgIf_false : Outcome.dbgIf false = .ok () false := rfl

theorem p2split {a b : Nat} (h : a ≤ b) : 2 ^ b = 2 ^ (b - a) * 2 ^ a :=
  FmtRadixPf.npow_split 2 b a h

theorem bitLen_pos {a : Nat} (ha : 0 < a) : 0 < bitLen a := Sfx.bitLen_pos ha

theorem enc_cases (u : Bool) (d : Nat) :
    (d < 10 ∧ encodeDigit u d = d + 48) ∨ (10 ≤ d ∧ d < 16 ∧ encodeDigit u d = d + (if u then 55 else 87)) ∨
      (16 ≤ d ∧ encodeDigit u d = d) := by
  unfold encodeDigit
  by_cases h1 : d < 10
  · exact Or.inl ⟨h1, if_pos h1⟩
  · by_cases h2 : d < 16
    · exact Or.inr (Or.inl ⟨by omega, h2, by rw [if_neg h1, if_pos h2]⟩)
    · exact Or.inr (Or.inr ⟨by omega, by rw [if_neg h1, if_neg h2]⟩)

theorem enc_lt10 (u : Bool) (d : Nat) (h : d < 10) : encodeDigit u d = d + 48 := by
  unfold encodeDigit; rw [if_pos h]

theorem enc_ge10 (u : Bool) (d : Nat) (h1 : 10 ≤ d) (h2 : d < 16) :
    encodeDigit u d = d + (if u then 55 else 87) := by
  unfold encodeDigit; rw [if_neg (by omega), if_pos h2]

theorem enc_46 (u : Bool) : encodeDigit u 46 = 46 := rfl

theorem enc_zero (u : Bool) : encodeDigit u 0 = 48 := rfl

theorem enc_range (u : Bool) (d : Nat) (h : d < 16) :
    (48 ≤ encodeDigit u d ∧ encodeDigit u d ≤ 57) ∨ (u = true ∧ 65 ≤ encodeDigit u d ∧ encodeDigit u d ≤ 70) ∨
      (u = false ∧ 97 ≤ encodeDigit u d ∧ encodeDigit u d ≤ 102) := by
  rcases enc_cases u d with ⟨_, e⟩ | ⟨_, _, e⟩ | ⟨_, _⟩
  · rw [e]; omega
  · rw [e]; cases u
    · simp; omega
    · simp; omega
  · omega

theorem enc_eq_48 (u : Bool) (d : Nat) (h : d < 16) : encodeDigit u d = 48 ↔ d = 0 := by
  rcases enc_cases u d with ⟨_, e⟩ | ⟨_, _, e⟩ | ⟨_, e⟩
  · rw [e]; omega
  · rw [e]; cases u
    · simp; omega
    · simp; omega
  · rw [e]; omega

theorem enc_eq_46 (u : Bool) (d : Nat) : encodeDigit u d = 46 ↔ d = 46 := by
  rcases enc_cases u d with ⟨_, e⟩ | ⟨_, _, e⟩ | ⟨_, e⟩
  · rw [e]; omega
  · rw [e]; cases u
    · simp; omega
    · simp; omega
  · rw [e]

theorem encodeDigit_lt (u : Bool) (d : Nat) (h : d < 128) : encodeDigit u d < 128 := by
  rcases enc_cases u d with ⟨_, e⟩ | ⟨_, _, e⟩ | ⟨_, e⟩
  · rw [e]; omega
  · rw [e]; cases u
    · simp; omega
    · simp; omega
  · rw [e]; exact h

theorem encodeDigits_eq (buf : Buffer) (upper : Bool) (hlen : buf.intDigits + buf.fracDigits ≤ 128) :
    buf.encodeDigits upper
      = .ok { buf with data := encodeLoop upper (buf.intDigits + buf.fracDigits + 2) buf.data } false := by
  unfold Buffer.encodeDigits
  simp only [sliceChk_eq 0 (buf.intDigits + buf.fracDigits + 2) (by omega) (by omega), ok_false_bind, pure_eq_ok]

/-- where the printed digits start: the reserved carry digit and a possible second leading zero are skipped (on the encoded
bytes; `FmtRadixPf.absBeginRaw` is the same on the digit values, both are `absL` of the digit list: `Shows.absBeginOf_encoded`) -/
def absBeginOf (buf : Buffer) : Nat :=
  if buf.data.getD 0 0 != 48 then 0
  else if buf.data.getD 1 0 == 46 then 0 else if buf.data.getD 1 0 == 48 then 2 else 1

/-- `end_zeros`: the zeros `pad_and_print` appends to reach a requested precision -/
def endZerosOf (buf : Buffer) (prec : Option Nat) : Nat :=
  match prec with
  | some x => x - buf.fracDigits
  | none => 0

/-- where the printed digits end (the `'.'` is included when fractional digits or zeros follow) -/
def absEndOf (buf : Buffer) (prec : Option Nat) : Nat :=
  if buf.fracDigits > 0 then buf.intDigits + buf.fracDigits + 2
  else if endZerosOf buf prec > 0 then buf.intDigits + 2
  else buf.intDigits + 1

/-- the printed digits `int[.frac]` of an encoded buffer and the number of zeros appended after them -/
def bodyOf (buf : Buffer) (prec : Option Nat) : List Nat × Nat :=
  ((buf.data.toList.take (absEndOf buf prec)).drop (absBeginOf buf), endZerosOf buf prec)

/-- the sign `pad_and_print` writes: `-`, or `+` under the `+` flag, or nothing -/
def signOf (spec : FmtSpec) (neg : Bool) : List Nat := if neg then [45] else if spec.plus then [43] else []

/-- `req_width`: the chars written before any padding (sign, prefix, printed digits, end zeros) -/
def coreLen (spec : FmtSpec) (neg : Bool) (b : List Nat × Nat) : Nat :=
  (signOf spec neg).length + spec.prefix.length + b.1.length + b.2

/-- the output for a given body under the padding-related flags -/
def assemble (spec : FmtSpec) (neg : Bool) (b : List Nat × Nat) : List Nat :=
  let pad := spec.width.getD 0 - coreLen spec neg b
  let (padLeft, padZeros, padRight) : Nat × Nat × Nat :=
    if spec.zero then (0, pad, 0)
    else match spec.align with
      | some '<' => (0, 0, pad)
      | some '^' => (pad / 2, 0, pad - pad / 2)
      | _ => (pad, 0, 0)
  let fill : List Nat := spec.fill.getD [32]
  (List.replicate padLeft fill).flatten ++ signOf spec neg ++ spec.prefix ++ List.replicate padZeros 48 ++ b.1
    ++ List.replicate b.2 48 ++ (List.replicate padRight fill).flatten

theorem usizeAdd_eq (a b : Nat) (h : a + b < 2 ^ 64) : usizeAdd a b = .ok (a + b) false := by
  unfold usizeAdd
  rw [Nat.mod_eq_of_lt h]
  congr 1
  simp; omega

theorem usizeSub_eq (a b : Nat) (h : b ≤ a) (ha : a < 2 ^ 64) : usizeSub a b = .ok (a - b) false := by
  unfold usizeSub
  have hb : b % 2 ^ 64 = b := Nat.mod_eq_of_lt (by omega)
  rw [hb]
  have : a + 2 ^ 64 - b = (a - b) + 2 ^ 64 := by omega
  rw [this, Nat.add_mod_right, Nat.mod_eq_of_lt (by omega)]
  congr 1
  simp; omega

theorem signOf_len (spec : FmtSpec) (neg : Bool) : (signOf spec neg).length ≤ 1 := by
  unfold signOf; split
  · simp
  · split <;> simp

theorem encodeLoop_split (up : Bool) : ∀ (vis post : List Nat) (data : Array Nat), data.toList = vis ++ post →
    (encodeLoop up vis.length data).toList = vis.map (encodeDigit up) ++ post := by
  intro vis
  induction vis using rev_ind with
  | nil => intro post data h; simpa [encodeLoop] using h
  | append_singleton vis x ih =>
    intro post data h
    have h' : data.toList = vis ++ x :: post := by simp [h]
    rw [List.length_append, List.length_singleton, encodeLoop, getD_at h',
      ih (encodeDigit up x :: post) _ (toList_set_at h' _)]
    simp

theorem enc_ascii (up : Bool) (l : List Nat) (h : ∀ d ∈ l, d < 16) : ∀ x ∈ l.map (encodeDigit up), x < 128 := by
  intro x hx
  obtain ⟨d, hd, rfl⟩ := List.mem_map.1 hx
  exact encodeDigit_lt _ _ (by have := h d hd; omega)

theorem enc_bytes (u : Bool) (l : List Nat) (h : ∀ d, d ∈ l → d < 16) : ∀ b, b ∈ l.map (encodeDigit u) →
    (48 ≤ b ∧ b ≤ 57) ∨ (u = true ∧ 65 ≤ b ∧ b ≤ 70) ∨ (u = false ∧ 97 ≤ b ∧ b ≤ 102) := by
  intro b hb
  rw [List.mem_map] at hb
  obtain ⟨d, hd, rfl⟩ := hb
  exact enc_range u d (h d hd)

namespace Shows
variable {buf : Buffer} {ip fp : List Nat}

theorem encode (h : Shows buf ip fp) (up : Bool) :
    ∃ buf', buf.encodeDigits up = .ok buf' false ∧ buf'.fracDigits = buf.fracDigits ∧
      Shows buf' (ip.map (encodeDigit up)) (fp.map (encodeDigit up)) := by
  obtain ⟨rest, hr, h130⟩ := h.split
  have e := encodeLoop_split up (ip ++ 46 :: fp) rest buf.data (by simpa using hr)
  rw [show (ip ++ 46 :: fp).length = buf.intDigits + buf.fracDigits + 2 by simp [h.ilen, h.flen]; omega] at e
  exact ⟨_, encodeDigits_eq buf up h.len, rfl,
    .of_split rest (by simpa [enc_46] using e) (by simpa using h130) (by simpa using h.ilen) (by simpa using h.flen)⟩

theorem absBeginOf_encoded {up : Bool} (h : Shows buf (ip.map (encodeDigit up)) (fp.map (encodeDigit up)))
    (h16 : ∀ d ∈ ip, d < 16) : absBeginOf buf = absL ip := by
  obtain ⟨b0, t, e, h0, h1⟩ := h.slots01
  unfold absBeginOf
  rw [h0, h1]
  match ip, e, h16 with
  | [d0], e, _ =>
    obtain ⟨rfl, rfl⟩ : encodeDigit up d0 = b0 ∧ [] = t := by simpa using e
    simp [absL]
  | d0 :: d1 :: l, e, h16 =>
    obtain ⟨rfl, rfl⟩ : encodeDigit up d0 = b0 ∧ encodeDigit up d1 :: l.map (encodeDigit up) = t := by simpa using e
    have e0 := enc_eq_48 up d0 (h16 d0 (by simp))
    have e1 := enc_eq_48 up d1 (h16 d1 (by simp))
    have e2 := enc_eq_46 up d1
    have : d1 ≠ 46 := by have := h16 d1 (by simp); omega
    simp [absL, e0, e1, e2, this]

/-- with a single integer slot the second byte is the point -/
theorem absBeginOf_le (h : Shows buf ip fp) : absBeginOf buf ≤ ip.length := by
  obtain ⟨d0, t, rfl, h0, h1⟩ := h.slots01
  unfold absBeginOf
  rw [h1]
  cases t with
  | nil => simp
  | cons d1 t => simp only [List.length_cons]; split; omega; split; omega; split <;> omega

theorem slice (h : Shows buf ip fp) (e : Nat) (he : e ≤ buf.intDigits + buf.fracDigits + 2) :
    (buf.data.toList.take e).drop (absBeginOf buf)
      = (ip.drop (absBeginOf buf) ++ 46 :: fp).take (e - absBeginOf buf) := by
  obtain ⟨rest, hr, _⟩ := h.split
  rw [hr, show ip ++ 46 :: fp ++ rest = (ip ++ 46 :: fp) ++ rest by simp,
    List.take_append_of_le_length (by simp [h.ilen, h.flen]; omega),
    ← List.drop_append_of_le_length h.absBeginOf_le, List.drop_take]

end Shows

theorem endZerosOf_eq (buf : Buffer) (prec : Option Nat) : endZerosOf buf prec = prec.getD 0 - buf.fracDigits := by
  unfold endZerosOf
  cases prec <;> simp

theorem Shows.bodyOf_eq {buf : Buffer} {ib fb : List Nat} (h : Shows buf ib fb) (prec : Option Nat) :
    bodyOf buf prec
      = (ib.drop (absBeginOf buf) ++ (if !fb.isEmpty || decide (0 < prec.getD 0 - fb.length) then 46 :: fb else []),
          prec.getD 0 - fb.length) := by
  have hi := h.ilen
  have hf := h.flen
  have ha := h.absBeginOf_le
  unfold bodyOf absEndOf
  rw [endZerosOf_eq, ← hf]
  congr 1
  by_cases h1 : fb.length > 0
  · have hne : fb.isEmpty = false := by
      cases fb with
      | nil => simp at h1
      | cons _ _ => rfl
    rw [if_pos h1, h.slice _ (by omega), List.take_of_length_le (by simp; omega), hne]
    rfl
  · have hnil : fb = [] := List.eq_nil_of_length_eq_zero (by omega)
    subst hnil
    rw [if_neg h1]
    by_cases h2 : prec.getD 0 - ([] : List Nat).length > 0
    · rw [if_pos h2, h.slice _ (by simp at hf; omega), List.take_of_length_le (by simp; omega)]
      simp only [List.length_nil] at h2
      simp; omega
    · rw [if_neg h2, h.slice _ (by omega), show buf.intDigits + 1 - absBeginOf buf = (ib.drop (absBeginOf buf)).length by
        rw [List.length_drop]; omega, List.take_left' rfl]
      simp only [List.length_nil] at h2
      simp; omega

open Outcome (Returns)

theorem absBegin_rule {β : Type} {buf : Buffer} (hsz : buf.data.size = 130) {k : Nat → Outcome β} {w : β}
    (hk : Returns (k (absBeginOf buf)) w) :
    Returns (idx buf.data 0 >>= fun d0 =>
      if d0 != 48 then pure 0 >>= k
      else idx buf.data 1 >>= fun d1 => pure (if d1 == 46 then 0 else if d1 == 48 then 2 else 1) >>= k) w := by
  refine .bind (.of_eq (idx_eq _ 0 (by omega))) ?_
  unfold absBeginOf at hk
  split
  · rw [if_pos ‹_›] at hk; exact .bind .pure hk
  · rw [if_neg ‹_›] at hk; exact .bind (.of_eq (idx_eq _ 1 (by omega))) (.bind .pure hk)

theorem endZeros_rule {β : Type} {buf : Buffer} {prec : Option Nat}
    (hprec : ∀ x, prec = some x → buf.fracDigits ≤ x ∧ x < 2 ^ 16) {k : Nat → Outcome β} {w : β}
    (hk : Returns (k (endZerosOf buf prec)) w) :
    Returns (match prec with
      | some x => usizeSub x buf.fracDigits >>= k
      | none => pure 0 >>= k) w := by
  cases prec with
  | none => exact .bind .pure hk
  | some x =>
    obtain ⟨h1, h2⟩ := hprec x rfl
    exact .bind (.of_eq (usizeSub_eq x buf.fracDigits h1 (by omega))) hk

theorem Shows.padAndPrint {buf : Buffer} {ib fb : List Nat} (h : Shows buf ib fb)
    (hascii : ∀ x ∈ ib.drop (absBeginOf buf) ++ fb, x < 128) (neg : Bool) (pfxR : List Nat)
    (spec : FmtSpec) (hpfx : (if spec.alt then pfxR else []) = spec.prefix) (hpl : pfxR.length ≤ 2)
    (hprec : ∀ x, spec.prec = some x → buf.fracDigits ≤ x ∧ x < 2 ^ 16) :
    buf.padAndPrint neg pfxR spec = .ok (assemble spec neg (bodyOf buf spec.prec)) false := by
  have hpl' : spec.prefix.length ≤ 2 := by rw [← hpfx]; split; exact hpl; simp
  unfold Buffer.padAndPrint
  refine (absBegin_rule h.size (endZeros_rule hprec ?_)).eq
  -- the shared tail, on the two values the heads returned
  have hez : endZerosOf buf spec.prec < 2 ^ 16 := by
    unfold endZerosOf
    cases hp : spec.prec with
    | none => exact Nat.two_pow_pos 16
    | some x => have := (hprec x hp).2; simp only []; omega
  unfold bodyOf absEndOf
  generalize endZerosOf buf spec.prec = endZeros at hez ⊢
  show _ = _
  simp only [hpfx]
  rw [show (if neg then [45] else if spec.plus then [43] else []) = signOf spec neg from rfl]
  generalize hae : (if buf.fracDigits > 0 then buf.intDigits + buf.fracDigits + 2
      else if endZeros > 0 then buf.intDigits + 2 else buf.intDigits + 1) = absEnd
  have hlen := h.len
  have hi := h.ilen
  have ha := h.absBeginOf_le
  have hae2 : buf.intDigits + 1 ≤ absEnd ∧ absEnd ≤ buf.intDigits + buf.fracDigits + 2 := by
    subst hae; split; omega; split <;> omega
  clear hae
  have hs := signOf_len spec neg
  rw [usizeAdd_eq _ _ (by omega), ok_false_bind, usizeAdd_eq _ _ (by omega), ok_false_bind,
    usizeSub_eq _ _ (by omega) (by omega), ok_false_bind, usizeAdd_eq _ _ (by omega), ok_false_bind,
    sliceChk_eq _ _ (by omega) (by omega), ok_false_bind]
  have hany : ((List.drop (absBeginOf buf) (List.take absEnd buf.data.toList)).any fun x => decide (x ≥ 128)) = false := by
    rw [List.any_eq_false]
    intro x hx
    rw [h.slice _ hae2.2] at hx
    have hx' := List.mem_of_mem_take hx
    rw [List.mem_append, List.mem_cons] at hx'
    have : x < 128 := by
      rcases hx' with h' | h' | h'
      · exact hascii x (List.mem_append_left _ h')
      · omega
      · exact hascii x (List.mem_append_right _ h')
    rw [decide_eq_true_eq]; omega
  rw [hany]
  simp only [Bool.false_eq_true, if_false, pure_eq_ok]
  have hbl : (List.drop (absBeginOf buf) (List.take absEnd buf.data.toList)).length = absEnd - absBeginOf buf := by
    rw [List.length_drop, List.length_take, Array.length_toList, h.size]; omega
  rw [show (signOf spec neg).length + spec.prefix.length + absEnd - absBeginOf buf + endZeros
    = coreLen spec neg (List.drop (absBeginOf buf) (List.take absEnd buf.data.toList), endZeros) by
      unfold coreLen; rw [hbl]; omega]
  unfold assemble
  generalize coreLen spec neg (List.drop (absBeginOf buf) (List.take absEnd buf.data.toList), endZeros) = c
  -- `fmt.width().and_then(|w| w.checked_sub(req_width)).unwrap_or(0)`
  cases spec.width with
  | none => simp only [Option.getD_none, Nat.zero_sub]; rfl
  | some w =>
    simp only [Option.getD_some]
    rw [show (if c ≤ w then w - c else 0) = w - c by split <;> omega]
    rfl

theorem charLen_append (a b : List Nat) : charLen (a ++ b) = charLen a + charLen b := by
  simp [charLen, List.filter_append]

theorem charLen_ascii (l : List Nat) (h : ∀ x ∈ l, x < 128) : charLen l = l.length := by
  unfold charLen
  rw [List.filter_eq_self.mpr]
  intro x hx
  have := h x hx
  simp; omega

theorem charLen_fill (fill : List Nat) (n : Nat) : charLen (List.replicate n fill).flatten = n * charLen fill := by
  induction n with
  | zero => simp [charLen]
  | succ n ih => rw [List.replicate_succ, List.flatten_cons, charLen_append, ih, Nat.succ_mul, Nat.add_comm]

theorem charLen_zeros (n : Nat) : charLen (List.replicate n 48) = n := by
  rw [charLen_ascii _ (by intro x hx; rw [(List.mem_replicate.mp hx).2]; decide), List.length_replicate]

theorem charLen_sign (spec : FmtSpec) (neg : Bool) : charLen (signOf spec neg) = (signOf spec neg).length := by
  unfold signOf; split
  · rfl
  · split <;> rfl

theorem charLen_prefix (spec : FmtSpec) : charLen spec.prefix = spec.prefix.length := by
  unfold FmtSpec.prefix
  split
  · rfl
  · split <;> rfl

theorem assemble_shape (spec : FmtSpec) (neg : Bool) (b : List Nat × Nat) :
    ∃ l z r, assemble spec neg b
        = (List.replicate l (spec.fill.getD [32])).flatten ++ ((signOf spec neg ++ spec.prefix) ++
            ((List.replicate z 48 ++ (b.1 ++ List.replicate b.2 48)) ++ (List.replicate r (spec.fill.getD [32])).flatten)) ∧
      (z = 0 ∨ spec.zero = true) ∧ (spec.zero = true → l = 0 ∧ r = 0) ∧
      l + z + r = spec.width.getD 0 - coreLen spec neg b := by
  unfold assemble
  simp only
  generalize spec.width.getD 0 - coreLen spec neg b = pad
  by_cases hz : spec.zero = true
  · rw [if_pos hz]
    exact ⟨0, pad, 0, by simp only [List.append_assoc], Or.inr hz, fun _ => ⟨rfl, rfl⟩, by omega⟩
  · rw [if_neg hz]
    split
    · exact ⟨0, 0, pad, by simp only [List.append_assoc], Or.inl rfl, fun h => absurd h hz, by omega⟩
    · exact ⟨pad / 2, 0, pad - pad / 2, by simp only [List.append_assoc], Or.inl rfl, fun h => absurd h hz, by omega⟩
    · exact ⟨pad, 0, 0, by simp only [List.append_assoc], Or.inl rfl, fun h => absurd h hz, by omega⟩

/-- needs a one-`char` fill only when fill is printed -/
theorem shape_charLen (spec : FmtSpec) (neg : Bool) (l z r : Nat) (body : List Nat) (hb : ∀ x ∈ body, x < 128)
    (hfill : charLen (spec.fill.getD [32]) = 1 ∨ (l = 0 ∧ r = 0)) :
    charLen ((List.replicate l (spec.fill.getD [32])).flatten ++ ((signOf spec neg ++ spec.prefix) ++
        ((List.replicate z 48 ++ body) ++ (List.replicate r (spec.fill.getD [32])).flatten)))
      = l + z + r + ((signOf spec neg).length + spec.prefix.length + body.length) := by
  simp only [charLen_append, charLen_fill, charLen_zeros, charLen_sign, charLen_prefix, charLen_ascii body hb]
  rcases hfill with h | ⟨h1, h2⟩
  · rw [h]; omega
  · subst h1; subst h2; omega

theorem assemble_charLen (spec : FmtSpec) (neg : Bool) (b : List Nat × Nat) (hb : ∀ x ∈ b.1, x < 128)
    (hfill : charLen (spec.fill.getD [32]) = 1) :
    charLen (assemble spec neg b) = max (spec.width.getD 0) (coreLen spec neg b) := by
  obtain ⟨l, z, r, he, _, _, hsum⟩ := assemble_shape spec neg b
  rw [he, shape_charLen spec neg l z r _ (fun x hx => by
    rcases List.mem_append.1 hx with h | h
    · exact hb x h
    · rw [(List.mem_replicate.1 h).2]; decide) (Or.inl hfill), List.length_append, List.length_replicate]
  unfold coreLen at *
  omega

theorem assemble_nowidth (spec : FmtSpec) (neg : Bool) (b : List Nat × Nat) (hw : spec.width = none) :
    assemble spec neg b = signOf spec neg ++ spec.prefix ++ b.1 ++ List.replicate b.2 48 := by
  obtain ⟨l, z, r, he, _, _, hsum⟩ := assemble_shape spec neg b
  rw [hw, Option.getD_none, Nat.zero_sub] at hsum
  obtain ⟨rfl, rfl, rfl⟩ : l = 0 ∧ z = 0 ∧ r = 0 := by omega
  rw [he]
  simp

/-- `round_and_trim` followed by `encode_digits` (the part of `finish` that does not look at the flags) -/
def finishBuf (buf : Buffer) (radix : Radix) (ord : Ordering) : Outcome Buffer := do
  let buf ← buf.roundAndTrim radix.max ord
  buf.encodeDigits (radix == .upHex)

/-- the model's `fmt_radix2` up to and including `encode_digits`, reading only the precision from the format spec.  The other copy,
`FmtRadixPf.radixBuf`, stops one step earlier, after `round_and_trim`; `FmtTopPf.radixBuf_glue` relates the two -/
def radixBuf (w abs fracN : Nat) (radix : Radix) (prec : Option Nat) : Outcome Buffer := do
  let (int, frac) ← splitIntFrac w abs fracN
  let digitBits := radix.digitBits
  let intUsedNbits := usedBitsHi int
  let intDigits := (intUsedNbits + digitBits - 1) / digitBits
  let fracUsedNbits := usedBitsLo w frac
  let fracDigits := (fracUsedNbits + digitBits - 1) / digitBits
  let fracDigits := match prec with
    | some precision => Nat.min fracDigits precision
    | none => fracDigits
  let buf ← Buffer.new.setLen intDigits fracDigits
  let buf ← writeInt w int radix intUsedNbits buf
  let (buf, fracRemCmpMsb) ← writeFrac w frac radix fracUsedNbits buf
  finishBuf buf radix fracRemCmpMsb

/-- the model's `fmt_dec` up to and including `encode_digits`, reading only the precision from the format spec.  The other copy,
`FmtDecPf.decBuf`, stops one step earlier, after `round_and_trim`; `FmtTopPf.decBuf_glue` relates the two -/
def decBuf (w abs fracN : Nat) (prec : Option Nat) : Outcome Buffer := do
  let (int, frac) ← splitIntFrac w abs fracN
  let intUsedNbits := usedBitsHi int
  let intDigits ← ceilLog10_2Times intUsedNbits
  let fracUsedNbits := usedBitsLo w frac
  let (fracDigits, autoPrec) ← (match prec with
    | some precision => pure (Nat.min fracUsedNbits precision, false)
    | none => do
      let d ← ceilLog10_2Times fracN
      pure (d, true) : Outcome (Nat × Bool))
  let buf ← Buffer.new.setLen intDigits fracDigits
  let buf ← writeIntDec w int intUsedNbits buf
  let (buf, fracRemCmpMsb) ← writeFracDec w frac fracN autoPrec buf
  finishBuf buf .dec fracRemCmpMsb

/-- the radix selected by the kind letter (`impl_fmt!`); as a number it is `FmtTopPf.radixNat` (`radixNat_eq`), which is the
model's `FmtSpec.radix` (`radix_eq`) -/
def radixOf (kind : String) : Radix :=
  match kind with
  | "b" => .bin | "o" => .oct | "x" => .lowHex | "X" => .upHex | _ => .dec

/-- the buffer handed to `pad_and_print` (after `encode_digits`), by kind letter: `decBuf` or `radixBuf` -/
def digitsBuf (kind : String) (prec : Option Nat) (abs nbits fracN : Nat) : Outcome Buffer :=
  if radixOf kind = .dec then decBuf nbits abs fracN prec else radixBuf nbits abs fracN (radixOf kind) prec

/-- the digits `int[.frac]` (ASCII bytes, after rounding / trimming / encoding, leading padding zeros skipped) and the
number of zeros appended to reach a requested precision — a function of the kind, the precision and the value ONLY -/
def body (kind : String) (prec : Option Nat) (abs nbits fracN : Nat) : List Nat × Nat :=
  match digitsBuf kind prec abs nbits fracN with
  | .ok buf _ => bodyOf buf prec
  | .panic => ([], 0)

/-- the six formatting traits -/
def KindOk (kind : String) : Prop :=
  kind = "d" ∨ kind = "D" ∨ kind = "b" ∨ kind = "o" ∨ kind = "x" ∨ kind = "X"

/-- a run-time precision accepted by `format_args!` -/
def PrecOk (prec : Option Nat) : Prop := ∀ p, prec = some p → p < 2 ^ 16

theorem debug_eq_display (spec : FmtSpec) (neg : Bool) (abs nbits fracN : Nat) :
    Display.fmt { spec with kind := "D" } neg abs nbits fracN = Display.fmt { spec with kind := "d" } neg abs nbits fracN := by
  unfold Display.fmt
  split
  · rfl
  · rfl

#print axioms debug_eq_display

end Sfx.FmtPf
