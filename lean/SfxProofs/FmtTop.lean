import SfxProofs.FmtTopBytes
/-
  FmtTop.lean — property C09 (formatting), the top-level theorem for the model `Display.fmt`.

  `fmt_correct` assembles
    FmtStruct   (`pad_and_print` writes `assemble` (sign / prefix / padding) of the body an encoded buffer shows),
    FmtRadix*   (the Binary / Octal / LowerHex / UpperHex generator; `Gen.valueOk`, the value clause for any radix),
    FmtDec*     (the Display / Debug generator, its stop condition),
    FmtTopBytes (what `pad_and_print` receives from either generator: `Bytes`, canonical integer part, digits of the radix)
  into one statement, for every value, every format spec (any sign, width, fill, alignment, `+`, `#`, `0`; precision
  `< 2^16`), all five primitive widths and every fractional-bit count.

  Two namespaces: `Sfx.FmtPf` states totality, factorisation and the length law with the abstract `body` of FmtStruct.lean
  (`fmt_factors`); `Sfx.FmtTopPf` then says the same with the digits named, `bodyOfDigits (digitsOf …)` in place of `body`
  (`fmt_eq_assemble`), the bridge being `body_eq`, and adds the value statements.
-/
namespace Sfx.FmtPf
open Sfx.Display
open Sfx.TextSpec (FmtSpec charLen)
open Sfx.FmtTopPf

theorem upper_eq (kind : String) : (radixOf kind == Radix.upHex) = (kind == "X") := by
  unfold radixOf
  split
  · decide
  · decide
  · decide
  · decide
  · rename_i h
    have hx : (kind == "X") = false := beq_eq_false_iff_ne.2 h
    rw [hx]; rfl

/-- `impl_fmt!`: the six traits call `fmt_dec` or `fmt_radix2` with the radix of the kind letter -/
theorem fmt_dispatch (spec : FmtSpec) (neg : Bool) (abs nbits fracN : Nat) (hn : WidthOk nbits) (ha : abs < 2 ^ nbits)
    (hk : KindOk spec.kind) :
    Display.fmt spec neg abs nbits fracN
      = some (if radixOf spec.kind = .dec then fmtDec nbits neg abs fracN spec
          else fmtRadix2 nbits neg abs fracN (radixOf spec.kind) spec) := by
  unfold Display.fmt
  rw [if_neg (fun h => h hn)]
  simp only [Nat.mod_eq_of_lt ha]
  rcases hk with hk | hk | hk | hk | hk | hk <;> rw [hk] <;> rfl

theorem prefix_eq (spec : FmtSpec) (hk : KindOk spec.kind) :
    (if spec.alt then (radixOf spec.kind).prefix else []) = spec.prefix := by
  unfold FmtSpec.prefix
  rcases hk with hk | hk | hk | hk | hk | hk
  all_goals
    rw [hk]
    cases spec.alt <;> rfl

theorem digitsBuf_printed (kind : String) (prec : Option Nat) (abs nbits fracN : Nat)
    (hn : WidthOk nbits) (hf : fracN ≤ nbits) (ha : abs < 2 ^ nbits) :
    ∃ buf, digitsBuf kind prec abs nbits fracN = .ok buf false ∧
      Bytes (radixNat kind) (kind == "X") prec buf
        (rawDigits kind prec abs nbits fracN).1 (rawDigits kind prec abs nbits fracN).2 ∧
      FmtRadixPf.ValueOk (radixNat kind) prec abs fracN
        (valI (radixNat kind)
          ((rawDigits kind prec abs nbits fracN).1 ++ (rawDigits kind prec abs nbits fracN).2))
        (rawDigits kind prec abs nbits fracN).2.length (prec.getD 0 - (rawDigits kind prec abs nbits fracN).2.length) ∧
      ∀ neg spec, spec.prec = prec →
        (if radixOf kind = .dec then fmtDec nbits neg abs fracN spec else fmtRadix2 nbits neg abs fracN (radixOf kind) spec)
          = buf.padAndPrint neg (radixOf kind).prefix spec := by
  rw [radixNat_eq]
  unfold digitsBuf rawDigits
  by_cases hr : radixOf kind = .dec
  · obtain ⟨ip, fp, buf, hd, hb, hB, hV, hpp⟩ := dec_bytes nbits abs fracN prec hn hf ha
    have hup : (kind == "X") = false := by rw [← upper_eq, hr]; rfl
    simp only [hd, hb, hup, hr]
    exact ⟨buf, rfl, hB, hV, hpp⟩
  · obtain ⟨ip, fp, buf, hd, hb, hB, hV, hpp⟩ := FmtRadixPf.radix_bytes nbits abs fracN (radixOf kind) prec hn hf ha hr
    simp only [if_neg hr, hd, hb, ← upper_eq]
    exact ⟨buf, rfl, hB, hV, hpp⟩

theorem body_of_buf {kind : String} {prec : Option Nat} {abs nbits fracN : Nat} {buf : Buffer}
    (h : digitsBuf kind prec abs nbits fracN = .ok buf false) : body kind prec abs nbits fracN = bodyOf buf prec := by
  unfold body
  rw [h]

/-- Factorisation ("flags only pad"): the output is `assemble` (sign, prefix, padding — the only place where `neg`,
`plus`, `alt`, `zero`, `width`, `fill`, `align` are read) applied to `body` (a function of kind, precision, value). -/
theorem fmt_factors (spec : FmtSpec) (neg : Bool) (abs nbits fracN : Nat)
    (hn : WidthOk nbits) (hf : fracN ≤ nbits) (ha : abs < 2 ^ nbits) (hk : KindOk spec.kind) (hp : PrecOk spec.prec) :
    Display.fmt spec neg abs nbits fracN
      = some (.ok (assemble spec neg (body spec.kind spec.prec abs nbits fracN)) false) := by
  obtain ⟨buf, hb, hB, _, hpp⟩ := digitsBuf_printed spec.kind spec.prec abs nbits fracN hn hf ha
  rw [fmt_dispatch spec neg abs nbits fracN hn ha hk, hpp neg spec rfl,
    hB.padAndPrint neg _ (prefix_eq spec hk) (by cases radixOf spec.kind <;> decide) hp, body_of_buf hb]

theorem fmt_total (spec : FmtSpec) (neg : Bool) (abs nbits fracN : Nat)
    (hn : WidthOk nbits) (hf : fracN ≤ nbits) (ha : abs < 2 ^ nbits) (hk : KindOk spec.kind) (hp : PrecOk spec.prec) :
    ∃ out, Display.fmt spec neg abs nbits fracN = some (.ok out false) :=
  ⟨_, fmt_factors spec neg abs nbits fracN hn hf ha hk hp⟩

/-- without flags `assemble` adds nothing: the body is what `{:.prec$}` prints for the absolute value -/
theorem fmt_plain (kind : String) (prec : Option Nat) (abs nbits fracN : Nat)
    (hn : WidthOk nbits) (hf : fracN ≤ nbits) (ha : abs < 2 ^ nbits) (hk : KindOk kind) (hp : PrecOk prec) :
    Display.fmt { kind := kind, prec := prec } false abs nbits fracN
      = some (.ok ((body kind prec abs nbits fracN).1 ++ List.replicate (body kind prec abs nbits fracN).2 48) false) := by
  rw [fmt_factors { kind := kind, prec := prec } false abs nbits fracN hn hf ha hk hp, assemble_nowidth _ _ _ rfl]
  rfl

theorem body_ascii (kind : String) (prec : Option Nat) (abs nbits fracN : Nat)
    (hn : WidthOk nbits) (hf : fracN ≤ nbits) (ha : abs < 2 ^ nbits) :
    ∀ x ∈ (body kind prec abs nbits fracN).1, x < 128 := by
  obtain ⟨buf, hb, hB, _⟩ := digitsBuf_printed kind prec abs nbits fracN hn hf ha
  rw [body_of_buf hb, hB.bodyOf_eq]
  exact render_ascii _ _ _ _ fun d hd => Nat.lt_of_lt_of_le (hB.range d hd) hB.r16

/-- Length law: the output has exactly `max(width, core length)` chars, where the core is sign + prefix + digits +
end zeros.  `hfill`: the fill bytes are the UTF-8 encoding of one `char` (true of `' '` and of anything `format_args!`
accepts). -/
theorem fmt_charLen (spec : FmtSpec) (neg : Bool) (abs nbits fracN : Nat) (out : List Nat)
    (hn : WidthOk nbits) (hf : fracN ≤ nbits) (ha : abs < 2 ^ nbits) (hk : KindOk spec.kind) (hp : PrecOk spec.prec)
    (hfill : charLen (spec.fill.getD [32]) = 1)
    (hout : Display.fmt spec neg abs nbits fracN = some (.ok out false)) :
    charLen out = max (spec.width.getD 0) (coreLen spec neg (body spec.kind spec.prec abs nbits fracN)) := by
  rw [fmt_factors spec neg abs nbits fracN hn hf ha hk hp] at hout
  injection hout with hout
  injection hout with hout _
  rw [← hout]
  exact assemble_charLen spec neg _ (body_ascii spec.kind spec.prec abs nbits fracN hn hf ha) hfill

#print axioms fmt_total
#print axioms fmt_factors
#print axioms fmt_plain
#print axioms fmt_charLen

end Sfx.FmtPf

namespace Sfx.FmtTopPf
open Sfx.TextSpec (FmtSpec rneDiv)

theorem body_eq (kind : String) (prec : Option Nat) (abs nbits fracN : Nat)
    (hn : FmtPf.WidthOk nbits) (hf : fracN ≤ nbits) (ha : abs < 2 ^ nbits) :
    FmtPf.body kind prec abs nbits fracN = bodyOfDigits kind (digitsOf kind prec abs nbits fracN) := by
  obtain ⟨buf, hb, hB, _⟩ := FmtPf.digitsBuf_printed kind prec abs nbits fracN hn hf ha
  rw [FmtPf.body_of_buf hb, hB.bodyOf_eq]
  rfl

theorem fmt_eq_assemble (spec : FmtSpec) (neg : Bool) (abs nbits fracN : Nat)
    (hn : FmtPf.WidthOk nbits) (hf : fracN ≤ nbits) (ha : abs < 2 ^ nbits) (hk : FmtPf.KindOk spec.kind)
    (hp : FmtPf.PrecOk spec.prec) :
    Display.fmt spec neg abs nbits fracN
      = some (.ok (FmtPf.assemble spec neg (bodyOfDigits spec.kind (digitsOf spec.kind spec.prec abs nbits fracN))) false) := by
  rw [FmtPf.fmt_factors spec neg abs nbits fracN hn hf ha hk hp, body_eq spec.kind spec.prec abs nbits fracN hn hf ha]

/-- the specification of printed digits `ip . fp` followed by `ez` zeros, in radix `R`, for the value `abs / 2^fracN` -/
def DigitsOk (R : Nat) (prec : Option Nat) (abs fracN : Nat) (ip fp : List Nat) (ez : Nat) : Prop :=
  Canon ip ∧ (∀ d, d ∈ ip ++ fp → d < R) ∧ fp.getLast? ≠ some 0 ∧
  (match prec with
   | none =>
     ez = 0 ∧ valI R (ip ++ fp) = rneDiv (abs * R ^ fp.length) (2 ^ fracN) ∧
     (R ≠ 10 → valI R (ip ++ fp) * 2 ^ fracN = abs * R ^ fp.length) ∧
     (R = 10 → rneDiv (valI 10 (ip ++ fp) * 2 ^ fracN) (10 ^ fp.length) = abs ∧
        2 * (valI 10 (ip ++ fp) * 2 ^ fracN) < 2 * (abs * 10 ^ fp.length) + 10 ^ fp.length ∧
        2 * (abs * 10 ^ fp.length) < 2 * (valI 10 (ip ++ fp) * 2 ^ fracN) + 10 ^ fp.length)
   | some p => fp.length + ez = p ∧ valI R (ip ++ fp) * R ^ ez = rneDiv (abs * R ^ p) (2 ^ fracN))

theorem digitsOk_of {R : Nat} {prec : Option Nat} {abs fracN : Nat} {ip fp : List Nat} {ez : Nat} (hc : Canon ip)
    (hr : ∀ d, d ∈ ip ++ fp → d < R) (ht : fp.getLast? ≠ some 0)
    (hv : FmtRadixPf.ValueOk R prec abs fracN (valI R (ip ++ fp)) fp.length ez) : DigitsOk R prec abs fracN ip fp ez := by
  refine ⟨hc, hr, ht, ?_⟩
  unfold FmtRadixPf.ValueOk at hv
  cases prec with
  | some p => exact hv
  | none =>
    obtain ⟨a, b, c, d⟩ := hv
    exact ⟨a, b, c, fun h => by subst h; exact d rfl⟩

theorem digits_ok (kind : String) (prec : Option Nat) (abs nbits fracN : Nat)
    (hn : FmtPf.WidthOk nbits) (hf : fracN ≤ nbits) (ha : abs < 2 ^ nbits) :
    DigitsOk (radixNat kind) prec abs fracN (digitsOf kind prec abs nbits fracN).1 (digitsOf kind prec abs nbits fracN).2.1
      (digitsOf kind prec abs nbits fracN).2.2 := by
  obtain ⟨_, _, hB, hV, _⟩ := FmtPf.digitsBuf_printed kind prec abs nbits fracN hn hf ha
  exact digitsOk_of hB.canon hB.range hB.trimmed hV

/-- C09.  For every primitive width, fractional-bit count, magnitude `abs`, sign `neg` and format spec (six kinds, any
width / fill / alignment / `+` / `#` / `0`, precision `< 2^16` when present), with
`(ip, fp, ez) = digitsOf spec.kind spec.prec abs nbits fracN` — a function of kind, precision and value ONLY — and
`R = spec.radix` (10, 2, 8, 16):
(1) `Display.fmt` succeeds (no panic, no debug-only check) and its bytes are `assemble spec neg (int[.frac], ez)`:
    the flags and the sign add only sign, prefix and padding around the rendered digits and the `ez` precision zeros
    (the point is printed iff a fraction digit or a precision zero follows);
(2) the integer digits are canonical, all digits are below the radix, the fraction digits end in a non-zero digit;
(3) without precision: no zeros are appended and the digit string is the exact value correctly rounded (ties to even) at
    the number of fraction digits shown; for `R = 2, 8, 16` it IS the exact value; for `R = 10` it is strictly within
    half an ulp (`2^-(fracN+1)`) of the value and rounding it to the grid `2^-fracN` (ties to even — `TextSpec.parseExact`)
    gives back exactly `abs`;
    with precision `p`: exactly `p` fraction places are printed (`fp.length + ez = p`) and the digit string followed by
    the `ez` zeros is the exact value correctly rounded (ties to even) at `p` places. -/
theorem fmt_correct (spec : FmtSpec) (neg : Bool) (abs nbits fracN : Nat)
    (hn : FmtPf.WidthOk nbits) (hf : fracN ≤ nbits) (ha : abs < 2 ^ nbits) (hk : FmtPf.KindOk spec.kind)
    (hp : FmtPf.PrecOk spec.prec) :
    ∀ ip fp ez, digitsOf spec.kind spec.prec abs nbits fracN = (ip, fp, ez) →
      Display.fmt spec neg abs nbits fracN
        = some (.ok (FmtPf.assemble spec neg (render (spec.kind == "X") ip fp (!fp.isEmpty || decide (0 < ez)), ez)) false) ∧
      DigitsOk spec.radix spec.prec abs fracN ip fp ez := by
  intro ip fp ez hd
  have h1 := fmt_eq_assemble spec neg abs nbits fracN hn hf ha hk hp
  have h2 := digits_ok spec.kind spec.prec abs nbits fracN hn hf ha
  rw [hd] at h1 h2
  exact ⟨h1, h2⟩

theorem dot_iff_prec (fp : List Nat) (ez p : Nat) (h : fp.length + ez = p) :
    (!fp.isEmpty || decide (0 < ez)) = decide (0 < p) := by
  cases fp with
  | nil => simp at h; simp [h]
  | cons a l => simp at h; simp; omega

/-- two requests that agree on kind, precision and value have the same body: their outputs differ only through `assemble`,
i.e. in sign, prefix and padding -/
theorem fmt_flags_only_pad (spec₁ spec₂ : FmtSpec) (neg₁ neg₂ : Bool) (abs nbits fracN : Nat)
    (hn : FmtPf.WidthOk nbits) (hf : fracN ≤ nbits) (ha : abs < 2 ^ nbits) (hk : FmtPf.KindOk spec₁.kind)
    (hp : FmtPf.PrecOk spec₁.prec) (hkind : spec₂.kind = spec₁.kind) (hprec : spec₂.prec = spec₁.prec) :
    Display.fmt spec₁ neg₁ abs nbits fracN
      = some (.ok (FmtPf.assemble spec₁ neg₁ (bodyOfDigits spec₁.kind (digitsOf spec₁.kind spec₁.prec abs nbits fracN))) false) ∧
    Display.fmt spec₂ neg₂ abs nbits fracN
      = some (.ok (FmtPf.assemble spec₂ neg₂ (bodyOfDigits spec₁.kind (digitsOf spec₁.kind spec₁.prec abs nbits fracN))) false) := by
  refine ⟨fmt_eq_assemble spec₁ neg₁ abs nbits fracN hn hf ha hk hp, ?_⟩
  have := fmt_eq_assemble spec₂ neg₂ abs nbits fracN hn hf ha (hkind ▸ hk) (hprec ▸ hp)
  rw [hkind, hprec] at this
  exact this

#print axioms fmt_correct
#print axioms fmt_eq_assemble
#print axioms fmt_flags_only_pad
#print axioms body_eq
#print axioms digits_ok

end Sfx.FmtTopPf
