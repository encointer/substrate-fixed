import SfxProofs.FmtTopDefs
/-
  FmtTopBytes.lean — what `pad_and_print` receives (`Bytes`), for both digit generators:
  * power-of-two radices: `radix_bytes`, the encoded digit lists `FmtRadixPf.radixDigits`;
  * decimal: `dec_bytes`, the encoded digit lists of `FmtDecPf.decDigits`, leading zeros stripped;
  both through `Finished.bytes`: the zeros `pad_and_print` skips are all the leading zeros (`drop_absL`), so the printed integer
  part is canonical whichever generator wrote it.
  `FmtPf.radixBuf` / `FmtPf.decBuf` (cut after `encode_digits`) are the value proofs' buffers followed by `encode_digits`.
-/
namespace Sfx.FmtTopPf
open Sfx.Display
open Sfx.TextSpec (FmtSpec rneDiv)

open Sfx.FmtPf (absL Finished Shows)

theorem stripZeros_cons_zero (l : List Nat) : stripZeros (0 :: l) = stripZeros l := by
  simp [stripZeros, List.dropWhile]

theorem stripZeros_cons_ne (d : Nat) (l : List Nat) (h : d ≠ 0) : stripZeros (d :: l) = d :: l := by
  have hb : (d == 0) = false := by simpa using h
  simp [stripZeros, List.dropWhile, hb]

theorem stripZeros_nil : stripZeros [] = [0] := rfl

theorem canon_strip (ip : List Nat) : Canon (stripZeros ip) := by
  induction ip with
  | nil => exact ⟨by simp [stripZeros_nil], Or.inr rfl⟩
  | cons d l ih =>
    by_cases hd : d = 0
    · subst hd; rw [stripZeros_cons_zero]; exact ih
    · rw [stripZeros_cons_ne d l hd]
      exact ⟨by simp, Or.inl (by simpa using hd)⟩

theorem mem_strip (ip : List Nat) (d : Nat) (h : d ∈ stripZeros ip) : d = 0 ∨ d ∈ ip := by
  induction ip with
  | nil => left; simpa [stripZeros_nil] using h
  | cons x l ih =>
    by_cases hx : x = 0
    · subst hx; rw [stripZeros_cons_zero] at h
      rcases ih h with h | h
      · exact Or.inl h
      · exact Or.inr (List.mem_cons_of_mem _ h)
    · rw [stripZeros_cons_ne x l hx] at h; exact Or.inr h

theorem mem_strip_append (ip fp : List Nat) (d : Nat) (h : d ∈ stripZeros ip ++ fp) : d = 0 ∨ d ∈ ip ++ fp := by
  rcases List.mem_append.1 h with h | h
  · exact (mem_strip ip d h).imp id (List.mem_append_left _)
  · exact Or.inr (List.mem_append_right _ h)

/-- `pad_and_print` skips at most two leading zeros; that strips them all as soon as the generator asked for at most one digit
more than the integer part has (`ceil_log10_2_times` over-estimates by at most one, the power-of-two count is exact) -/
theorem drop_absL (r : Nat) (ip : List Nat) (hr : ∀ d ∈ ip, d < r)
    (hlead : ip.length = 1 ∨ r ^ (ip.length - 1) ≤ r ^ 2 * valI r ip) : ip.drop (absL ip) = stripZeros ip := by
  match ip, hr, hlead with
  | [], _, hlead => simp [FmtRadixPf.valI] at hlead
  | [d0], _, _ =>
    by_cases hd : d0 = 0
    · subst hd; rfl
    · rw [stripZeros_cons_ne d0 [] hd]; rfl
  | d0 :: d1 :: rest, hr, hlead =>
    by_cases hd0 : d0 = 0
    · subst hd0
      by_cases hd1 : d1 = 0
      · subst hd1
        have ha : absL (0 :: 0 :: rest) = 2 := by simp [absL]
        rw [ha, stripZeros_cons_zero, stripZeros_cons_zero]
        rcases hlead with h | h
        · simp at h
        · simp only [List.length_cons, Nat.add_sub_cancel, FmtRadixPf.valI_cons, Nat.zero_mul, Nat.zero_add] at h
          have hr0 : 0 < r := by have := hr 0 (by simp); omega
          cases rest with
          | nil => simp [FmtRadixPf.valI] at h; omega
          | cons d2 t =>
            have hd2 : d2 ≠ 0 := by
              intro h0; subst h0
              have := FmtRadixPf.valI_lt r t (fun d hd => hr d (by simp [hd]))
              rw [FmtRadixPf.valI_cons, Nat.zero_mul, Nat.zero_add, List.length_cons, Nat.pow_succ, Nat.pow_succ,
                Nat.mul_assoc, Nat.mul_comm (r ^ t.length), ← Nat.pow_two] at h
              have := Nat.le_of_mul_le_mul_left h (Nat.pow_pos hr0)
              omega
            rw [stripZeros_cons_ne d2 t hd2]; rfl
      · have ha : absL (0 :: d1 :: rest) = 1 := by simp [absL, hd1]
        rw [ha, stripZeros_cons_zero, stripZeros_cons_ne d1 rest hd1]; rfl
    · have ha : absL (d0 :: d1 :: rest) = 0 := by simp [absL, hd0]
      rw [ha, stripZeros_cons_ne d0 _ hd0]; rfl

/-- What `pad_and_print` receives from a digit generator: the encoded buffer holds a string that, from `abs_begin` on, is the
encoding of the digits `ip . fp`; these are canonical digits of the radix `R`, at most the precision many after the point. -/
structure Bytes (R : Nat) (up : Bool) (prec : Option Nat) (buf : Buffer) (ip fp : List Nat) : Prop where
  shows : ∃ ib, Shows buf ib (fp.map (encodeDigit up)) ∧ ib.drop (FmtPf.absBeginOf buf) = ip.map (encodeDigit up)
  canon : Canon ip
  range : ∀ d, d ∈ ip ++ fp → d < R
  r16 : R ≤ 16
  trimmed : fp.getLast? ≠ some 0
  shown : ∀ x, prec = some x → buf.fracDigits ≤ x

theorem Bytes.ascii {R : Nat} {up : Bool} {prec : Option Nat} {buf : Buffer} {ip fp : List Nat} (h : Bytes R up prec buf ip fp) :
    ∀ x ∈ ip.map (encodeDigit up) ++ fp.map (encodeDigit up), x < 128 := by
  rw [← List.map_append]
  exact FmtPf.enc_ascii up _ (fun d hd => by have := h.range d hd; have := h.r16; omega)

theorem Bytes.bodyOf_eq {R : Nat} {up : Bool} {prec : Option Nat} {buf : Buffer} {ip fp : List Nat}
    (h : Bytes R up prec buf ip fp) (p : Option Nat) :
    FmtPf.bodyOf buf p = (render up ip fp (!fp.isEmpty || decide (0 < p.getD 0 - fp.length)), p.getD 0 - fp.length) := by
  obtain ⟨ib, hS, hd⟩ := h.shows
  rw [hS.bodyOf_eq, hd]
  unfold render
  simp only [List.length_map, List.isEmpty_map]

theorem Bytes.padAndPrint {R : Nat} {up : Bool} {buf : Buffer} {ip fp : List Nat} {spec : FmtSpec}
    (h : Bytes R up spec.prec buf ip fp) (neg : Bool) (pfxR : List Nat)
    (hpfx : (if spec.alt then pfxR else []) = spec.prefix) (hpl : pfxR.length ≤ 2) (hp : FmtPf.PrecOk spec.prec) :
    buf.padAndPrint neg pfxR spec = .ok (FmtPf.assemble spec neg (FmtPf.bodyOf buf spec.prec)) false := by
  obtain ⟨ib, hS, hd⟩ := h.shows
  exact hS.padAndPrint (by rw [hd]; exact h.ascii) neg pfxR spec hpfx hpl (fun x hx => ⟨h.shown x hx, hp x hx⟩)

theorem _root_.Sfx.FmtPf.Finished.bytes {r : Nat} {buf : Buffer} {ip fp : List Nat} (h : Finished r buf ip fp) (hr : r ≤ 16)
    (up : Bool) (prec : Option Nat) (hprec : ∀ x, prec = some x → fp.length ≤ x) :
    ∃ buf', buf.encodeDigits up = .ok buf' false ∧ Bytes r up prec buf' (stripZeros ip) fp ∧
      ip.drop (absL ip) = stripZeros ip ∧ valI r (stripZeros ip ++ fp) = valI r (ip ++ fp) := by
  have hri : ∀ d ∈ ip, d < r := fun d hd => h.range d (List.mem_append_left _ hd)
  have hstrip := drop_absL r ip hri h.lead
  obtain ⟨buf', he, hf, hS⟩ := h.shows.encode up
  have hab := hS.absBeginOf_encoded (fun d hd => by have := hri d hd; omega)
  refine ⟨buf', he, ⟨⟨_, hS, by rw [hab, ← List.map_drop, hstrip]⟩, canon_strip ip, ?_, hr, h.trimmed,
    fun x hx => by rw [hf, ← h.shows.flen]; exact hprec x hx⟩, hstrip, by rw [← hstrip]; exact FmtPf.valI_drop_absL r ip fp⟩
  intro d hd
  rcases mem_strip_append ip fp d hd with h0 | h0
  · have hne : ip ≠ [] := by intro e; have := h.shows.ilen; rw [e] at this; simp at this; omega
    obtain ⟨x, l, rfl⟩ := List.exists_cons_of_ne_nil hne
    have := hri x (by simp); omega
  · exact h.range d h0

theorem radixBuf_glue (w abs fracN : Nat) (radix : Radix) (prec : Option Nat) :
    FmtPf.radixBuf w abs fracN radix prec
      = (FmtRadixPf.radixBuf w abs fracN radix prec >>= fun b => b.encodeDigits (radix == .upHex)) := by
  unfold FmtPf.radixBuf FmtRadixPf.radixBuf FmtPf.finishBuf
  simp only [bind_assoc]
  rfl

theorem decBuf_glue (w abs fracN : Nat) (prec : Option Nat) :
    FmtPf.decBuf w abs fracN prec = (FmtDecPf.decBuf w abs fracN prec >>= fun b => b.encodeDigits false) := by
  unfold FmtPf.decBuf FmtDecPf.decBuf FmtPf.finishBuf
  simp only [bind_assoc]
  rfl

theorem _root_.Sfx.FmtRadixPf.radix_bytes (w abs fracN : Nat) (radix : Radix) (prec : Option Nat)
    (hW : FmtPf.WidthOk w) (hf : fracN ≤ w) (ha : abs < 2 ^ w) (hrx : radix ≠ .dec) :
    ∃ ip fp buf, FmtRadixPf.radixDigits w abs fracN radix prec = .ok (ip, fp) false ∧
      FmtPf.radixBuf w abs fracN radix prec = .ok buf false ∧
      Bytes (2 ^ radix.digitBits) (radix == .upHex) prec buf ip fp ∧
      FmtRadixPf.ValueOk (2 ^ radix.digitBits) prec abs fracN (valI (2 ^ radix.digitBits) (ip ++ fp)) fp.length
        (prec.getD 0 - fp.length) ∧
      ∀ neg spec, spec.prec = prec → fmtRadix2 w neg abs fracN radix spec = buf.padAndPrint neg radix.prefix spec := by
  obtain ⟨buf, n, ip, fp, heq, hF, hd, hG⟩ := FmtRadixPf.radixDigits_core w abs fracN radix prec hW hf ha hrx
  obtain ⟨buf', henc, hB, hstrip, _⟩ := hF.bytes (FmtRadixPf.radix_pow radix).2.1 (radix == .upHex) prec
    (fun x hx => Nat.le_trans hG.len (hG.atPrec x hx).1)
  rw [hstrip] at hd hG
  refine ⟨_, fp, buf', hd, by rw [radixBuf_glue, heq, ok_false_bind]; exact henc, hB,
    hG.valueOk (FmtRadixPf.radix_pow radix).1, ?_⟩
  intro neg spec hp
  rw [FmtRadixPf.fmtRadix2_eq_radixBuf, hp, heq, ok_false_bind, henc, ok_false_bind]

theorem dec_bytes (w abs fracN : Nat) (prec : Option Nat) (hw : FmtPf.WidthOk w) (hf : fracN ≤ w) (ha : abs < 2 ^ w) :
    ∃ ip fp buf, FmtDecPf.decDigits w abs fracN prec = .ok (ip, fp) false ∧
      FmtPf.decBuf w abs fracN prec = .ok buf false ∧ Bytes 10 false prec buf (stripZeros ip) fp ∧
      FmtRadixPf.ValueOk 10 prec abs fracN (valI 10 (stripZeros ip ++ fp)) fp.length (prec.getD 0 - fp.length) ∧
      ∀ neg spec, spec.prec = prec → fmtDec w neg abs fracN spec = buf.padAndPrint neg [] spec := by
  obtain ⟨buf, s, ip, fp, heq, hF, hd, hG, hs⟩ := FmtDecPf.decDigits_spec w abs fracN prec hw hf ha
  obtain ⟨buf', henc, hB, _, hval⟩ := hF.bytes (by decide) false prec (fun x hx => Nat.le_trans hG.len (hG.atPrec x hx).1)
  refine ⟨ip, fp, buf', hd, by rw [decBuf_glue, heq, ok_false_bind]; exact henc, hB, ?_, ?_⟩
  · rw [hval]; exact hG.valueOk (by decide)
  · intro neg spec hp
    rw [FmtDecPf.fmtDec_eq, hp, heq, ok_false_bind, henc, ok_false_bind]

#print axioms FmtRadixPf.radix_bytes

end Sfx.FmtTopPf
