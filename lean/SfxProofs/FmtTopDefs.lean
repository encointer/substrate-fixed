import SfxProofs.FmtStruct
import SfxProofs.FmtRadix
import SfxProofs.FmtDec
/-
  FmtTopDefs.lean — vocabulary of the top-level C09 theorem (`FmtTop.lean`): the printed digit string as a FUNCTION of
  (kind, precision, value) only, its ASCII rendering, canonical form.
-/
namespace Sfx.FmtTopPf
open Sfx.Display
open Sfx.TextSpec (FmtSpec rneDiv)

/-- value of a digit list in radix `R`, most significant first (`FmtDecPf.valD = valI 10`) -/
abbrev valI := FmtRadixPf.valI

/-- a canonical integer part: not empty, and no leading zero unless it is the single digit `0` -/
def Canon (ip : List Nat) : Prop := ip ≠ [] ∧ (ip.head? ≠ some 0 ∨ ip = [0])

/-- without the leading zeros; `[0]` when nothing else is left -/
def stripZeros (ip : List Nat) : List Nat :=
  match ip.dropWhile (· == 0) with
  | [] => [0]
  | l => l

/-- the ASCII rendering `int[.frac]` of digit lists (`upper`: upper-case hex digits) -/
def render (upper : Bool) (ip fp : List Nat) (dot : Bool) : List Nat :=
  ip.map (encodeDigit upper) ++ (if dot then 46 :: fp.map (encodeDigit upper) else [])

theorem mem_render (u : Bool) (ip fp : List Nat) (dot : Bool) (hI : ∀ d, d ∈ ip → d < 16) (hF : ∀ d, d ∈ fp → d < 16)
    (b : Nat) (hb : b ∈ render u ip fp dot) :
    b = 46 ∨ (48 ≤ b ∧ b ≤ 57) ∨ (u = true ∧ 65 ≤ b ∧ b ≤ 70) ∨ (u = false ∧ 97 ≤ b ∧ b ≤ 102) := by
  unfold render at hb
  rw [List.mem_append] at hb
  rcases hb with hb | hb
  · right; exact FmtPf.enc_bytes u ip hI b hb
  · cases dot
    · simp at hb
    · simp only [if_true, List.mem_cons] at hb
      rcases hb with hb | hb
      · left; exact hb
      · right; exact FmtPf.enc_bytes u fp hF b hb

theorem render_ascii (u : Bool) (ip fp : List Nat) (dot : Bool) (hd : ∀ d, d ∈ ip ++ fp → d < 16) :
    ∀ x ∈ render u ip fp dot, x < 128 := by
  intro x hx
  have := mem_render u ip fp dot (fun d h => hd d (List.mem_append_left _ h)) (fun d h => hd d (List.mem_append_right _ h)) x hx
  omega

/-- the radix of a kind letter as a number (`FmtSpec.radix`, `radix_eq`; `FmtPf.radixOf` as a `Radix`, `radixNat_eq`) -/
def radixNat (kind : String) : Nat :=
  match kind with | "b" => 2 | "o" => 8 | "x" => 16 | "X" => 16 | _ => 10

theorem radix_eq (spec : FmtSpec) : spec.radix = radixNat spec.kind := rfl

theorem radixNat_eq (kind : String) :
    radixNat kind = if FmtPf.radixOf kind = .dec then 10 else 2 ^ (FmtPf.radixOf kind).digitBits := by
  unfold radixNat
  split
  · rfl
  · rfl
  · rfl
  · rfl
  · have h : FmtPf.radixOf kind = .dec := by
      unfold FmtPf.radixOf
      split <;> first | contradiction | rfl
    rw [if_pos h]

/-- raw digit lists (integer digits, fraction digits) of the finished digit buffer (before `encode_digits`), as defined by
the two value proofs; the decimal integer digits lose the reserved carry slot / over-estimated leading zero here -/
def rawDigits (kind : String) (prec : Option Nat) (abs nbits fracN : Nat) : List Nat × List Nat :=
  if FmtPf.radixOf kind = .dec then
    match FmtDecPf.decDigits nbits abs fracN prec with
    | .ok (ip, fp) _ => (stripZeros ip, fp)
    | .panic => ([], [])
  else
    match FmtRadixPf.radixDigits nbits abs fracN (FmtPf.radixOf kind) prec with
    | .ok (ip, fp) _ => (ip, fp)
    | .panic => ([], [])

/-- The printed digits: integer digits, fraction digits, number of `0`s appended to reach a requested precision.
A function of the kind letter, the precision and the value ONLY (no sign, width, fill, alignment, `+`, `#`, `0`). -/
def digitsOf (kind : String) (prec : Option Nat) (abs nbits fracN : Nat) : List Nat × List Nat × Nat :=
  let d := rawDigits kind prec abs nbits fracN
  (d.1, d.2, (prec.getD 0) - d.2.length)

/-- the printed body `int[.frac]` (ASCII) and the zeros appended, from `digitsOf` -/
def bodyOfDigits (kind : String) (d : List Nat × List Nat × Nat) : List Nat × Nat :=
  (render (kind == "X") d.1 d.2.1 (!d.2.1.isEmpty || decide (0 < d.2.2)), d.2.2)

end Sfx.FmtTopPf
