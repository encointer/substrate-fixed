import SfxProofs.FmtTop
import SfxProofs.TextSpecLemmas
/-
  FmtTopRoundTrip.lean — property C09, the round trip at specification level: the bytes printed by `{}` / `{:?}` (no
  precision, no width) are a well-formed `TextSpec.literal 10` (optional sign, digits, optional `.` digits) whose exact
  value, rounded ties-to-even to the grid `2^-fracN` (`TextSpec.parseExact`), gives back exactly the same bits.
-/
namespace Sfx.FmtTopPf
open Sfx.Display
open Sfx.TextSpec (FmtSpec rneDiv)
open Sfx.ParsePf (takeWhile_digits splitTail_digits)

theorem digitVal_enc (R : Nat) (u : Bool) (d : Nat) (hR : R ≤ 16) (h : d < R) :
    TextSpec.digitVal R (encodeDigit u d) = some d := by
  by_cases h10 : d < 10
  · rw [FmtPf.enc_lt10 u d h10]
    exact (ParsePf.digitVal_of_range.1 (by omega) (by omega) (by omega)).trans (by rw [Nat.add_sub_cancel])
  · rw [FmtPf.enc_ge10 u d (by omega) (by omega)]
    cases u <;> simp only [Bool.false_eq_true, if_false, if_true]
    · exact (ParsePf.digitVal_of_range.2.1 (by omega) (by omega) (by omega)).trans (by rw [Nat.add_sub_cancel])
    · exact (ParsePf.digitVal_of_range.2.2 (by omega) (by omega) (by omega)).trans (by rw [Nat.add_sub_cancel])

theorem foldlM_enc (R : Nat) (u : Bool) (hR : R ≤ 16) : ∀ (l : List Nat) (a : Nat), (∀ d, d ∈ l → d < R) →
    (l.map (encodeDigit u)).foldlM (fun acc b => (TextSpec.digitVal R b).map fun v => acc * R + v) a
      = some (l.foldl (fun a d => a * R + d) a) := by
  intro l
  induction l with
  | nil => intro a _; rfl
  | cons d l ih =>
    intro a h
    rw [List.map_cons, List.foldlM_cons, digitVal_enc R u d hR (h d (List.mem_cons_self ..))]
    simp only [Option.map_some, Option.bind_eq_bind, Option.bind_some, List.foldl_cons]
    exact ih _ (fun x hx => h x (List.mem_cons_of_mem _ hx))

theorem digitsVal_enc (R : Nat) (u : Bool) (hR : R ≤ 16) (l : List Nat) (h : ∀ d, d ∈ l → d < R) :
    TextSpec.digitsVal R (l.map (encodeDigit u)) = some (valI R l) :=
  foldlM_enc R u hR l 0 h

theorem literal_render (R : Nat) (u : Bool) (hR : R ≤ 16) (sign : List Nat) (neg : Bool) (ip fp : List Nat) (dot : Bool)
    (hs : (sign = [45] ∧ neg = true) ∨ ((sign = [43] ∨ sign = []) ∧ neg = false))
    (hd : ∀ d, d ∈ ip ++ fp → d < R) (hne : ip ≠ []) (hdot : dot = false → fp = []) :
    TextSpec.literal R (sign ++ render u ip fp dot) = some (neg, valI R (ip ++ fp), fp.length) := by
  have hIB := FmtPf.enc_bytes u ip (fun d h => by have := hd d (List.mem_append_left _ h); omega)
  have hFB := FmtPf.enc_bytes u fp (fun d h => by have := hd d (List.mem_append_right _ h); omega)
  have hneI : ip.map (encodeDigit u) ≠ [] := by simpa using hne
  have hcore : ∀ n, ParsePf.splitTail n (render u ip fp dot) = some (n, ip.map (encodeDigit u), fp.map (encodeDigit u)) := by
    intro n
    unfold render
    apply splitTail_digits n _ _ dot (fun b hb => by have := hIB b hb; omega) (fun b hb => by have := hFB b hb; omega) hneI
    intro h; rw [hdot h]; rfl
  have hsplit : TextSpec.split (sign ++ render u ip fp dot)
      = some (neg, ip.map (encodeDigit u), fp.map (encodeDigit u)) := by
    rcases hs with ⟨rfl, rfl⟩ | ⟨rfl | rfl, rfl⟩
    · exact (ParsePf.split_minus _).trans (hcore true)
    · exact (ParsePf.split_plus _).trans (hcore false)
    · rw [List.nil_append, ParsePf.split_other _ ?_]
      · exact hcore false
      · intro b hb
        cases hip : ip with
        | nil => exact absurd hip hne
        | cons d l =>
          rw [hip] at hb
          obtain rfl : encodeDigit u d = b := by simpa [render] using hb
          have := hIB (encodeDigit u d) (by rw [hip]; simp)
          omega
  unfold TextSpec.literal
  rw [hsplit]
  simp only [Option.bind_eq_bind, Option.bind_some]
  rw [digitsVal_enc R u hR ip (fun d h => hd d (List.mem_append_left _ h)),
    digitsVal_enc R u hR fp (fun d h => hd d (List.mem_append_right _ h))]
  simp only [Option.bind_some, List.length_map, Option.pure_def]
  rw [show valI R (ip ++ fp) = _ from FmtRadixPf.valI_append R ip fp]

/-- C09, round trip.  `Display` / `Debug` without precision and width — with or without the `+`, `#`,
`0` flags and any fill / alignment — print a well-formed decimal literal (`TextSpec.literal 10`) whose correctly rounded
value on the grid `2^-fracN` (ties to even, `TextSpec.parseExact`) is exactly the number printed: `-abs` when `neg`, `abs`
otherwise.  (`neg = true ∧ abs = 0` cannot arise from the driver; it prints `-0`, which parses to `0 = -0`.) -/
theorem default_output_parses_back_gen (spec : FmtSpec) (neg : Bool) (abs nbits fracN : Nat)
    (hn : FmtPf.WidthOk nbits) (hf : fracN ≤ nbits) (ha : abs < 2 ^ nbits)
    (hk : spec.kind = "d" ∨ spec.kind = "D") (hprec : spec.prec = none) (hwidth : spec.width = none) :
    ∃ out, Display.fmt spec neg abs nbits fracN = some (.ok out false) ∧
      TextSpec.parseExact 10 fracN out = some (if neg then -(abs : Int) else abs) := by
  have hkind : FmtPf.KindOk spec.kind := by
    rcases hk with h | h
    · exact Or.inl h
    · exact Or.inr (Or.inl h)
  have hpok : FmtPf.PrecOk spec.prec := by intro p hp'; rw [hprec] at hp'; cases hp'
  have hX : (spec.kind == "X") = false := by
    rcases hk with h | h
    · rw [h]; decide
    · rw [h]; decide
  have hR : spec.radix = 10 := by
    unfold FmtSpec.radix
    rcases hk with h | h
    · rw [h]; rfl
    · rw [h]; rfl
  have hpfx : spec.prefix = [] := by
    unfold FmtSpec.prefix
    rcases hk with h | h
    · simp only [h]
      cases spec.alt <;> rfl
    · simp only [h]
      cases spec.alt <;> rfl
  rcases hdo : digitsOf spec.kind spec.prec abs nbits fracN with ⟨ip, fp, ez⟩
  obtain ⟨h1, hcan, hrange, _, h3⟩ := fmt_correct spec neg abs nbits fracN hn hf ha hkind hpok ip fp ez hdo
  rw [hprec] at h3
  simp only at h3
  obtain ⟨hez, _, _, hten⟩ := h3
  obtain ⟨hrt, _, _⟩ := hten hR
  subst hez
  rw [hX, FmtPf.assemble_nowidth spec neg _ hwidth, hpfx] at h1
  simp only [Nat.lt_irrefl, decide_false, Bool.or_false, List.append_nil, List.replicate_zero] at h1
  refine ⟨_, h1, ?_⟩
  have hlit := literal_render 10 false (by decide) (FmtPf.signOf spec neg) neg ip fp (!fp.isEmpty)
    (by
      unfold FmtPf.signOf
      cases neg
      · right; simp only [Bool.false_eq_true, if_false]
        cases spec.plus <;> simp
      · left; simp)
    (fun d hd => by have := hrange d hd; rw [hR] at this; exact this)
    hcan.1
    (by intro h; cases fp with
      | nil => rfl
      | cons _ _ => simp at h)
  unfold TextSpec.parseExact
  rw [hlit]
  simp only [Option.map_some]
  rw [hrt]

/-- C09, round trip: the default output (`{}`) parses back (`TextSpec.parseExact`, the specification of `FromStr`)
to exactly the same value. -/
theorem default_output_parses_back (neg : Bool) (abs nbits fracN : Nat)
    (hn : FmtPf.WidthOk nbits) (hf : fracN ≤ nbits) (ha : abs < 2 ^ nbits) :
    ∃ out, Display.fmt { kind := "d" } neg abs nbits fracN = some (.ok out false) ∧
      TextSpec.parseExact 10 fracN out = some (if neg then -(abs : Int) else abs) :=
  default_output_parses_back_gen { kind := "d" } neg abs nbits fracN hn hf ha (Or.inl rfl) rfl rfl

theorem debug_output_parses_back (neg : Bool) (abs nbits fracN : Nat)
    (hn : FmtPf.WidthOk nbits) (hf : fracN ≤ nbits) (ha : abs < 2 ^ nbits) :
    ∃ out, Display.fmt { kind := "D" } neg abs nbits fracN = some (.ok out false) ∧
      TextSpec.parseExact 10 fracN out = some (if neg then -(abs : Int) else abs) :=
  default_output_parses_back_gen { kind := "D" } neg abs nbits fracN hn hf ha (Or.inr rfl) rfl rfl

/-- the driver's form: for the bits `x` of a layout the printed string parses back to `x` -/
theorem default_output_parses_back_int (x : Int) (nbits fracN : Nat)
    (hn : FmtPf.WidthOk nbits) (hf : fracN ≤ nbits) (ha : x.natAbs < 2 ^ nbits) :
    ∃ out, Display.fmt { kind := "d" } (decide (x < 0)) x.natAbs nbits fracN = some (.ok out false) ∧
      TextSpec.parseExact 10 fracN out = some x := by
  obtain ⟨out, h1, h2⟩ := default_output_parses_back (decide (x < 0)) x.natAbs nbits fracN hn hf ha
  refine ⟨out, h1, ?_⟩
  rw [h2]
  congr 1
  by_cases hx : x < 0
  · simp only [hx, decide_true, if_true]; omega
  · simp only [hx, decide_false, Bool.false_eq_true, if_false]; omega

#print axioms literal_render
#print axioms default_output_parses_back_gen
#print axioms default_output_parses_back
#print axioms debug_output_parses_back
#print axioms default_output_parses_back_int

end Sfx.FmtTopPf

