import SfxModel.ArithSpec
import SfxProofs.PrimLemmas
/-
  Forms.lean — every checked / saturating / wrapping / overflowing form of the arithmetic operations of
  `SfxModel/Arith.lean` (namespace `Sfx.Layout`) is the documented function (`Layout.chk`, `Layout.clamp`,
  `Layout.wrap`, `Layout.ovf`) of ONE exact result (`FourForms`; `Layout.ovf_forms`, `forms_of_ovf` for the operations built on an
  `overflowing_*` call, `forms_of_select` / `forms_of_side` for those that select branch-free through `ifCondElse`, whose reading as
  `if … then … else` is `ifCondElse_eq`).  At the end, what `L.valid` says about the width as the conversion proofs use it
  (`ConvPf.fits128`, `ConvPf.valid_fits128`).  Core Lean only.
-/
namespace Sfx

theorem ifCondElse_def (L : Layout) (x o : Int) (c : Bool) :
    L.ifCondElse x c o =
      orI L.signed L.n (andI L.signed L.n x (notI L.signed L.n (wrapI L.signed L.n ((if c then 1 else 0) - 1))))
        (andI L.signed L.n o (wrapI L.signed L.n ((if c then 1 else 0) - 1))) := rfl

theorem ifCondElse_eq (L : Layout) (hn : 0 < L.n) (x o : Int) (c : Bool) (hx : inRange L x) (ho : inRange L o) :
    L.ifCondElse x c o = if c then x else o := by
  unfold inRange at hx ho
  rw [ifCondElse_def]
  cases c
  · have h1 : ((if false = true then (1 : Int) else 0) - 1) = -1 := by simp
    rw [h1, notI_ones L.signed hn, andI_zero_right L.signed hn, andI_ones_right L.signed hn ho,
      orI_zero_left L.signed hn ho]
    simp
  · have h1 : ((if true = true then (1 : Int) else 0) - 1) = 0 := by simp
    rw [h1, wrapI_zero L.signed hn, notI_zero, andI_ones_right L.signed hn hx, andI_zero_right L.signed hn,
      orI_zero_right L.signed hn hx]
    simp

theorem select_min_max (L : Layout) (hn : 0 < L.n) (c : Bool) :
    L.ifCondElse L.min c L.max = if c then L.min else L.max :=
  ifCondElse_eq L hn _ _ c (inI_minI L.signed L.n) (inI_maxI L.signed L.n)

-- the four forms with overflow handling of one operation are the documented functions of its ONE exact result `E`
structure FourForms (L : Layout) (E : Int) (chk : Outcome (Option Int)) (sat wrp : Outcome Int)
    (ovf : Outcome (Int × Bool)) : Prop where
  checked     : chk = .ok (L.chk E) false
  saturating  : sat = .ok (L.clamp E) false
  wrapping    : wrp = .ok (L.wrap E) false
  overflowing : ovf = .ok (L.ovf E) false

theorem FourForms.of_inRange {L : Layout} {E : Int} {chk : Outcome (Option Int)} {sat wrp : Outcome Int}
    {ovf : Outcome (Int × Bool)} (h : FourForms L E chk sat wrp ovf) (hn : 0 < L.n) (hE : inRange L E) :
    chk = .ok (some E) false ∧ ovf = .ok (E, false) false := by
  rw [h.checked, h.overflowing, Layout.chk_of_in L hE, Layout.ovf_of_in L hn hE]
  exact ⟨rfl, rfl⟩

theorem plain_of_inRange {L : Layout} {E : Int} {P : Outcome Int} (hP : P = .ok (L.wrap E) (!decide (inRange L E)))
    (hn : 0 < L.n) (hE : inRange L E) : P = .ok E false := by
  rw [hP, L.wrap_of_in hn hE, decide_eq_true hE]
  rfl

/-- the common shape of the branch-free saturating forms -/
theorem sat_select (L : Layout) (hn : 0 < L.n) (E alt : Int) (halt : inRange L alt)
    (h : ¬ inRange L E → alt = L.clamp E) :
    L.ifCondElse (L.ovf E).1 (!(L.ovf E).2) alt = L.clamp E := by
  rw [ifCondElse_eq L hn _ _ _ (show inRange L (L.ovf E).1 from L.wrap_in hn E) halt]
  refine Eq.trans ?_ (clampI_of_ovfI hn E alt h)
  show _ = if (L.ovf E).2 = true then alt else (L.ovf E).1
  cases (L.ovf E).2 <;> rfl

theorem forms_of_select (L : Layout) (hn : 0 < L.n) (E alt : Int) (halt : inRange L alt)
    (h : ¬ inRange L E → alt = L.clamp E) :
    FourForms L E (.ok (L.chk E) false) (.ok (L.ifCondElse (L.ovf E).1 (!(L.ovf E).2) alt) false)
      (.ok (L.wrap E) false) (.ok (L.ovf E) false) :=
  ⟨rfl, by rw [sat_select L hn E alt halt h], rfl, rfl⟩

/-- what the saturating forms select on overflow: `min` or `max`, by a condition that tells on which side of the range
an out-of-range exact result lies -/
theorem side_sat_alt (s : Bool) (n : Nat) (c : Bool) (E : Int) (hneg : c = true → E ≤ maxI s n)
    (hpos : ¬ c = true → minI s n ≤ E) (hE : ¬ inI s n E) : (if c then minI s n else maxI s n) = clampI s n E := by
  by_cases hc : c = true
  · rw [if_pos hc, (clampI_of_side hE).1 (hneg hc)]
  · rw [if_neg hc, (clampI_of_side hE).2 (hpos hc)]

theorem forms_of_side (L : Layout) (hn : 0 < L.n) (E : Int) (c : Bool) (hneg : c = true → E ≤ L.max)
    (hpos : ¬ c = true → L.min ≤ E) :
    FourForms L E (.ok (L.chk E) false)
      (.ok (L.ifCondElse (L.ovf E).1 (!(L.ovf E).2) (L.ifCondElse L.min c L.max)) false)
      (.ok (L.wrap E) false) (.ok (L.ovf E) false) := by
  rw [select_min_max L hn]
  exact forms_of_select L hn E _ (by cases c; exact L.inRange_max; exact L.inRange_min)
    (side_sat_alt L.signed L.n c E hneg hpos)

theorem forms_of_max (L : Layout) (hn : 0 < L.n) (E : Int) (h : L.min ≤ E) :
    FourForms L E (.ok (L.chk E) false) (.ok (L.ifCondElse (L.ovf E).1 (!(L.ovf E).2) L.max) false)
      (.ok (L.wrap E) false) (.ok (L.ovf E) false) :=
  forms_of_select L hn E _ L.inRange_max (side_sat_alt L.signed L.n false E nofun fun _ => h)

theorem forms_of_min (L : Layout) (hn : 0 < L.n) (E : Int) (h : E ≤ L.max) :
    FourForms L E (.ok (L.chk E) false) (.ok (L.ifCondElse (L.ovf E).1 (!(L.ovf E).2) L.min) false)
      (.ok (L.wrap E) false) (.ok (L.ovf E) false) :=
  forms_of_select L hn E _ L.inRange_min (side_sat_alt L.signed L.n true E (fun _ => h) (fun h => absurd rfl h))

theorem add_forms (L : Layout) (hn : 0 < L.n) (a b : Int) (ha : inRange L a) (hb : inRange L b) :
    FourForms L (a + b) (L.checkedAdd a b) (L.saturatingAdd a b) (L.wrappingAdd a b) (L.overflowingAdd a b) := by
  obtain ⟨s, n, f⟩ := L
  have ha : minI s n ≤ a ∧ a ≤ maxI s n := ha
  have hb : minI s n ≤ b ∧ b ≤ maxI s n := hb
  cases s
  · exact forms_of_max _ hn _ (show (0 : Int) ≤ a + b from Int.add_nonneg ha.1 hb.1)
  · exact forms_of_side _ hn _ (decide (a < 0)) (fun h => show a + b ≤ maxI true n by simp at h; omega)
      (fun h => show minI true n ≤ a + b by simp at h; omega)

theorem sub_forms (L : Layout) (hn : 0 < L.n) (a b : Int) (ha : inRange L a) (hb : inRange L b) :
    FourForms L (a - b) (L.checkedSub a b) (L.saturatingSub a b) (L.wrappingSub a b) (L.overflowingSub a b) := by
  obtain ⟨s, n, f⟩ := L
  have ha : minI s n ≤ a ∧ a ≤ maxI s n := ha
  have hb : minI s n ≤ b ∧ b ≤ maxI s n := hb
  have h0 := minI_nonpos s n
  have h1 := maxI_nonneg s n
  cases s
  · exact forms_of_min _ hn _ (show a - b ≤ maxI false n by have : (0 : Int) ≤ b := hb.1; omega)
  · exact forms_of_side _ hn _ (decide (a < b)) (fun h => show a - b ≤ maxI true n by simp at h; omega)
      (fun h => show minI true n ≤ a - b by simp at h; omega)

theorem neg_clamp_unsigned (n : Nat) (a : Int) (ha : inI false n a) : clampI false n (-a) = 0 := by
  have h := unsigned_nonneg ha
  have hm : minI false n = 0 := rfl
  by_cases h0 : a = 0
  · subst h0; exact clampI_of_in (inI_zero false n)
  · rw [clampI_of_lt (by omega), hm]

theorem neg_forms (L : Layout) (hn : 0 < L.n) (a : Int) (ha : inRange L a) :
    FourForms L (-a) (L.checkedNeg a) (L.saturatingNeg a) (L.wrappingNeg a) (L.overflowingNeg a) := by
  obtain ⟨s, n, f⟩ := L
  cases s
  · exact ⟨rfl, congrArg (Outcome.ok · false) (neg_clamp_unsigned n a ha).symm, rfl, rfl⟩
  · have hm : minI true n = -(maxI true n) - 1 := by simp [minI, maxI]; omega
    exact forms_of_max _ hn _ (show minI true n ≤ -a by have : a ≤ maxI true n := ha.2; omega)

theorem abs_forms (L : Layout) (hn : 0 < L.n) (a : Int) :
    FourForms L (if a < 0 then -a else a) (L.checkedAbs a) (L.saturatingAbs a) (L.wrappingAbs a)
      (L.overflowingAbs a) :=
  forms_of_max L hn _ (Int.le_trans (minI_nonpos _ _) (by split <;> omega))

/-- the selection shared by `saturating_mul_int`, `saturating_mul`, `saturating_div`: an out-of-range exact result
whose sign follows the sign rule of the operands -/
theorem sign_sat_alt (s : Bool) (n : Nat) (c : Bool) (E : Int) (hneg : c = true → E ≤ 0) (hpos : ¬ c = true → 0 ≤ E)
    (hE : ¬ inI s n E) : (if c then minI s n else maxI s n) = clampI s n E :=
  side_sat_alt s n c E (fun h => Int.le_trans (hneg h) (maxI_nonneg s n))
    (fun h => Int.le_trans (minI_nonpos s n) (hpos h)) hE

theorem mulInt_forms (L : Layout) (hn : 0 < L.n) (a k : Int) (ha : inRange L a) (hk : inRange L k) :
    FourForms L (a * k) (L.checkedMulInt a k) (L.saturatingMulInt a k) (L.wrappingMulInt a k)
      (L.overflowingMulInt a k) := by
  obtain ⟨s, n, f⟩ := L
  cases s
  · exact forms_of_max _ hn _ (Int.mul_nonneg (unsigned_nonneg ha) (unsigned_nonneg hk))
  · exact forms_of_side _ hn _ _ (fun h => Int.le_trans (sign_xor_true h) (maxI_nonneg _ _))
      (fun h => Int.le_trans (minI_nonpos _ _) (sign_xor_false h))

/-! `div_int` has no saturating form in the API -/

theorem divInt_forms (L : Layout) (a k : Int) (hk : k ≠ 0) :
    L.checkedDivInt a k = .ok (L.chk (Int.tdiv a k)) false ∧
    L.wrappingDivInt a k = .ok (L.wrap (Int.tdiv a k)) false ∧
    L.overflowingDivInt a k = .ok (L.ovf (Int.tdiv a k)) false :=
  ⟨congrArg (Outcome.ok · false) (if_neg hk), if_neg hk, if_neg hk⟩

theorem divInt_zero (L : Layout) (a : Int) :
    L.checkedDivInt a 0 = .ok none false ∧ L.wrappingDivInt a 0 = .panic ∧ L.overflowingDivInt a 0 = .panic ∧
    L.divIntOp a 0 = .panic :=
  ⟨rfl, rfl, rfl, rfl⟩

theorem addOp_eq (L : Layout) (a b : Int) : L.addOp a b = .ok (L.wrap (a + b)) (!decide (inRange L (a + b))) := rfl
theorem subOp_eq (L : Layout) (a b : Int) : L.subOp a b = .ok (L.wrap (a - b)) (!decide (inRange L (a - b))) := rfl
theorem negOp_eq (L : Layout) (a : Int) : L.negOp a = .ok (L.wrap (-a)) (!decide (inRange L (-a))) := rfl
theorem mulIntOp_eq (L : Layout) (a k : Int) :
    L.mulIntOp a k = .ok (L.wrap (a * k)) (!decide (inRange L (a * k))) := rfl

theorem absOp_of_nonneg (L : Layout) (a : Int) (h : 0 ≤ a) : L.absOp a = .ok a false := by
  unfold Layout.absOp; rw [if_neg (by omega)]; rfl
theorem absOp_of_neg (L : Layout) (a : Int) (h : a < 0) :
    L.absOp a = .ok (L.wrap (-a)) (!decide (inRange L (-a))) := by
  unfold Layout.absOp; rw [if_pos h]; rfl
theorem absOp_eq (L : Layout) (hn : 0 < L.n) (a : Int) (ha : inRange L a) :
    L.absOp a = .ok (L.wrap (if a < 0 then -a else a)) (!decide (inRange L (if a < 0 then -a else a))) := by
  by_cases h : a < 0
  · rw [absOp_of_neg L a h, if_pos h]
  · rw [absOp_of_nonneg L a (by omega), if_neg h]
    exact (plain_of_inRange rfl hn ha).symm

theorem divIntOp_of_in (L : Layout) (a k : Int) (hk : k ≠ 0) (h : inRange L (Int.tdiv a k)) :
    L.divIntOp a k = .ok (Int.tdiv a k) false :=
  udiv_of_in hk h
theorem divIntOp_of_not_in (L : Layout) (a k : Int) (hk : k ≠ 0) (h : ¬ inRange L (Int.tdiv a k)) :
    L.divIntOp a k = .panic :=
  udiv_of_not_in hk h

/-! ### `mul` / `div` by a fixed-point number, parametrised on the shared helper `mulOverflow` / `divOverflow` -/

namespace Layout

/-- the checked, wrapping and plain forms built on an `overflowing_*` function `X` that returns `L.ovf E` -/
theorem ovf_forms (L : Layout) (hn : 0 < L.n) {E : Int} {X : Outcome (Int × Bool)} (hX : X = .ok (L.ovf E) false) :
    (do let (ans, o) ← X; pure (if o then none else some ans)) = .ok (L.chk E) false ∧
    (do let (ans, _) ← X; pure ans) = .ok (L.wrap E) false ∧
    (do let (ans, o) ← X; Outcome.dassert (!o); pure ans) = .ok (L.wrap E) (!decide (inRange L E)) := by
  subst hX
  refine ⟨?_, ?_, ?_⟩
  · rw [ok_false_bind]
    exact congrArg (Outcome.ok · false) (chkI_of_ovfI hn E)
  · rw [ok_false_bind]; rfl
  · rw [ok_false_bind]
    show Outcome.bind (Outcome.ok () (!(!(!decide (inRange L E))))) (fun _ => Outcome.ok (L.wrap E) false) = _
    simp [Outcome.bind]

end Layout

theorem forms_of_ovf (L : Layout) (hn : 0 < L.n) {E : Int} {X : Outcome (Int × Bool)}
    (hX : X = .ok (L.ovf E) false) (alt : Int) (hc : ¬ inRange L E → alt = L.clamp E) :
    FourForms L E
      (do let (ans, o) ← X; pure (if o then none else some ans))
      (do let (ans, o) ← X; pure (if o then alt else ans))
      (do let (ans, _) ← X; pure ans)
      X
    ∧ (do let (ans, o) ← X; Outcome.dassert (!o); pure ans) = .ok (L.wrap E) (!decide (inRange L E)) := by
  obtain ⟨h1, h2, h3⟩ := Layout.ovf_forms L hn hX
  refine ⟨⟨h1, ?_, h2, hX⟩, h3⟩
  subst hX
  rw [ok_false_bind]
  exact congrArg (Outcome.ok · false) (clampI_of_ovfI hn E alt hc)

theorem mulSpec_sign_true (f : Nat) {a b : Int} (h : (decide (a < 0) != decide (b < 0)) = true) :
    mulSpec f a b ≤ 0 := by
  have := Int.ediv_le_ediv (two_pow_pos f) (sign_xor_true h)
  rwa [Int.zero_ediv] at this

theorem mulSpec_sign_false (f : Nat) {a b : Int} (h : ¬ (decide (a < 0) != decide (b < 0)) = true) :
    0 ≤ mulSpec f a b :=
  Int.ediv_nonneg (sign_xor_false h) (Int.le_of_lt (two_pow_pos f))

theorem mul_forms (L : Layout) (hn : 0 < L.n) (a b : Int)
    (hmul : mulOverflow L.signed L.n L.f a b = .ok (ovfI L.signed L.n (mulSpec L.f a b)) false) :
    FourForms L (mulSpec L.f a b) (L.checkedMul a b) (L.saturatingMul a b) (L.wrappingMul a b) (L.overflowingMul a b)
    ∧ L.mulOp a b = .ok (L.wrap (mulSpec L.f a b)) (!decide (inRange L (mulSpec L.f a b))) :=
  forms_of_ovf L hn hmul _
    (sign_sat_alt L.signed L.n (decide (a < 0) != decide (b < 0)) _ (mulSpec_sign_true L.f) (mulSpec_sign_false L.f))

theorem divSpec_sign_true (f : Nat) {a b : Int} (h : (decide (a < 0) != decide (b < 0)) = true) :
    divSpec f a b ≤ 0 := by
  have hP := Int.le_of_lt (two_pow_pos f)
  unfold divSpec
  by_cases h1 : a < 0 <;> by_cases h2 : b < 0 <;> simp [h1, h2] at h
  · exact tdiv_nonpos_of_nonpos_of_nonneg (Int.mul_nonpos_of_nonpos_of_nonneg (by omega) hP) (by omega)
  · exact Int.tdiv_nonpos_of_nonneg_of_nonpos (Int.mul_nonneg (by omega) hP) (by omega)

theorem divSpec_sign_false (f : Nat) {a b : Int} (h : ¬ (decide (a < 0) != decide (b < 0)) = true) :
    0 ≤ divSpec f a b := by
  have hP := Int.le_of_lt (two_pow_pos f)
  unfold divSpec
  by_cases h1 : a < 0 <;> by_cases h2 : b < 0 <;> simp [h1, h2] at h
  · exact Int.tdiv_nonneg_of_nonpos_of_nonpos (Int.mul_nonpos_of_nonpos_of_nonneg (by omega) hP) (by omega)
  · exact Int.tdiv_nonneg (Int.mul_nonneg (by omega) hP) (by omega)

theorem div_forms (L : Layout) (hn : 0 < L.n) (a b : Int) (hb0 : b ≠ 0)
    (hdiv : divOverflow L.signed L.n L.f a b = .ok (ovfI L.signed L.n (divSpec L.f a b)) false) :
    FourForms L (divSpec L.f a b) (L.checkedDiv a b) (L.saturatingDiv a b) (L.wrappingDiv a b) (L.overflowingDiv a b)
    ∧ L.divOp a b = .ok (L.wrap (divSpec L.f a b)) (!decide (inRange L (divSpec L.f a b))) := by
  have h := forms_of_ovf L hn hdiv _
    (sign_sat_alt L.signed L.n (decide (a < 0) != decide (b < 0)) _ (divSpec_sign_true L.f) (divSpec_sign_false L.f))
  refine ⟨⟨?_, h.1.saturating, h.1.wrapping, h.1.overflowing⟩, h.2⟩
  unfold Layout.checkedDiv
  rw [if_neg hb0]
  exact h.1.checked

theorem div_zero_forms (L : Layout) (a : Int) (hdiv0 : divOverflow L.signed L.n L.f a 0 = .panic) :
    L.checkedDiv a 0 = .ok none false ∧ L.saturatingDiv a 0 = .panic ∧ L.wrappingDiv a 0 = .panic ∧
    L.overflowingDiv a 0 = .panic ∧ L.divOp a 0 = .panic := by
  refine ⟨rfl, ?_, ?_, hdiv0, ?_⟩
  · unfold Layout.saturatingDiv; rw [hdiv0]; rfl
  · unfold Layout.wrappingDiv; rw [hdiv0]; rfl
  · unfold Layout.divOp; rw [hdiv0]; rfl

theorem FourForms.spec {L : Layout} {E : Int} {chk : Outcome (Option Int)} {sat wrp : Outcome Int}
    {ovf : Outcome (Int × Bool)} (h : FourForms L E chk sat wrp ovf) :
    Form.spec L E .checked = some (oOpt chk) ∧ Form.spec L E .saturating = some (oInt sat) ∧
    Form.spec L E .wrapping = some (oInt wrp) ∧ Form.spec L E .overflowing = some (oPair ovf) := by
  rw [h.checked, h.saturating, h.wrapping, h.overflowing]
  exact ⟨rfl, rfl, rfl, rfl⟩

/-- a plain operator of the shape `.ok (wrap E) (!inRange E)` meets `Form.spec … .plain` whenever that constrains it -/
theorem plain_spec (L : Layout) (hn : 0 < L.n) (E : Int) (P : Outcome Int)
    (hP : P = .ok (L.wrap E) (!decide (inRange L E))) (v : Outcome Val) (hv : Form.spec L E .plain = some v) :
    oInt P = v := by
  subst hP
  unfold Form.spec at hv
  by_cases hE : inRange L E
  · rw [if_pos hE] at hv
    injection hv with hv
    subst hv
    rw [plain_of_inRange rfl hn hE]
    rfl
  · rw [if_neg hE] at hv; cases hv

theorem div_zero_spec (L : Layout) (a : Int) (hdiv0 : divOverflow L.signed L.n L.f a 0 = .panic) :
    Form.specDivZero .checked = some (oOpt (L.checkedDiv a 0)) ∧
    Form.specDivZero .saturating = some (oInt (L.saturatingDiv a 0)) ∧
    Form.specDivZero .wrapping = some (oInt (L.wrappingDiv a 0)) ∧
    Form.specDivZero .overflowing = some (oPair (L.overflowingDiv a 0)) ∧
    Form.specDivZero .plain = some (oInt (L.divOp a 0)) := by
  obtain ⟨h1, h2, h3, h4, h5⟩ := div_zero_forms L a hdiv0
  rw [h1, h2, h3, h4, h5]
  exact ⟨rfl, rfl, rfl, rfl, rfl⟩

theorem divInt_zero_spec (L : Layout) (a : Int) :
    Form.specDivZero .checked = some (oOpt (L.checkedDivInt a 0)) ∧
    Form.specDivZero .wrapping = some (oInt (L.wrappingDivInt a 0)) ∧
    Form.specDivZero .overflowing = some (oPair (L.overflowingDivInt a 0)) ∧
    Form.specDivZero .plain = some (oInt (L.divIntOp a 0)) :=
  ⟨rfl, rfl, rfl, rfl⟩

namespace ConvPf

/-- what the conversion proofs use of a layout: a width that the 128-bit helper holds and no more fractional bits than bits (every type
of the crate, but also the one bit of `bool` or a 24-bit integer) -/
def fits128 (L : Layout) : Prop := 0 < L.n ∧ L.n ≤ 128 ∧ L.f ≤ L.n

theorem valid_fits128 {L : Layout} (h : L.valid) : fits128 L := ⟨h.pos, h.le128, h.2⟩

end ConvPf

end Sfx

#print axioms Sfx.ifCondElse_eq
#print axioms Sfx.add_forms
#print axioms Sfx.sub_forms
#print axioms Sfx.neg_forms
#print axioms Sfx.abs_forms
#print axioms Sfx.mulInt_forms
#print axioms Sfx.divInt_forms
#print axioms Sfx.divInt_zero
#print axioms Sfx.addOp_eq
#print axioms Sfx.subOp_eq
#print axioms Sfx.negOp_eq
#print axioms Sfx.mulIntOp_eq
#print axioms Sfx.absOp_of_nonneg
#print axioms Sfx.absOp_of_neg
#print axioms Sfx.absOp_eq
#print axioms Sfx.divIntOp_of_in
#print axioms Sfx.divIntOp_of_not_in
#print axioms Sfx.mul_forms
#print axioms Sfx.div_forms
#print axioms Sfx.div_zero_forms
#print axioms Sfx.FourForms.spec
#print axioms Sfx.plain_spec
#print axioms Sfx.div_zero_spec
#print axioms Sfx.divInt_zero_spec
