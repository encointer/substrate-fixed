import SfxProofs.CmpFloatKind
/-
  FromFloat.lean — float → fixed conversions (`ToFixed for f32/f64`, `traits.rs:1580-1682`; `to_float_kind`,
  `float_helper.rs:138-203`; `private_{overflowing,saturating}_from_float_helper`, `helpers.rs:78-145`) proved against the exact
  specification `floatToGrid` (nearest grid value, ties to even) — core Lean only.

  `to_float_kind` answers with the helper's description of the rounded grid value (`toFloatKind_spec`); the destination side turns
  that description into the four overflow policies.  The general statements (`*_gen`) hold for every float format with
  `FloatFmt.ok`, every bit pattern (normal, subnormal, ±0) and every valid destination layout; `fromFloat_clauses` puts them in the
  shape of property C05.
-/
namespace Sfx.FromFloatPf
open Sfx.ConvPf Sfx.CmpPf Sfx.ToFloatPf

theorem toFloatKind_nan_gen (F : FloatFmt) (b df di : Nat) :
    floatExact F b = none → (F.parts b).2.2 ≠ 0 → toFloatKind F b df di = .nan := by
  intro h hm
  rw [toFloatKind_nonfinite F b df di h, if_neg hm]

theorem toFloatKind_inf_gen (F : FloatFmt) (b df di : Nat) :
    floatExact F b = none → (F.parts b).2.2 = 0 → toFloatKind F b df di = .infinite (F.parts b).1 := by
  intro h hm
  rw [toFloatKind_nonfinite F b df di h, if_pos hm]

theorem kind_of_grid (F : FloatFmt) (hF : FloatFmt.ok F) (D : Layout) (hD : D.valid) (b : Nat) (E : Int)
    (hfin : floatToGrid F b D.f = some E) :
    ∃ neg conv d, toFloatKind F b D.f D.intBits = .finite neg conv ∧ Sees D.signed D.n conv E d ∧
      (E < 0 → neg = true) ∧ (0 < E → neg = false) := by
  obtain ⟨num, e, hx, rfl⟩ := floatToGrid_some F b D.f E hfin
  obtain ⟨conv, hk, hc⟩ := toFloatKind_sees F hF D hD b num e hx
  refine ⟨_, conv, _, hk, hc, fun hE => decide_eq_true ?_, fun hE => decide_eq_false ?_⟩
  · have := rneScaled_nonneg num (e + D.f); omega
  · have := rneScaled_nonpos num (e + D.f); omega

theorem ovfKind_of_sees (D : Layout) (hn : 0 < D.n) (E d : Int) (neg : Bool) (conv : TFH) (h : Sees D.signed D.n conv E d) :
    D.overflowingFromFloatKind (.finite neg conv) = .ok (D.ovf E) false :=
  congrArg (Outcome.ok · false) (h.ovf hn)

theorem satKind_of_sees (D : Layout) (hn : 0 < D.n) (E d : Int) (neg : Bool) (conv : TFH) (h : Sees D.signed D.n conv E d)
    (hsign : (E < 0 → neg = true) ∧ (0 < E → neg = false)) :
    D.saturatingFromFloatKind (.finite neg conv) = .ok (D.clamp E) false := by
  have := h.sat hn neg hsign.1 hsign.2
  unfold Layout.saturatingFromFloatKind
  simp only [pure]
  rw [← show clampI D.signed D.n E = D.clamp E from rfl, ← this]
  unfold Layout.min Layout.max
  cases conv.overflow <;> cases D.signed <;> simp

theorem overflowingFromFloat_gen (F : FloatFmt) (hF : FloatFmt.ok F) (D : Layout) (hD : D.valid) (b : Nat) (E : Int)
    (hfin : floatToGrid F b D.f = some E) : D.overflowingFromFloat F b = .ok (D.ovf E) false := by
  obtain ⟨neg, conv, d, hk, g, -⟩ := kind_of_grid F hF D hD b E hfin
  unfold Layout.overflowingFromFloat
  rw [hk]
  exact ovfKind_of_sees D hD.pos E d neg conv g

theorem saturatingFromFloat_gen (F : FloatFmt) (hF : FloatFmt.ok F) (D : Layout) (hD : D.valid) (b : Nat) (E : Int)
    (hfin : floatToGrid F b D.f = some E) : D.saturatingFromFloat F b = .ok (D.clamp E) false := by
  obtain ⟨neg, conv, d, hk, g, hs⟩ := kind_of_grid F hF D hD b E hfin
  unfold Layout.saturatingFromFloat
  rw [hk]
  exact satKind_of_sees D hD.pos E d neg conv g hs

/-- the checked, wrapping and plain forms are built on the overflowing one -/
theorem derived_forms_gen (F : FloatFmt) (hF : FloatFmt.ok F) (D : Layout) (hD : D.valid) (b : Nat) (E : Int)
    (hfin : floatToGrid F b D.f = some E) :
    D.checkedFromFloat F b = .ok (D.chk E) false ∧ D.wrappingFromFloat F b = .ok (D.wrap E) false ∧
    D.fromFloat F b = .ok (D.wrap E) (!decide (inRange D E)) := by
  obtain ⟨h1, h2, h3⟩ := Layout.ovf_forms D hD.pos (overflowingFromFloat_gen F hF D hD b E hfin)
  refine ⟨?_, h2, h3⟩
  -- `checked_to_fixed` (`traits.rs:1613-1624`, model `checkedFromFloat`) matches on the kind before it calls the overflowing helper
  obtain ⟨neg, conv, d, hk, -, -⟩ := kind_of_grid F hF D hD b E hfin
  unfold Layout.overflowingFromFloat at h1
  unfold Layout.checkedFromFloat
  rw [hk] at h1 ⊢
  exact h1

theorem checkedFromFloat_gen (F : FloatFmt) (hF : FloatFmt.ok F) (D : Layout) (hD : D.valid) (b : Nat) (E : Int)
    (hfin : floatToGrid F b D.f = some E) : D.checkedFromFloat F b = .ok (D.chk E) false :=
  (derived_forms_gen F hF D hD b E hfin).1

theorem wrappingFromFloat_gen (F : FloatFmt) (hF : FloatFmt.ok F) (D : Layout) (hD : D.valid) (b : Nat) (E : Int)
    (hfin : floatToGrid F b D.f = some E) : D.wrappingFromFloat F b = .ok (D.wrap E) false :=
  (derived_forms_gen F hF D hD b E hfin).2.1

theorem fromFloat_gen (F : FloatFmt) (hF : FloatFmt.ok F) (D : Layout) (hD : D.valid) (b : Nat) (E : Int)
    (hfin : floatToGrid F b D.f = some E) : D.fromFloat F b = .ok (D.wrap E) (!decide (inRange D E)) :=
  (derived_forms_gen F hF D hD b E hfin).2.2

theorem nonfinite_gen (F : FloatFmt) (D : Layout) (b : Nat) (hnf : floatExact F b = none) :
    D.checkedFromFloat F b = .ok none false ∧ D.overflowingFromFloat F b = .panic ∧ D.wrappingFromFloat F b = .panic ∧
    D.fromFloat F b = .panic ∧
    ((F.parts b).2.2 ≠ 0 → D.saturatingFromFloat F b = .panic) ∧
    ((F.parts b).2.2 = 0 → D.saturatingFromFloat F b = .ok (if (F.parts b).1 then D.min else D.max) false) := by
  have hk := toFloatKind_nonfinite F b D.f D.intBits hnf
  unfold Layout.checkedFromFloat Layout.wrappingFromFloat Layout.fromFloat Layout.overflowingFromFloat Layout.saturatingFromFloat
  rw [hk]
  by_cases hm : (F.parts b).2.2 = 0
  · rw [if_pos hm]
    refine ⟨rfl, rfl, rfl, rfl, fun h => absurd hm h, fun _ => rfl⟩
  · rw [if_neg hm]
    refine ⟨rfl, rfl, rfl, rfl, fun _ => rfl, fun h => absurd h hm⟩

/-- the float → fixed clauses of property C05 (finite input: one rounded result `E` under the four policies and the plain form; non-finite
input: rejected as documented), for any format with `FloatFmt.ok`; the patterns need not be below `2^nbits` -/
theorem fromFloat_clauses (F : FloatFmt) (hC : FloatFmt.ok F) (L : Layout) (hL : L.valid) :
    (∀ b : Nat, b < 2 ^ F.nbits → ∀ E : Int, floatToGrid F b L.f = some E →
      L.overflowingFromFloat F b = .ok (L.ovf E) false ∧ L.checkedFromFloat F b = .ok (L.chk E) false ∧
      L.saturatingFromFloat F b = .ok (L.clamp E) false ∧ L.wrappingFromFloat F b = .ok (L.wrap E) false ∧
      L.fromFloat F b = .ok (L.wrap E) (!decide (inRange L E))) ∧
    (∀ b : Nat, b < 2 ^ F.nbits → floatExact F b = none →
      L.checkedFromFloat F b = .ok none false ∧ L.overflowingFromFloat F b = .panic ∧ L.wrappingFromFloat F b = .panic ∧
      L.fromFloat F b = .panic ∧
      ((F.parts b).2.2 ≠ 0 → L.saturatingFromFloat F b = .panic) ∧
      ((F.parts b).2.2 = 0 → L.saturatingFromFloat F b = .ok (if (F.parts b).1 then L.min else L.max) false)) :=
  ⟨fun b _ E hE => ⟨overflowingFromFloat_gen F hC L hL b E hE, checkedFromFloat_gen F hC L hL b E hE,
      saturatingFromFloat_gen F hC L hL b E hE, wrappingFromFloat_gen F hC L hL b E hE, fromFloat_gen F hC L hL b E hE⟩,
    fun b _ hnf => nonfinite_gen F L b hnf⟩

section c05
-- the hypotheses of property C05, none of which these two proofs use
set_option linter.unusedSectionVars false
variable (F : FloatFmt) (hF : F = f32 ∨ F = f64) (D : Layout) (hD : D.valid) (b : Nat) (hb : b < 2 ^ F.nbits) (E : Int)
include hF hD hb

theorem toFloatKind_nan : floatExact F b = none → (F.parts b).2.2 ≠ 0 → toFloatKind F b D.f D.intBits = .nan :=
  toFloatKind_nan_gen F b D.f D.intBits

theorem toFloatKind_inf :
    floatExact F b = none → (F.parts b).2.2 = 0 → toFloatKind F b D.f D.intBits = .infinite (F.parts b).1 :=
  toFloatKind_inf_gen F b D.f D.intBits

end c05

end Sfx.FromFloatPf

open Sfx.FromFloatPf in
#print axioms toFloatKind_nan
open Sfx.FromFloatPf in
#print axioms toFloatKind_inf
