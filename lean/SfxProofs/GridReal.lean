import Mathlib.Data.Real.Basic
import Mathlib.Tactic.Linarith
import Mathlib.Tactic.FieldSimp
import SfxProofs.LogAccDefs
/-
  GridReal.lean — bit patterns read on the real line, shared by the real analyses of log, exp, pow, sin/cos/tan and sqrt: the cast of `pow2`, the bracket of a
  floor quotient (`/` on `Int`) in products and on values, the passage from units in the last place to values, and the value under the
  widening conversion.
-/
namespace Sfx.GridReal
open Sfx.LogAccPf

theorem pow2_cast : ∀ k : Nat, ((pow2 k : Int) : ℝ) = 2 ^ k
  | 0 => by simp [pow2]
  | k + 1 => by rw [pow_succ', ← pow2_cast k]; simp [pow2]

theorem ediv_bounds (a S : Int) (hS : 0 < S) :
    ((a / S : Int) : ℝ) * S ≤ a ∧ (a : ℝ) < (((a / S : Int) : ℝ) + 1) * S := by
  have h1 : a / S * S ≤ a := Int.ediv_mul_le _ (Int.ne_of_gt hS)
  have h2 : a < (a / S + 1) * S := Int.lt_ediv_add_one_mul_self _ hS
  exact ⟨by exact_mod_cast h1, by exact_mod_cast h2⟩

theorem floor_val {G : ℝ} (hG : 0 < G) (a S : Int) (hS : 0 < S) :
    (a : ℝ) / S / G - 1 / G < ((a / S : Int) : ℝ) / G ∧ ((a / S : Int) : ℝ) / G ≤ (a : ℝ) / S / G := by
  obtain ⟨h1, h2⟩ := ediv_bounds a S hS
  have hS' : (0 : ℝ) < S := Int.cast_pos.2 hS
  rw [← sub_div, div_lt_div_iff_of_pos_right hG, div_le_div_iff_of_pos_right hG, sub_lt_iff_lt_add, div_lt_iff₀ hS',
    le_div_iff₀ hS']
  exact ⟨h2, h1⟩

theorem abs_val_le_iff {G v t c : ℝ} (hG : 0 < G) : |v / G - t| ≤ c / G ↔ |v - G * t| ≤ c := by
  rw [show v / G - t = (v - G * t) / G by field_simp, abs_div, abs_of_pos hG, div_le_div_iff_of_pos_right hG]

theorem abs_val_le {G r L c : ℝ} (hG : 0 < G) (h1 : G * L - c ≤ r) (h2 : r ≤ G * L + c) : |r / G - L| ≤ c / G :=
  (abs_val_le_iff hG).2 (abs_le.2 ⟨by linarith only [h1], by linarith only [h2]⟩)

/-- the lossless widening `x ↦ x · 2^(d - s)` of `convert.rs` leaves the value alone -/
theorem cast_widen (s d : Nat) (hf : s ≤ d) (x : Int) : ((x * 2 ^ (d - s) : Int) : ℝ) / 2 ^ d = (x : ℝ) / 2 ^ s := by
  push_cast
  rw [← pow_mul_pow_sub (2 : ℝ) hf]
  have h1 : (0 : ℝ) < 2 ^ s := by positivity
  have h2 : (0 : ℝ) < 2 ^ (d - s) := by positivity
  field_simp

theorem natAbs_le_val {f a b : ℕ} {x : Int} (h : a * x.natAbs ≤ b * 2 ^ f) : (a : ℝ) * |(x : ℝ) / 2 ^ f| ≤ b := by
  have hG : (0 : ℝ) < 2 ^ f := by positivity
  have h1 : ((a * x.natAbs : ℕ) : ℝ) ≤ ((b * 2 ^ f : ℕ) : ℝ) := Nat.cast_le.2 h
  push_cast at h1
  rw [Nat.cast_natAbs, Int.cast_abs] at h1
  rwa [abs_div, abs_of_pos hG, mul_div_assoc', div_le_iff₀ hG]

theorem abs_val (f : ℕ) (x : Int) : |(x : ℝ) / 2 ^ f| = ((|x| : Int) : ℝ) / 2 ^ f := by
  rw [abs_div, abs_of_pos (by positivity : (0 : ℝ) < 2 ^ f), Int.cast_abs]

end Sfx.GridReal
