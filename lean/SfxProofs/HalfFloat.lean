import SfxProofs.ToFloat
import SfxProofs.FromFloat
import SfxProofs.CmpFloat
/-
  HalfFloat.lean — the float lemmas instantiated for the crate's `f16` feature: `half::f16` (`⟨16, 11⟩`) and `half::bf16` (`⟨16, 8⟩`).
  Everything goes through the format-generic statements (`*_gen` under `FloatFmt.ok` or `FloatFmt.okTo`); only the one fact about the two
  concrete formats (`okTo_of`) is proved here.  (core Lean only)
-/
namespace Sfx.HalfPf
open Sfx.ToFloatPf Sfx.CmpPf

theorem okTo_of (F : FloatFmt) (hF : F = f16 ∨ F = bf16) : F.okTo := by
  rcases hF with rfl | rfl <;> (unfold FloatFmt.okTo; decide)

theorem ok_of (F : FloatFmt) (hF : F = f16 ∨ F = bf16) : FloatFmt.ok F := (okTo_of F hF).ok

theorem toFloat_nearest (F : FloatFmt) (hF : F = f16 ∨ F = bf16) (S : Layout) (hS : S.valid) (x : Int) (hx : inRange S x)
    (vr : Int × Int) (hr : floatVal F (S.toFloat F x) = some vr)
    (b : Nat) (vb : Int × Int) (hb : floatVal F b = some vb) :
    scaledErr F S.f x vr ≤ scaledErr F S.f x vb :=
  (toFloat_nearest_gen F (okTo_of F hF) S hS x hx vr hr b vb hb).1

theorem toFloat_ties_even (F : FloatFmt) (hF : F = f16 ∨ F = bf16) (S : Layout) (hS : S.valid) (x : Int) (hx : inRange S x)
    (vr : Int × Int) (hr : floatVal F (S.toFloat F x) = some vr)
    (b : Nat) (vb : Int × Int) (hb : floatVal F b = some vb)
    (hne : scaledVal F S.f vb ≠ scaledVal F S.f vr)
    (htie : scaledErr F S.f x vr = scaledErr F S.f x vb) :
    S.toFloat F x % 2 = 0 :=
  (toFloat_nearest_gen F (okTo_of F hF) S hS x hx vr hr b vb hb).2 hne htie

end Sfx.HalfPf

#print axioms Sfx.HalfPf.toFloat_nearest
#print axioms Sfx.HalfPf.toFloat_ties_even

