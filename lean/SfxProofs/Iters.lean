import SfxModel.Transcendental
/-
  Iters.lean — property C17 ("bounded work"): the loop-iteration counter of every transcendental call is bounded by a small
  multiple of the destination width, for all layouts and all operands.
-/
namespace Sfx.ItersPf
open Sfx.Trans

-- the loop iterations a run recorded; a panic counts `0`, so a bound on `itersOf` says nothing about (and allows) a panic
def itersOf {α} : Outcome (Option α × Nat) → Nat | .ok (_, it) _ => it | .panic => 0

/-- started with counter `n`, the computation finishes (if it does not panic) with counter at most `n + k` -/
def TicksLE {α : Type} (m : TR α) (k : Nat) : Prop :=
  ∀ n, match m n with | .ok (_, it) _ => it ≤ n + k | .panic => True

section
variable {α β : Type} {k : Nat}

theorem TicksLE.pure (v : α) : TicksLE (pure v : TR α) k :=
  fun n => Nat.le_add_right n k

theorem TicksLE.err : TicksLE (err : TR α) k :=
  fun n => Nat.le_add_right n k

theorem TicksLE.panic : TicksLE (fun _ => Outcome.panic : TR α) k :=
  fun _ => trivial

theorem TicksLE.liftO (o : Outcome α) : TicksLE (liftO o) k := by
  intro n
  cases o with
  | panic => trivial
  | ok v d => exact Nat.le_add_right n k

theorem TicksLE.liftOpt (o : Outcome (Option α)) : TicksLE (liftOpt o) k := by
  intro n
  cases o with
  | panic => trivial
  | ok v d => exact Nat.le_add_right n k

theorem TicksLE.ite {c : Prop} [Decidable c] {a b : TR α}
    (ha : TicksLE a k) (hb : TicksLE b k) : TicksLE (if c then a else b) k := by
  split <;> assumption

theorem TicksLE.bind {m : TR α} {f : α → TR β} {k1 k2 : Nat}
    (hm : TicksLE m k1) (hf : ∀ v, TicksLE (f v) k2) : TicksLE (m >>= f) (k1 + k2) := by
  intro n
  have h1 := hm n
  show match TR.bind m f n with | .ok (_, it) _ => it ≤ n + (k1 + k2) | .panic => True
  unfold TR.bind
  cases hmn : m n with
  | panic => trivial
  | ok r d =>
    obtain ⟨o, it⟩ := r
    rw [hmn] at h1
    simp only at h1
    cases o with
    | none => simp only [Outcome.bind]; omega
    | some v =>
      have h2 := hf v it
      simp only [Outcome.bind]
      cases hfv : f v it with
      | panic => trivial
      | ok r2 d2 =>
        obtain ⟨o2, it2⟩ := r2
        rw [hfv] at h2
        simp only at h2 ⊢
        omega

theorem TicksLE.bind0 {m : TR α} {f : α → TR β}
    (hm : TicksLE m 0) (hf : ∀ v, TicksLE (f v) k) : TicksLE (m >>= f) k :=
  k.zero_add ▸ hm.bind hf

theorem TicksLE.liftO_bind {o : Outcome α} {f : α → TR β}
    (hf : ∀ v, TicksLE (f v) k) : TicksLE (Trans.liftO o >>= f) k :=
  (TicksLE.liftO o).bind0 hf

theorem TicksLE.liftOpt_bind {o : Outcome (Option α)} {f : α → TR β}
    (hf : ∀ v, TicksLE (f v) k) : TicksLE (Trans.liftOpt o >>= f) k :=
  (TicksLE.liftOpt o).bind0 hf

theorem TicksLE.tick_bind {f : Unit → TR β}
    (hf : ∀ v, TicksLE (f v) k) : TicksLE (Trans.tick >>= f) (k + 1) :=
  k.add_comm 1 ▸ TicksLE.bind (fun n => Nat.le_refl (n + 1)) hf

theorem TicksLE.bindR {m : TR α} {f : α → TR β}
    (hm : TicksLE m k) (hf : ∀ v, TicksLE (f v) 0) : TicksLE (m >>= f) k :=
  hm.bind hf

end

theorem itersOf_run_le {α : Type} {m : TR α} {k : Nat} (h : TicksLE m k) : itersOf (run m) ≤ k := by
  have h0 := h 0
  unfold run
  cases hm : m 0 with
  | panic => exact Nat.zero_le _
  | ok r d => obtain ⟨o, it⟩ := r; rw [hm] at h0; simp only [itersOf] at h0 ⊢; omega

/-! ### loops: each proof follows the `do` block of its definition, one lemma per line of it -/

theorem sqrtLoop_ticks (D : Layout) (x : Int) : ∀ (k : Nat) (l : Int), TicksLE (sqrtLoop D x k l) k
  | 0, _ => .pure _
  | k + 1, _ => .tick_bind fun _ => .liftO_bind fun _ => .liftO_bind fun _ => .liftO_bind fun _ => .liftO_bind fun _ =>
      sqrtLoop_ticks D x k _

theorem log2Halve_ticks (D : Layout) : ∀ (fuel : Nat) (x r : Int), TicksLE (log2Halve D fuel x r) fuel
  | 0, _, _ => .pure _
  | k + 1, _, _ => .ite (.tick_bind fun _ => .liftO_bind fun _ => .liftO_bind fun _ => log2Halve_ticks D k _ _) (.pure _)

theorem log2Frac_ticks (D : Layout) : ∀ (k : Nat) (x r : Int), TicksLE (log2Frac D k x r) k
  | 0, _, _ => .pure _
  | k + 1, _, _ => .tick_bind fun _ => .liftO_bind fun _ => .liftO_bind fun _ =>
      .ite (.liftO_bind fun _ => log2Frac_ticks D k _ _) (log2Frac_ticks D k _ _)

theorem expLoop_ticks (D : Layout) (x : Int) : ∀ (k i : Nat) (t r : Int), TicksLE (expLoop D x k i t r) k
  | 0, _, _, _ => .pure _
  | k + 1, _, _, _ => .tick_bind fun _ => .liftOpt_bind fun _ => .liftO_bind fun _ => .liftOpt_bind fun _ =>
      .liftOpt_bind fun _ => expLoop_ticks D x k _ _ _

theorem powiLoop_ticks (D : Layout) (x : Int) : ∀ (k : Nat) (r : Int), TicksLE (powiLoop D x k r) k
  | 0, _ => .pure _
  | k + 1, _ => .tick_bind fun _ => .liftOpt_bind fun _ => powiLoop_ticks D x k _

theorem cordicLoop_ticks (D : Layout) : ∀ (k i : Nat) (x y z : Int), TicksLE (cordicLoop D k i x y z) k
  | 0, _, _, _, _ => .pure _
  | k + 1, _, _, _, _ => .liftO_bind fun _ => .tick_bind fun _ => .ite
      (.liftO_bind fun _ => .liftO_bind fun _ => .liftO_bind fun _ => cordicLoop_ticks D k _ _ _ _)
      (.liftO_bind fun _ => .liftO_bind fun _ => .liftO_bind fun _ => cordicLoop_ticks D k _ _ _ _)

theorem reduceDown_ticks (D : Layout) : ∀ (fuel : Nat) (a : Int), TicksLE (reduceDown D fuel a) fuel
  | 0, _ => .pure _
  | k + 1, _ => .ite (.tick_bind fun _ => .liftO_bind fun _ => .liftO_bind fun _ => reduceDown_ticks D k _) (.pure _)

theorem reduceUp_ticks (D : Layout) : ∀ (fuel : Nat) (a : Int), TicksLE (reduceUp D fuel a) fuel
  | 0, _ => .pure _
  | k + 1, _ => .ite (.tick_bind fun _ => .liftO_bind fun _ => .liftO_bind fun _ => reduceUp_ticks D k _) (.pure _)

theorem sqrt_ticks (S D : Layout) (x : Int) : TicksLE (sqrt S D x) (max D.f (D.intBits / 2 + 10)) :=
  .ite .err <| .liftO_bind fun _ => .ite (.pure _) <|
    .bind0 (.ite (.liftO_bind fun _ => .liftOpt_bind fun _ => .pure _) (.pure _)) fun _ =>
    .liftO_bind fun _ => .liftO_bind fun _ => .liftO_bind fun _ => .liftO_bind fun _ =>
    .bindR (sqrtLoop_ticks _ _ _ _) fun _ => .ite (.liftO_bind fun _ => .liftOpt _) (.pure _)

theorem log2Inner_ticks (D : Layout) (x : Int) : TicksLE (log2Inner D x) ((D.n + 1) + D.f) :=
  .liftO_bind fun _ => .liftO_bind fun _ => .bind (log2Halve_ticks _ _ _ _) fun _ =>
    .ite .panic <| .ite (.liftO _) (log2Frac_ticks _ _ _ _)

theorem log2_fuel_ticks (S D : Layout) (x : Int) : TicksLE (log2 S D x) ((D.n + 1) + D.f) :=
  .ite .err <| .liftO_bind fun _ => .liftO_bind fun _ => .ite
    (.liftO_bind fun _ => .liftOpt_bind fun _ => .bindR (log2Inner_ticks _ _) fun _ => .liftO _)
    (log2Inner_ticks _ _)

theorem ln_ticks (S D : Layout) (x : Int) : TicksLE (ln S D x) ((D.n + 1) + D.f) :=
  .bindR (log2_fuel_ticks _ _ _) fun _ => .liftO_bind fun _ => .liftO _

theorem exp_ticks (S D : Layout) (x : Int) : TicksLE (exp S D x) (D.f - 2) :=
  .ite (.liftO _) <| .ite (.liftO _) <| .bind0 (.ite (.liftOpt _) (.pure _)) fun _ =>
    .liftO_bind fun _ => .liftO_bind fun _ => .liftOpt_bind fun _ =>
    .bindR (expLoop_ticks _ _ _ _ _ _) fun _ => .ite (.liftO_bind fun _ => .liftOpt _) (.pure _)

theorem pow_ticks (S D : Layout) (x y : Int) : TicksLE (pow S D x y) ((D.n + 1) + D.f + (D.f - 2)) :=
  .liftO_bind fun _ => .ite (.liftO _) <| .liftO_bind fun _ => .ite (.liftO _) <| .liftO_bind fun _ => .ite (.liftO _) <|
    .bind (ln_ticks _ _ _) fun _ => .liftO_bind fun _ => .liftOpt_bind fun _ =>
    .bindR (exp_ticks _ _ _) fun _ => .ite .err (.pure _)

theorem powi_ticks (S D : Layout) (x n : Int) : TicksLE (powi S D x n) (n.natAbs - 1) :=
  .liftO_bind fun _ => .ite (.liftO _) <| .ite (.liftO _) <| .ite (.liftO _) <| .liftO_bind fun _ =>
    .bindR (powiLoop_ticks _ _ _ _) fun _ => .ite (.liftO_bind fun _ => .liftOpt _) (.pure _)

theorem sin_ticks (D : Layout) (a : Int) : TicksLE (sin D a) (2 + (2 + Generated.cordicSteps)) :=
  .liftO_bind fun _ => .liftO_bind fun _ => .bind (reduceDown_ticks _ _ _) fun _ => .bind (reduceUp_ticks _ _ _) fun _ =>
    .ite .panic <|
    .bind0 (.ite (.liftO_bind fun _ => .liftO_bind fun _ => .liftO_bind fun _ => .liftO _) (.pure _)) fun _ =>
    .bind0 (.ite (.liftO_bind fun _ => .liftO_bind fun _ => .liftO_bind fun _ => .liftO_bind fun _ => .liftO _) (.pure _)) fun _ =>
    .liftO_bind fun _ => .liftO_bind fun _ => .bindR (cordicLoop_ticks _ _ _ _ _ _) fun _ => .pure _

theorem cos_ticks (D : Layout) (a : Int) : TicksLE (cos D a) (2 + (2 + Generated.cordicSteps)) :=
  .liftO_bind fun _ => .liftO_bind fun _ => sin_ticks _ _

theorem tan_ticks (D : Layout) (a : Int) :
    TicksLE (tan D a) (2 + (2 + Generated.cordicSteps) + (2 + (2 + Generated.cordicSteps))) :=
  .liftO_bind fun _ => .liftO_bind fun _ => .bind (sin_ticks _ _) fun _ => .liftO_bind fun _ =>
    .bindR (cos_ticks _ _) fun _ => .liftO_bind fun _ => .liftO _

/-- extra: `powi` runs `|n| - 1` multiplications (not bounded by the width: the exponent is an operand) -/
theorem powi_iters  (S D : Layout) (x n : Int) : itersOf (Trans.run (Trans.powi S D x n)) ≤ n.natAbs - 1 :=
  itersOf_run_le (powi_ticks S D x n)

theorem cordicSteps_eq : Generated.cordicSteps = 24 := rfl

end Sfx.ItersPf

#print axioms Sfx.ItersPf.powi_iters
