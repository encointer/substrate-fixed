import SfxProofs.Exp
import SfxProofs.LogArith
/-
  Log.lean — properties C12 / C14 for `transcendental::log2` and `transcendental::ln` (models `Trans.log2`, `Trans.ln`):
  totality (no panic, no debug-only check, the fuel of the halving loop is never exhausted), `Err` only for operands `≤ 0`
  and for operands in `(0, 1)` whose reciprocal is not representable, the sign of the result and exactness on powers of two;
  every `Ok` result is one of the integer traces `Log2Spec` / `LnSpec`, the input of the real analysis.
  `log2_ret` and `ln_ret` (`Ret`) say all of this at once for `S = D`; the rest are their readings, and a source type
  `S ≠ D` reduces to `S = D` on the widened operand (`log2_widen_fun`, `ln_widen_fun`).
  `Monoid.toNPow` is erased locally so that `(2 : Int) ^ k` in the statements is core's `Int.pow`, as in the Mathlib-free files.
-/
attribute [-instance] Monoid.toNPow

namespace Sfx.LogPf
open Sfx.Trans Sfx.SqrtPf Sfx.ExpPf Sfx.LogAccPf

/-- a valid signed layout with at least three integer bits (`x * x < 4` must be representable) -/
structure Ctx (D : Layout) : Prop where
  hv : D.valid
  hs : D.signed = true
  hint : 3 ≤ D.intBits

theorem Ctx.n8 {D : Layout} (c : Ctx D) : 8 ≤ D.n := c.hv.eight_le

theorem Ctx.fn {D : Layout} (c : Ctx D) : D.f + 3 ≤ D.n := by
  have := c.hint
  unfold Layout.intBits at this
  omega

theorem Ctx.max_eq {D : Layout} (c : Ctx D) : D.max = 2 ^ (D.n - 1) - 1 := by
  show maxI D.signed D.n = _
  rw [c.hs]; rfl

theorem Ctx.min_eq {D : Layout} (c : Ctx D) : D.min = -(2 ^ (D.n - 1)) := by
  show minI D.signed D.n = _
  rw [c.hs]; rfl

theorem Ctx.inRange_iff {D : Layout} (c : Ctx D) (v : Int) : inRange D v ↔ -(2 ^ (D.n - 1)) ≤ v ∧ v < 2 ^ (D.n - 1) := by
  show inI D.signed D.n v ↔ _
  rw [c.hs]
  exact inS_iff D.n v

theorem Ctx.four {D : Layout} (c : Ctx D) : 4 * 2 ^ D.f ≤ (2 : Int) ^ (D.n - 1) :=
  units_le_top 2 (by have := c.fn; omega)

theorem Ctx.nn {D : Layout} (c : Ctx D) {v : Int} (h0 : 0 ≤ v) (h1 : v < 2 ^ (D.n - 1)) : inRange D v := by
  rw [c.inRange_iff]
  have := two_pow_pos (D.n - 1)
  omega

theorem Ctx.conv {D : Layout} (c : Ctx D) : ConvFacts D := TransFacts.convFacts D c.hv (by rw [c.hs]; exact c.hint)

/-- `T::from_num(1) >> T::frac_nbits()` is the least significant bit -/
theorem ushr_lsb (D : Layout) (hfn : D.f < D.n) : ushr D.n (2 ^ D.f) D.f = .ok 1 false := by
  have hP := two_pow_pos D.f
  rw [ushr_of_lt hfn, shrI_eq, Int.ediv_self (by omega)]

theorem rs_eq {D : Layout} (c : Ctx D) (x : Int) (hx : inRange D x) (hx0 : 0 ≤ x) :
    Trans.rs D x = .ok ((x + 1) / 2) false := by
  have hfn := c.fn
  have hn8 := c.n8
  have hlt := ((c.inRange_iff x).1 hx).2
  show (fromNumI D 1 >>= fun one => ushr D.n one D.f >>= fun lsb =>
    uadd D.signed D.n (shrI x 1) (andI D.signed D.n x lsb)) = _
  rw [c.conv.fromNum1, ok_false_bind, ushr_lsb D (by omega), ok_false_bind, andI_one _ _ (by omega)]
  have hsh : shrI x 1 = x / 2 := rfl
  rw [hsh]
  have hv : x / 2 + x % 2 = (x + 1) / 2 := by omega
  have hin : inI D.signed D.n (x / 2 + x % 2) := c.nn (by omega) (by omega)
  rw [← hv]
  exact ok_wrap_of_in (by omega) hin

theorem ge_two {D : Layout} (hv : D.valid) (x : Int) (hx : inRange D x) :
    D.geFixed Trans.C x Trans.TWO = decide (2 * 2 ^ D.f ≤ x) := by
  have hP := two_pow_pos D.f
  unfold Layout.geFixed
  rw [TransFacts.ltC D hv x _ hx (by decide), ← decide_not, decide_eq_decide]
  show ¬ x * 2 ^ 23 < 2 * 2 ^ 23 * 2 ^ D.f ↔ _
  omega

theorem halve_stop {D : Layout} (hv : D.valid) (fuel : Nat) (x result : Int) (n0 : Nat) (hx : inRange D x)
    (h : x < 2 * 2 ^ D.f) : Runs (log2Halve D fuel x result) n0 (some (x, result)) n0 := by
  cases fuel with
  | zero => rfl
  | succ fuel =>
    unfold log2Halve
    rw [ge_two hv x hx, if_neg (mt of_decide_eq_true (Int.not_le.2 h))]
    rfl

theorem halve_step {D : Layout} (c : Ctx D) (fuel : Nat) (x result : Int) (n0 : Nat) (hx : inRange D x)
    (h : 2 * 2 ^ D.f ≤ x) (hr : inRange D (result + 1)) {o : Option (Int × Int)} {n' : Nat}
    (hk : Runs (log2Halve D fuel ((x + 1) / 2) (result + 1)) (n0 + 1) o n') : Runs (log2Halve D (fuel + 1) x result) n0 o n' := by
  have hP := two_pow_pos D.f
  unfold log2Halve
  exact .ite_pos (by rw [ge_two c.hv x hx]; exact decide_eq_true h) <| .tick_bind <| .liftO_bind (uadd_in D c.hv _ _ hr) <|
    .liftO_bind (rs_eq c x hx (by omega)) hk

/-- every step is `x ↦ ⌈x / 2⌉`, hence `x ≤ 2^j x' ≤ x + 2^j - 1` -/
theorem halve_runs {D : Layout} (c : Ctx D) :
    ∀ (K fuel : Nat) (x result : Int) (n0 : Nat), K ≤ fuel → 2 ^ D.f ≤ x → x ≤ 2 ^ (D.f + K) → inRange D x →
      0 ≤ result → result + (K : Int) < 2 ^ (D.n - 1) →
      ∃ (x' : Int) (j : Nat), Runs (log2Halve D fuel x result) n0 (some (x', result + (j : Int))) (n0 + j) ∧
        2 ^ D.f ≤ x' ∧ x' < 2 * 2 ^ D.f ∧ j ≤ K ∧ x ≤ 2 ^ j * x' ∧ 2 ^ j * x' ≤ x + 2 ^ j - 1 ∧
        (∀ k : Nat, x = 2 ^ (D.f + k) → x' = 2 ^ D.f ∧ j = k)
  | K, fuel, x, result, n0, hK, hxF, hxK, hx, hr0, hrK => by
    have hP := two_pow_pos D.f
    by_cases h2 : 2 * 2 ^ D.f ≤ x
    · match K, fuel, hK, hxK, hrK with
      | 0, _, _, hxK, _ => exact absurd (show x ≤ 2 ^ D.f from hxK) (by omega)
      | K + 1, 0, hK, _, _ => exact absurd hK (by omega)
      | K + 1, fuel + 1, hK, hxK, hrK =>
        have hlt := ((c.inRange_iff x).1 hx).2
        have hpk : (2 : Int) ^ (D.f + (K + 1)) = 2 * 2 ^ (D.f + K) := Int.pow_succ' 2 (D.f + K)
        obtain ⟨y1, y2, y3, y4, y5⟩ : 2 ^ D.f ≤ (x + 1) / 2 ∧ (x + 1) / 2 ≤ 2 ^ (D.f + K) ∧ (x + 1) / 2 < 2 ^ (D.n - 1) ∧
            x ≤ 2 * ((x + 1) / 2) ∧ 2 * ((x + 1) / 2) ≤ x + 1 := by omega
        obtain ⟨r1, r2, r3⟩ : 0 ≤ result + 1 ∧ result + 1 + (K : Int) < 2 ^ (D.n - 1) ∧ result + 1 < 2 ^ (D.n - 1) := by
          omega
        obtain ⟨x', j, he, h1, h2', hj, t1, t2, hpow⟩ := halve_runs c K fuel ((x + 1) / 2) (result + 1) (n0 + 1)
          (Nat.le_of_succ_le_succ hK) y1 y2 (c.nn (Int.le_trans hP.le y1) y3) r1 r2
        have hm : (2 : Int) ^ (j + 1) * x' = 2 * (2 ^ j * x') := by rw [Int.pow_succ', Int.mul_assoc]
        have hpj := Int.pow_succ' 2 j
        refine ⟨x', j + 1, ?_, h1, h2', Nat.succ_le_succ hj, by omega, by omega, fun k hk => ?_⟩
        · rw [Int.add_assoc, Int.add_comm 1, ← Int.natCast_succ, Nat.add_assoc, Nat.add_comm 1 j] at he
          exact halve_step c fuel x result n0 hx h2 (c.nn r1 r3) he
        · cases k with
          | zero =>
            have : (2 : Int) ^ (D.f + 0) = 2 ^ D.f := rfl
            omega
          | succ k =>
            have hk2 : (2 : Int) ^ (D.f + (k + 1)) = 2 * 2 ^ (D.f + k) := Int.pow_succ' 2 (D.f + k)
            obtain ⟨a, b⟩ := hpow k (by omega)
            exact ⟨a, by omega⟩
    · have e0 : (2 : Int) ^ 0 * x = x := Int.one_mul x
      have e1 : (2 : Int) ^ 0 = 1 := rfl
      refine ⟨x, 0, ?_, hxF, by omega, Nat.zero_le K, by omega, by omega, fun k hk => ?_⟩
      · have := halve_stop c.hv fuel x result n0 hx (by omega)
        simpa using this
      · have : k = 0 := pow_lt_two_base (f := D.f) (by rw [← hk]; omega)
        subst this
        exact ⟨hk, rfl⟩

theorem mulOp_sq {D : Layout} (c : Ctx D) (x : Int) (h1 : 2 ^ D.f ≤ x) (h2 : x < 2 * 2 ^ D.f) :
    D.mulOp x x = .ok (x * x / 2 ^ D.f) false := by
  have hP := two_pow_pos D.f
  have h4 := c.four
  have hx : inRange D x := c.nn (by omega) (by omega)
  obtain ⟨b1, b2⟩ := sq_bounds (2 ^ D.f) x (by omega) h1 h2
  have hin : inRange D (x * x / 2 ^ D.f) := c.nn (by omega) (by omega)
  exact mulOp_in D c.hv x x hx hx hin

theorem ushl_one {D : Layout} (c : Ctx D) (r : Int) (h0 : 0 ≤ r) (h1 : r * 2 < 2 ^ (D.n - 1)) :
    ushl D.signed D.n r 1 = .ok (r * 2) false := by
  have hn8 := c.n8
  have hin : inI D.signed D.n (r * 2 ^ 1) := c.nn (by omega) (by omega)
  exact ushl_of_in (by omega) hin

theorem orI_one {D : Layout} (c : Ctx D) (r : Int) (h0 : 0 ≤ r) (h1 : r * 2 + 1 < 2 ^ (D.n - 1)) :
    orI D.signed D.n (r * 2) 1 = r * 2 + 1 := by
  have hn8 := c.n8
  have hin : inI D.signed D.n (r * 2 + 1) := c.nn (by omega) h1
  rw [orI_add D.signed (n := D.n) (f := 1) ⟨r, by omega⟩ (by omega) (by omega)]
  exact wrapI_of_in (by omega) hin

/-- the invariant `1 ≤ x < 2` keeps every operation exact, and `result` (below `2^m`) has room for the `k` bits that are appended -/
theorem frac_runs {D : Layout} (c : Ctx D) :
    ∀ (k m : Nat) (x result : Int) (n0 : Nat), 2 ^ D.f ≤ x → x < 2 * 2 ^ D.f → 0 ≤ result → result < 2 ^ m →
      m + k ≤ D.n - 1 → Runs (log2Frac D k x result) n0 (some (fracPure (2 ^ D.f) k x result)) (n0 + k)
  | 0, _, x, result, n0, _, _, _, _, _ => .pure
  | k + 1, m, x, result, n0, h1, h2, hr0, hrm, hmk => by
    have hP := two_pow_pos D.f
    have h4 := c.four
    obtain ⟨b1, b2⟩ := sq_bounds (2 ^ D.f) x hP h1 h2
    have hm1 : (2 : Int) ^ (m + 1) ≤ 2 ^ (D.n - 1) := pow_le_pow (by omega)
    have hpm := Int.pow_succ' 2 m
    have hxx : inRange D (x * x / 2 ^ D.f) := c.nn (by omega) (by omega)
    rw [fracPure_succ, show n0 + (k + 1) = n0 + 1 + k by omega]
    refine .tick_bind <| .liftO_bind (mulOp_sq c x h1 h2) <| .liftO_bind (ushl_one c result hr0 (by omega)) ?_
    by_cases hge : 2 * 2 ^ D.f ≤ x * x / 2 ^ D.f
    · rw [if_pos hge]
      refine .ite_pos (by rw [ge_two c.hv _ hxx]; exact decide_eq_true hge) <| .liftO_bind (rs_eq c _ hxx (by omega)) ?_
      rw [orI_one c result hr0 (by omega)]
      exact frac_runs c k (m + 1) _ _ (n0 + 1) (by omega) (by omega) (by omega) (by omega) (by omega)
    · rw [if_neg hge]
      exact .ite_neg (by rw [ge_two c.hv _ hxx]; exact mt of_decide_eq_true hge) <|
        frac_runs c k (m + 1) _ _ (n0 + 1) (by omega) (by omega) (by omega) (by omega) (by omega)

theorem count_fits {K f N : Nat} (h : K + f = N) {j : Nat} (hj : j ≤ K) : ((j : Int) + 1) * 2 ^ f ≤ 2 ^ N := by
  have := lt_two_pow K
  rw [← h, pow_add']
  exact Int.mul_le_mul_of_nonneg_right (by omega) (Int.le_of_lt (two_pow_pos f))

theorem innerSpec_of {f j : Nat} {x x' r : Int} (t1 : x ≤ 2 ^ j * x') (t2 : 2 ^ j * x' ≤ x + 2 ^ j - 1) (h1 : 2 ^ f ≤ x')
    (h2 : x' < 2 * 2 ^ f) (hr : r = fracPure (2 ^ f) f x' j) : InnerSpec f x r := by
  refine ⟨j, x', ?_⟩
  rw [pow2_eq j, pow2_eq f]
  exact ⟨t1, t2, h1, h2, hr⟩

theorem inner_runs {D : Layout} (c : Ctx D) (x : Int) (n0 : Nat) (hx : inRange D x) (hxF : 2 ^ D.f ≤ x) :
    ∃ (r : Int) (m : Nat), Runs (log2Inner D x) n0 (some r) m ∧ 0 ≤ r ∧ r < 2 ^ (D.n - 1) ∧
      (∀ k : Nat, x = 2 ^ (D.f + k) → r = (k : Int) * 2 ^ D.f) ∧ m ≤ n0 + (D.n - 1) ∧ InnerSpec D.f x r := by
  have hP := two_pow_pos D.f
  have hfn := c.fn
  have hn8 := c.n8
  have hlt := ((c.inRange_iff x).1 hx).2
  have hKe : D.n - 1 - D.f + D.f = D.n - 1 := by omega
  have hKlt := lt_two_pow (D.n - 1 - D.f)
  have hN := lt_two_pow (D.n - 1)
  obtain ⟨x', j, he, h1, h2, hj, t1, t2, hpow⟩ := halve_runs c (D.n - 1 - D.f) (D.n + 1) x 0 n0 (by omega) hxF
    (by rw [Nat.add_comm, hKe]; omega) hx (by omega) (by omega)
  have hx' : inRange D x' := c.nn (by omega) (by have := c.four; omega)
  have hj0 : 0 ≤ (j : Int) * 2 ^ D.f := Int.mul_nonneg (by omega) (by omega)
  have hj1 := count_fits hKe hj
  rw [Int.add_mul, Int.one_mul] at hj1
  obtain ⟨l1, l2⟩ := fracPure_bounds (2 ^ D.f) D.f x' (j : Int)
  rw [pow2_eq, Int.add_mul, Int.one_mul] at l2
  rw [pow2_eq] at l1
  -- on `x' = 1` the model returns `from_num(result)`, which is what the squaring loop would have produced
  suffices ∃ m, m ≤ n0 + (D.n - 1) ∧ Runs (log2Inner D x) n0 (some (fracPure (2 ^ D.f) D.f x' j)) m by
    obtain ⟨m, hm, hev⟩ := this
    refine ⟨_, m, hev, by omega, by omega, fun k hk => ?_, hm, innerSpec_of t1 t2 h1 h2 rfl⟩
    rw [(hpow k hk).1, (hpow k hk).2, fracPure_one _ (by omega), pow2_eq]
  have hg : ¬ (D.geFixed C x' TWO = true) := by rw [ge_two c.hv x' hx']; simp; omega
  rw [Int.zero_add] at he
  by_cases hone : x' = 2 ^ D.f
  · have hin : inRange D ((j : Int) * 2 ^ D.f) := c.nn hj0 (by omega)
    have hjin : inI D.signed D.n (j : Int) := c.nn (by omega) (by omega)
    refine ⟨n0 + j, by omega, .liftO_bind c.conv.fromNum1 <| .liftO_bind (ushr_lsb D (by omega)) <| .bind he <| .ite_neg hg <|
      .ite_pos (by rw [c.conv.eq1 x' hx']; simp [hone]) ?_⟩
    rw [hone, fracPure_one _ (by omega), pow2_eq]
    exact .liftO ((ConvPf.fromInt_spec D c.hv D.signed D.n c.hv.1 (j : Int) hjin).2.2.2.2.trans (ok_wrap_of_in (by omega) hin))
  · exact ⟨n0 + j + D.f, by omega, .liftO_bind c.conv.fromNum1 <| .liftO_bind (ushr_lsb D (by omega)) <| .bind he <| .ite_neg hg <|
      .ite_neg (by rw [c.conv.eq1 x' hx']; simp [hone]) <|
      frac_runs c D.f (D.n - 1 - D.f) x' (j : Int) (n0 + j) h1 h2 (by omega) (by omega) (by omega)⟩

/-- what is proved about a returned logarithm `r` (bits) of the operand `x` (bits), besides `Log2Spec` -/
def GoodLog (D : Layout) (x r : Int) : Prop :=
  inRange D r ∧ (x ≤ 2 ^ D.f → r ≤ 0) ∧ (2 ^ D.f ≤ x → 0 ≤ r) ∧
    (∀ k : Nat, x = 2 ^ k → r = ((k : Int) - D.f) * 2 ^ D.f)

/-- what `log2::<D, D>(x)` started at `n0` returns, by cases on the outcome: `Err` exactly for operands `≤ 0` and for operands below one
whose reciprocal does not fit, without a loop iteration; an `Ok` result is `GoodLog`, the trace `Log2Spec`, and costs at most `n - 1` loop
iterations (at most `intBits - 1` halvings, then `f` squarings) -/
def Log2Post (D : Layout) (x : Int) (n0 : Nat) : Option Int → Nat → Prop
  | some r, m => 0 < x ∧ GoodLog D x r ∧ m ≤ n0 + (D.n - 1) ∧ Log2Spec D.f x r
  | none, m => m = n0 ∧ (x ≤ 0 ∨ (0 < x ∧ x < 2 ^ D.f ∧ ¬ inRange D (divSpec D.f (2 ^ D.f) x)))

theorem log2_ret (D : Layout) (c : Ctx D) (x : Int) (hx : inRange D x) (n0 : Nat) : Ret (Trans.log2 D D x) n0 (Log2Post D x n0) := by
  have hP := two_pow_pos D.f
  have hn8 := c.n8
  have h4 := c.four
  have h1r : inRange D (2 ^ D.f) := c.nn (by omega) (by omega)
  by_cases h0 : x ≤ 0
  · exact Runs.ret (.ite_pos h0 .err) ⟨rfl, Or.inl h0⟩
  have hx0 : 0 < x := by omega
  have hrecip := checkedDiv_nn D c.hv (2 ^ D.f) x h1r hx (by omega) hx0
  by_cases hlt : x < 2 ^ D.f
  · by_cases hyr : inRange D (2 ^ D.f * 2 ^ D.f / x)
    · have hyF : 2 ^ D.f ≤ 2 ^ D.f * 2 ^ D.f / x := by
        apply (Int.le_ediv_iff_mul_le (by omega)).2
        exact Int.mul_le_mul_of_nonneg_left (by omega) (by omega)
      obtain ⟨r, m, he, hr0, hr1, hpow, hm, hspec⟩ := inner_runs c _ n0 hyr hyF
      have hnr : inRange D (-r) := by
        rw [c.inRange_iff]; omega
      refine Runs.ret (.ite_neg h0 <| .liftO_bind (fromS_same D x) <| .liftO_bind c.conv.fromNum1 <| .ite_pos hlt <|
          .liftO_bind c.conv.fromNum1 <| .bind (.liftOpt (hrecip.trans (by rw [Layout.chk_of_in D hyr]))) <| .bind he <|
          .liftO (negOp_in D c.hv _ hnr))
        ⟨hx0, ⟨hnr, fun _ => by omega, fun _ => by omega, fun k hk => ?_⟩, hm, Or.inr ⟨hx0, ?_, r, ?_, ?_, rfl⟩⟩
      · -- `x = 2^k` with `f = k + i`: the reciprocal is `2^(f + i)`
        obtain ⟨i, hi⟩ : ∃ i, D.f = k + i := ⟨D.f - k, by have := pow_le_imp (a := k) (b := D.f) (by rw [← hk]; omega); omega⟩
        have e2 : 2 ^ D.f * 2 ^ D.f / x = 2 ^ (D.f + i) := by
          rw [hk, ← pow_add', show D.f + D.f = D.f + i + k by omega, pow_add']
          exact Int.mul_ediv_cancel _ (Int.ne_of_gt (two_pow_pos k))
        rw [hpow i e2, show (k : Int) - D.f = -i by omega, Int.neg_mul]
      · rw [pow2_eq]; exact hlt
      · rw [pow2_eq]; exact hyF
      · rw [pow2_eq]; exact hspec
    · exact Runs.ret (.ite_neg h0 <| .liftO_bind (fromS_same D x) <| .liftO_bind c.conv.fromNum1 <| .ite_pos hlt <|
          .liftO_bind c.conv.fromNum1 <| .bind_err (.liftOpt (hrecip.trans (by rw [Layout.chk_of_not_in D hyr]))))
        ⟨rfl, Or.inr ⟨hx0, hlt, by rw [divSpec_nn _ _ _ (by omega)]; exact hyr⟩⟩
  · obtain ⟨r, m, he, hr0, hr1, hpow, hm, hspec⟩ := inner_runs c x n0 hx (by omega)
    refine Runs.ret (.ite_neg h0 <| .liftO_bind (fromS_same D x) <| .liftO_bind c.conv.fromNum1 <| .ite_neg hlt he)
      ⟨hx0, ⟨c.nn hr0 hr1, fun hle => ?_, fun _ => hr0, fun k hk => ?_⟩, hm, Or.inl ⟨by rw [pow2_eq]; omega, hspec⟩⟩
    · have := hpow 0 (by show x = 2 ^ D.f; omega)
      simp at this
      omega
    · obtain ⟨i, rfl⟩ : ∃ i, k = D.f + i := ⟨k - D.f, by have := pow_le_imp (a := D.f) (b := k) (by rw [← hk]; omega); omega⟩
      rw [hpow i hk, show ((D.f + i : Nat) : Int) - D.f = i by omega]

/-- iteration count (`verif_tick`): at most `n - 1` in all; the `Err` paths run no loop -/
theorem log2_ticks (D : Layout) (c : Ctx D) (x : Int) (hx : inRange D x) (o : Option Int) (m : Nat) (dbg : Bool)
    (h : Trans.run (Trans.log2 D D x) = .ok (o, m) dbg) : m ≤ D.n - 1 ∧ (o = none → m = 0) := by
  have hp := ((log2_ret D c x hx 0).post h).1
  cases o with
  | none => exact ⟨by have := hp.1; omega, fun _ => hp.1⟩
  | some r => exact ⟨by have := hp.2.2.1; omega, fun h => by cases h⟩

/-- C12 / C14 for `log2::<D, D>` (no lower bound on `D.f` is needed, and three integer bits suffice: `Ctx`) -/
theorem log2_total (D : Layout) (c : Ctx D) (x : Int) (hx : inRange D x) :
    match Trans.run (Trans.log2 D D x) with
    | .ok (some r, _) dbg => dbg = false ∧ 0 < x ∧ inRange D r ∧
        (x ≤ 2 ^ D.f → r ≤ 0) ∧ (2 ^ D.f ≤ x → 0 ≤ r) ∧
        (∀ k : Nat, x = 2 ^ k → r = ((k : Int) - D.f) * 2 ^ D.f)
    | .ok (none, _) dbg => dbg = false ∧ (x ≤ 0 ∨ (0 < x ∧ x < 2 ^ D.f ∧ ¬ inRange D (divSpec D.f (2 ^ D.f) x)))
    | .panic => False := by
  obtain ⟨o, m, he, h⟩ := log2_ret D c x hx 0
  rw [show Trans.run (Trans.log2 D D x) = _ from he]
  cases o with
  | none => exact ⟨rfl, h.2⟩
  | some r => exact ⟨rfl, h.1, h.2.1⟩

theorem log2e_val : Trans.LOG2_E = 12102203 := by decide

/-- the two operations after `log2`: `LOG2_E ≥ 1` widened to `D`, and the quotient `l / LOG2_E` -/
theorem ln_div (D : Layout) (hv : D.valid) (hs : D.signed = true) (hf : 23 ≤ D.f) (hint : 9 ≤ D.intBits)
    (l : Int) (hl : inRange D l) :
    ∃ d r, Trans.fromS C D LOG2_E = .ok d false ∧ D.divOp l d = .ok r false ∧ inRange D r ∧ (0 ≤ l → 0 ≤ r) ∧ (l ≤ 0 → r ≤ 0) ∧
      r = Int.tdiv (l * 2 ^ D.f) (LOG2_E * 2 ^ (D.f - 23)) := by
  obtain ⟨hfrom, hcr⟩ := TransFacts.fromS_spec C D TransFacts.C_valid hv (Or.inr (TransFacts.admissible_C D hs hf hint)) LOG2_E (by decide)
  have hP := two_pow_pos D.f
  have hQ := two_pow_pos (D.f - 23)
  have hsplit : (2 : Int) ^ D.f = 2 ^ 23 * 2 ^ (D.f - 23) := by
    rw [← pow_add']; congr 1; omega
  have hcF : 2 ^ D.f ≤ LOG2_E * 2 ^ (D.f - 23) := by
    rw [hsplit, log2e_val]
    exact Int.mul_le_mul_of_nonneg_right (by decide) (by omega)
  change Trans.fromS C D LOG2_E = .ok (LOG2_E * 2 ^ (D.f - 23)) false at hfrom
  change inRange D (LOG2_E * 2 ^ (D.f - 23)) at hcr
  generalize LOG2_E * 2 ^ (D.f - 23) = d at *
  have hd0 : d ≠ 0 := by omega
  obtain ⟨t1, t2⟩ := tdiv_shrink l (2 ^ D.f) d hP hcF
  have hin : inRange D (Int.tdiv (l * 2 ^ D.f) d) := by
    have z := inI_zero D.signed D.n
    by_cases h0 : 0 ≤ l
    · exact ⟨Int.le_trans z.1 (t1 h0).1, Int.le_trans (t1 h0).2 hl.2⟩
    · exact ⟨Int.le_trans hl.1 (t2 (by omega)).1, Int.le_trans (t2 (by omega)).2 z.2⟩
  exact ⟨d, _, hfrom, divOp_in D hv l d hl hcr hd0 hin, hin, fun h => (t1 h).1, fun h => (t2 h).2, rfl⟩

/-- what `ln::<D, D>(x)` started at `n0` returns: `Err` as `log2`; behind an `Ok` result `r` is the result `l` of `log2` -/
def LnPost (D : Layout) (x : Int) (n0 : Nat) : Option Int → Nat → Prop
  | some r, _ => 0 < x ∧ ∃ l, GoodLog D x l ∧ Log2Spec D.f x l ∧ inRange D r ∧ (0 ≤ l → 0 ≤ r) ∧ (l ≤ 0 → r ≤ 0) ∧
      r = Int.tdiv (l * 2 ^ D.f) (LOG2_E * 2 ^ (D.f - 23))
  | none, m => m = n0 ∧ (x ≤ 0 ∨ (0 < x ∧ x < 2 ^ D.f ∧ ¬ inRange D (divSpec D.f (2 ^ D.f) x)))

theorem ln_ret (D : Layout) (hv : D.valid) (hs : D.signed = true) (hf : 23 ≤ D.f) (hint : 9 ≤ D.intBits)
    (x : Int) (hx : inRange D x) (n0 : Nat) : Ret (Trans.ln D D x) n0 (LnPost D x n0) :=
  (log2_ret D ⟨hv, hs, by omega⟩ x hx n0).bind
    (fun l _ h => by
      obtain ⟨d, r, hd, hq, hqr, s1, s2, hr⟩ := ln_div D hv hs hf hint l h.2.1.1
      exact Runs.ret (.liftO_bind hd <| .liftO hq) ⟨h.1, l, h.2.1, h.2.2.2, hqr, s1, s2, hr⟩)
    fun _ h => h

theorem ln_spec (D : Layout) (hv : D.valid) (hs : D.signed = true) (hf : 23 ≤ D.f) (hint : 9 ≤ D.intBits)
    (x : Int) (hx : inRange D x) : Tot (Trans.ln D D x) (fun r => inRange D r ∧ LnSpec D.f x r) := fun n0 =>
  totAt_iff.2 <| (ln_ret D hv hs hf hint x hx n0).mono fun o _ h v hv => by
    subst hv
    obtain ⟨_, l, _, hspec, hr, _, _, hq⟩ := h
    exact ⟨hr, l, hspec, by rw [pow2_eq, pow2_eq, ← log2e_val]; exact hq⟩

/-- C12 for `ln::<D, D>` -/
theorem ln_total (D : Layout) (hv : D.valid) (hs : D.signed = true) (hf : 23 ≤ D.f) (hint : 9 ≤ D.intBits)
    (x : Int) (hx : inRange D x) :
    match Trans.run (Trans.ln D D x) with
    | .ok (some r, _) dbg => dbg = false ∧ 0 < x ∧ inRange D r
    | .ok (none, _) dbg => dbg = false ∧ (x ≤ 0 ∨ (0 < x ∧ x < 2 ^ D.f ∧ ¬ inRange D (divSpec D.f (2 ^ D.f) x)))
    | .panic => False := by
  obtain ⟨o, m, he, h⟩ := ln_ret D hv hs hf hint x hx 0
  rw [show Trans.run (Trans.ln D D x) = _ from he]
  cases o with
  | none => exact ⟨rfl, h.2⟩
  | some r => obtain ⟨h0, l, _, _, hr, _⟩ := h; exact ⟨rfl, h0, hr⟩

theorem log2_widen_fun (S D : Layout) (hSv : S.valid) (hv : D.valid) (hadm : ConvPf.fromAdmissible S D) (x : Int)
    (hx : inRange S x) : Trans.log2 S D x = Trans.log2 D D (x * 2 ^ (D.f - S.f)) := by
  obtain ⟨_, _, w4, _⟩ := TransFacts.widen_order S D hadm.1 x
  unfold Trans.log2
  rw [(TransFacts.fromS_spec S D hSv hv (Or.inr hadm) x hx).1, fromS_same]
  by_cases h0 : x ≤ 0
  · rw [if_pos h0, if_pos (Int.not_lt.1 fun h => absurd (w4.1 h) (by omega))]
  · rw [if_neg h0, if_neg (Int.not_le.2 (w4.2 (by omega)))]

theorem ln_widen_fun (S D : Layout) (hSv : S.valid) (hv : D.valid) (hadm : ConvPf.fromAdmissible S D) (x : Int)
    (hx : inRange S x) : Trans.ln S D x = Trans.ln D D (x * 2 ^ (D.f - S.f)) := by
  unfold Trans.ln
  rw [log2_widen_fun S D hSv hv hadm x hx]

/-- C12 / C14 for `log2::<S, D>` with any source layout admitted by `From<S> for D` (including `S = D`): the statement
is about the source bits `x`; the `Err` case refers to the reciprocal of the widened operand. -/
theorem log2_total_widen (S D : Layout) (hSv : S.valid) (c : Ctx D)
    (hadm : ConvPf.fromAdmissible S D) (x : Int) (hx : inRange S x) :
    match Trans.run (Trans.log2 S D x) with
    | .ok (some r, _) dbg => dbg = false ∧ 0 < x ∧ inRange D r ∧
        (x ≤ 2 ^ S.f → r ≤ 0) ∧ (2 ^ S.f ≤ x → 0 ≤ r) ∧
        (∀ k : Nat, x = 2 ^ k → r = ((k : Int) - S.f) * 2 ^ D.f)
    | .ok (none, _) dbg => dbg = false ∧
        (x ≤ 0 ∨ (0 < x ∧ x < 2 ^ S.f ∧ ¬ inRange D (divSpec D.f (2 ^ D.f) (x * 2 ^ (D.f - S.f)))))
    | .panic => False := by
  obtain ⟨_, _, w4, w3, _, w1, w2⟩ := TransFacts.widen_order S D hadm.1 x
  have hw0 : x * 2 ^ (D.f - S.f) ≤ 0 → x ≤ 0 := fun h => Int.not_lt.1 fun h' => absurd (w4.2 h') (by omega)
  rw [log2_widen_fun S D hSv c.hv hadm x hx]
  obtain ⟨o, m, he, h⟩ := log2_ret D c _ (TransFacts.fromS_spec S D hSv c.hv (Or.inr hadm) x hx).2 0
  rw [show Trans.run (Trans.log2 D D _) = _ from he]
  cases o with
  | none => exact ⟨rfl, h.2.imp hw0 fun ⟨h0, h1, h2⟩ => ⟨w4.1 h0, w3.1 h1, h2⟩⟩
  | some r =>
    obtain ⟨h0, ⟨d, e, g, i⟩, _⟩ := h
    refine ⟨rfl, w4.1 h0, d, fun h => e (w1.2 h), fun h => g (w2.2 h), fun k hk => ?_⟩
    have hf := hadm.1
    have e1 : x * 2 ^ (D.f - S.f) = 2 ^ (k + (D.f - S.f)) := by rw [hk, pow_add']
    rw [i _ e1]
    have e2 : ((k + (D.f - S.f) : Nat) : Int) - (D.f : Int) = (k : Int) - (S.f : Int) := by omega
    rw [e2]

theorem ln_total_widen (S D : Layout) (hSv : S.valid) (hv : D.valid) (hs : D.signed = true) (hf : 23 ≤ D.f)
    (hint : 9 ≤ D.intBits) (hadm : ConvPf.fromAdmissible S D) (x : Int) (hx : inRange S x) :
    match Trans.run (Trans.ln S D x) with
    | .ok (some r, _) dbg => dbg = false ∧ 0 < x ∧ inRange D r ∧ (x ≤ 2 ^ S.f → r ≤ 0) ∧ (2 ^ S.f ≤ x → 0 ≤ r)
    | .ok (none, _) dbg => dbg = false ∧
        (x ≤ 0 ∨ (0 < x ∧ x < 2 ^ S.f ∧ ¬ inRange D (divSpec D.f (2 ^ D.f) (x * 2 ^ (D.f - S.f)))))
    | .panic => False := by
  obtain ⟨_, _, w4, w3, _, w1, w2⟩ := TransFacts.widen_order S D hadm.1 x
  have hw0 : x * 2 ^ (D.f - S.f) ≤ 0 → x ≤ 0 := fun h => Int.not_lt.1 fun h' => absurd (w4.2 h') (by omega)
  rw [ln_widen_fun S D hSv hv hadm x hx]
  obtain ⟨o, m, he, h⟩ := ln_ret D hv hs hf hint _ (TransFacts.fromS_spec S D hSv hv (Or.inr hadm) x hx).2 0
  rw [show Trans.run (Trans.ln D D _) = _ from he]
  cases o with
  | none => exact ⟨rfl, h.2.imp hw0 fun ⟨h0, h1, h2⟩ => ⟨w4.1 h0, w3.1 h1, h2⟩⟩
  | some r =>
    obtain ⟨h0, l, hg, _, hr, s1, s2, _⟩ := h
    exact ⟨rfl, w4.1 h0, hr, fun h => s2 (hg.2.1 (w1.2 h)), fun h => s1 (hg.2.2.1 (w2.2 h))⟩

/-! non-vacuity: the hypotheses hold for `I9F23`, for `I40F88` and for the pair `I9F23`, `I64F64` -/
example (x : Int) (hx : inRange ⟨true, 32, 23⟩ x) := log2_total ⟨true, 32, 23⟩ ⟨by decide, rfl, by decide⟩ x hx
example (x : Int) (hx : inRange ⟨true, 128, 88⟩ x) := ln_total ⟨true, 128, 88⟩ (by decide) rfl (by decide) (by decide) x hx
example (x : Int) (hx : inRange ⟨true, 32, 23⟩ x) :=
  ln_total_widen ⟨true, 32, 23⟩ ⟨true, 128, 64⟩ (by decide) (by decide) rfl (by decide) (by decide)
    (by unfold ConvPf.fromAdmissible; decide) x hx

end Sfx.LogPf

#print axioms Sfx.LogPf.log2_total
#print axioms Sfx.LogPf.ln_total
#print axioms Sfx.LogPf.log2_total_widen
#print axioms Sfx.LogPf.ln_total_widen
#print axioms Sfx.LogPf.log2_ticks
