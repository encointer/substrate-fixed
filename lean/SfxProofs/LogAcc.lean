import SfxProofs.Log
import SfxProofs.LogAccReal
/-
  LogAcc.lean — property C14 (numeric bound) for `transcendental::log2` and `transcendental::ln` (models `Trans.log2`, `Trans.ln`),
  over Mathlib's reals.  For `S = D`, with `val y = (y : ℝ) / 2 ^ D.f`:

    log2 : |val r - logb 2 (val x)| ≤ 4.5 ulp            (`log2_accuracy_sharp`: any valid signed layout with ≥ 3 integer and ≥ 1 fractional bits)
    ln   : |val r - log (val x)|    ≤ |log (val x)| / 2^23 + 5 ulp     (`PowBandPf.ln_accuracy_sharp`: 23 ≤ f, 9 ≤ intBits)

  and ONE theorem per function with the property's constant `8 ulp` for every source type `S` with `D: From<S>` (`log2_accuracy`,
  `ln_accuracy`; the operand's value is `(x : ℝ) / 2 ^ S.f`): `S ≠ D` reduces to `S = D` on the widened operand, which has the same value.

  Every `Ok` result of the model is an integer trace `Log2Spec` / `LnSpec` (`log2_trace`, `ln_trace` below); the traces are
  bounded in `LogAccReal.lean` (`log2_real`, `ln_real`).
  No statement in this file mentions a power of an `Int`, so the `Monoid.toNPow` caveat does not apply here (the widened operand
  `x * 2 ^ (D.f - S.f)` occurs in proofs only, where core's and Mathlib's power are definitionally equal).
-/
namespace Sfx.LogAccPf
open Sfx.LogPf Sfx.GridReal

/-- a returned value of `log2::<D, D>` is the trace -/
theorem log2_trace (D : Layout) (c : Ctx D) (x : Int) (hx : inRange D x) {r : Int} {it : Nat} {dbg : Bool}
    (h : Trans.run (Trans.log2 D D x) = .ok (some r, it) dbg) : Log2Spec D.f x r :=
  ((log2_ret D c x hx 0).post h).1.2.2.2

/-- a returned value of `ln::<D, D>` is the trace -/
theorem ln_trace (D : Layout) (hv : D.valid) (hs : D.signed = true) (hf : 23 ≤ D.f) (hint : 9 ≤ D.intBits)
    (x : Int) (hx : inRange D x) {r : Int} {it : Nat} {dbg : Bool}
    (h : Trans.run (Trans.ln D D x) = .ok (some r, it) dbg) : LnSpec D.f x r :=
  ((ln_spec D hv hs hf hint x hx 0).post h).2

theorem log2_accuracy_sharp (D : Layout) (hv : D.valid) (hs : D.signed = true) (hf : 1 ≤ D.f) (hint : 3 ≤ D.intBits)
    (x : Int) (hx : inRange D x) (r : Int) (it : Nat) (dbg : Bool) :
    Trans.run (Trans.log2 D D x) = .ok (some r, it) dbg →
      |(r : ℝ) / 2 ^ D.f - Real.logb 2 ((x : ℝ) / 2 ^ D.f)| ≤ 9 / 2 / 2 ^ D.f := by
  intro h
  exact (log2_real D.f hf x r (log2_trace D ⟨hv, hs, hint⟩ x hx h)).2

/-- C14 for `log2::<S, D>`, any source type admitted by `D: From<S>` (`S = D` included): the function is `log2::<D, D>` on the widened
operand (`log2_widen_fun`), which has the same value -/
theorem log2_accuracy (S D : Layout) (hS : S.valid) (c : Ctx D) (hf : 1 ≤ D.f)
    (hadm : ConvPf.fromAdmissible S D) (x : Int) (hx : inRange S x) (r : Int) (it : Nat) (dbg : Bool) :
    Trans.run (Trans.log2 S D x) = .ok (some r, it) dbg →
      |(r : ℝ) / 2 ^ D.f - Real.logb 2 ((x : ℝ) / 2 ^ S.f)| ≤ 8 / 2 ^ D.f := by
  intro h
  rw [log2_widen_fun S D hS c.hv hadm x hx] at h
  rw [← cast_widen S.f D.f hadm.1 x]
  exact (log2_accuracy_sharp D c.hv c.hs hf c.hint _ (TransFacts.fromS_spec S D hS c.hv (Or.inr hadm) x hx).2 r it dbg h).trans
    (div_le_div_of_nonneg_right (by norm_num) (by positivity))

end Sfx.LogAccPf

namespace Sfx.PowBandPf

/-- `ln::<D, D>` with the constant the proof gives, `5 ulp` (C14 states `8`) -/
theorem ln_accuracy_sharp (D : Layout) (hv : D.valid) (hs : D.signed = true) (hf : 23 ≤ D.f) (hint : 9 ≤ D.intBits)
    (x : Int) (hx : inRange D x) (r : Int) (it : Nat) (dbg : Bool) :
    Trans.run (Trans.ln D D x) = .ok (some r, it) dbg →
      |(r : ℝ) / 2 ^ D.f - Real.log ((x : ℝ) / 2 ^ D.f)| ≤ |Real.log ((x : ℝ) / 2 ^ D.f)| / 2 ^ 23 + 5 / 2 ^ D.f :=
  fun h => (LogAccPf.ln_real D.f hf x r (LogAccPf.ln_trace D hv hs hf hint x hx h)).2

end Sfx.PowBandPf

namespace Sfx.LogAccPf
open Sfx.LogPf Sfx.GridReal

/-- C14 for `ln::<S, D>`, any source type admitted by `D: From<S>` (`S = D` included) -/
theorem ln_accuracy (S D : Layout) (hS : S.valid) (hv : D.valid) (hs : D.signed = true) (hf : 23 ≤ D.f) (hint : 9 ≤ D.intBits)
    (hadm : ConvPf.fromAdmissible S D) (x : Int) (hx : inRange S x) (r : Int) (it : Nat) (dbg : Bool) :
    Trans.run (Trans.ln S D x) = .ok (some r, it) dbg →
      |(r : ℝ) / 2 ^ D.f - Real.log ((x : ℝ) / 2 ^ S.f)| ≤ |Real.log ((x : ℝ) / 2 ^ S.f)| / 2 ^ 23 + 8 / 2 ^ D.f := by
  intro h
  rw [ln_widen_fun S D hS hv hadm x hx] at h
  rw [← cast_widen S.f D.f hadm.1 x]
  exact (PowBandPf.ln_accuracy_sharp D hv hs hf hint _ (TransFacts.fromS_spec S D hS hv (Or.inr hadm) x hx).2 r it dbg h).trans
    (add_le_add_right (div_le_div_of_nonneg_right (by norm_num) (by positivity)) _)

/-! non-vacuity: the hypotheses hold for `I9F23` and `I40F88` -/
example (x r : Int) (it : Nat) (dbg : Bool) (hx : inRange ⟨true, 32, 23⟩ x) :=
  log2_accuracy ⟨true, 32, 23⟩ ⟨true, 32, 23⟩ (by decide) ⟨by decide, rfl, by decide⟩ (by decide)
    (by unfold ConvPf.fromAdmissible; decide) x hx r it dbg
example (x r : Int) (it : Nat) (dbg : Bool) (hx : inRange ⟨true, 128, 88⟩ x) :=
  ln_accuracy ⟨true, 128, 88⟩ ⟨true, 128, 88⟩ (by decide) (by decide) rfl (by decide) (by decide)
    (by unfold ConvPf.fromAdmissible; decide) x hx r it dbg

end Sfx.LogAccPf

#print axioms Sfx.LogAccPf.log2_accuracy_sharp
#print axioms Sfx.LogAccPf.log2_accuracy
#print axioms Sfx.LogAccPf.ln_accuracy
#print axioms Sfx.PowBandPf.ln_accuracy_sharp
