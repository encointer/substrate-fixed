/-
  LogAccDefs.lean — import-free integer description ("trace") of what `transcendental::log2` / `ln` compute, used to connect
  the executable model (`SfxProofs/Log.lean`, core `Int` powers; the two meet in `SfxProofs/LogAcc.lean`) with the real analysis (`SfxProofs/LogAccReal.lean`,
  Mathlib).  No `^` occurs here: `pow2 k` is `2 ^ k` by structural recursion, so that neither side depends on which `Pow`
  instance elaborates.
-/
namespace Sfx.LogAccPf

/-- `2 ^ k` -/
def pow2 : Nat → Int
  | 0 => 1
  | k + 1 => 2 * pow2 k

/-- the fractional loop of `log2_inner` on bit patterns, `F = 2^f`:
`x = x * x` (truncating fixed-point product); `result <<= 1`; `if x >= 2 { result |= 1; x = rs(x) }` -/
def fracPure (F : Int) : Nat → Int → Int → Int
  | 0, _, R => R
  | k + 1, y, R =>
    if 2 * F ≤ y * y / F then fracPure F k ((y * y / F + 1) / 2) (R * 2 + 1)
    else fracPure F k (y * y / F) (R * 2)

/-- `log2_inner` on an operand `x ≥ 1` (bits): `j` rounding halvings `x ↦ ⌈x / 2⌉` lead to `x' ∈ [1, 2)`, hence
`x ≤ 2^j x' ≤ x + 2^j - 1`; then `f` squaring steps starting from `result = j`. -/
def InnerSpec (f : Nat) (x r : Int) : Prop :=
  ∃ (j : Nat) (x' : Int), x ≤ pow2 j * x' ∧ pow2 j * x' ≤ x + pow2 j - 1 ∧ pow2 f ≤ x' ∧ x' < 2 * pow2 f ∧
    r = fracPure (pow2 f) f x' (j : Int)

/-- `log2`: directly on operands `≥ 1`, through the truncated reciprocal `⌊2^(2f) / x⌋` and a negation below `1` -/
def Log2Spec (f : Nat) (x r : Int) : Prop :=
  (pow2 f ≤ x ∧ InnerSpec f x r) ∨
  (0 < x ∧ x < pow2 f ∧ ∃ r', pow2 f ≤ pow2 f * pow2 f / x ∧ InnerSpec f (pow2 f * pow2 f / x) r' ∧ r = -r')

/-- `ln = log2 / LOG2_E` with the `I9F23` constant `12102203 / 2^23` widened to `f` fractional bits, truncating division -/
def LnSpec (f : Nat) (x r : Int) : Prop :=
  ∃ l, Log2Spec f x l ∧ r = Int.tdiv (l * pow2 f) (12102203 * pow2 (f - 23))

end Sfx.LogAccPf
