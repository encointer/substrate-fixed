import Mathlib.Analysis.SpecialFunctions.Log.Base
import Mathlib.Analysis.Complex.ExponentialBounds
import Mathlib.Tactic.Linarith
import Mathlib.Tactic.Ring
import Mathlib.Tactic.Positivity
import Mathlib.Tactic.NormNum
import Mathlib.Tactic.FieldSimp
import SfxProofs.GridReal
import SfxProofs.LogArith
/-
  LogAccReal.lean — real analysis of the integer traces of `LogAccDefs.lean` (no model definitions are involved here): a
  potential-function argument in log space (`Lg`), every loss through one lemma, `logb_sub_le` (`a ≤ b + d`, `d n ≤ b` cost `1.5 / n`):
    * halving loop  x ↦ ⌈x/2⌉ (j times):      0 ≤ log2 x' + j - log2 x ≤ 1.5 · (2^j - 1) / x ≤ 3 ulp (`halve_real`);
    * squaring loop: (R + log2 (y / 2^f)) · 2^-k is invariant up to 1.5 ulp · 2^-(k+1) per step (truncated product, rounding
      shift; `sq_step`, `frac_inv`), total ≤ 1.5 ulp; dropping the final log2 (y / 2^f) ∈ [0, 1) costs < 1 ulp (one-sided);
    * reciprocal for x < 1: 0 ≤ log2 (2^2f / x) - log2 ⌊2^2f / x⌋ ≤ 1.5 ulp (`recip_real`); together `4.5 ulp` (`log2_real`);
    * ln: truncating division < 1 ulp (`lnquot_real`), |2^23 / 12102203 / ln 2 - 1| ≤ 2^-23 from `Real.log_two_gt_d9` / `log_two_lt_d9`
      (`kappa_close`), combined by `ln_combine`: `5 ulp` and `2^-23` relative (`ln_real`).
-/
namespace Sfx.LogAccPf
open Sfx.GridReal

/-- `log2` of a bit pattern; the analysis runs in log space, where the scale `2^f` is an additive constant -/
noncomputable def Lg (n : Int) : ℝ := Real.logb 2 (n : ℝ)

theorem Lg_pow2 (k : Nat) : Lg (pow2 k) = k := by
  unfold Lg
  rw [pow2_cast, Real.logb_pow, Real.logb_self_eq_one (by norm_num), mul_one]

theorem Lg_mul {a b : Int} (ha : 0 < a) (hb : 0 < b) : Lg (a * b) = Lg a + Lg b := by
  unfold Lg
  rw [Int.cast_mul, Real.logb_mul (Int.cast_ne_zero.2 ha.ne') (Int.cast_ne_zero.2 hb.ne')]

theorem Lg_two_mul {a : Int} (ha : 0 < a) : Lg (2 * a) = 1 + Lg a := by
  rw [Lg_mul (by decide) ha]
  congr 1
  show Real.logb 2 ((2 : Int) : ℝ) = 1
  rw [Int.cast_ofNat]
  exact Real.logb_self_eq_one (by norm_num)

theorem Lg_le {a b : Int} (ha : 0 < a) (hab : a ≤ b) : Lg a ≤ Lg b :=
  Real.logb_le_logb_of_le (by norm_num) (Int.cast_pos.2 ha) (Int.cast_le.2 hab)

theorem Lg_lt {a b : Int} (ha : 0 < a) (hab : a < b) : Lg a < Lg b :=
  Real.logb_lt_logb (by norm_num) (Int.cast_pos.2 ha) (Int.cast_lt.2 hab)

theorem log_two_gt : (2 : ℝ) / 3 < Real.log 2 := lt_trans (by norm_num) Real.log_two_gt_d9

/-- `ln (a / b) ≤ a / b - 1 ≤ d / b` and `1 / ln 2 < 3/2` -/
theorem logb_sub_le {a b d n : ℝ} (ha : 0 < a) (hb : 0 < b) (hn : 0 < n) (hd : a ≤ b + d) (hdn : d * n ≤ b) :
    Real.logb 2 a - Real.logb 2 b ≤ 3 / 2 / n := by
  have hl2 := log_two_gt
  have h1 : Real.logb 2 a - Real.logb 2 b = Real.log (a / b) / Real.log 2 := by
    rw [Real.log_div ha.ne' hb.ne', sub_div]
    rfl
  have h2 : Real.log (a / b) ≤ a / b - 1 := Real.log_le_sub_one_of_pos (div_pos ha hb)
  have h3 : a / b - 1 ≤ 1 / n := by
    have := mul_le_mul_of_nonneg_right (sub_le_iff_le_add'.2 hd) hn.le
    rw [div_sub_one hb.ne', div_le_div_iff₀ hb hn]
    linarith only [this, hdn]
  have h4 : 1 / n * (2 / 3) ≤ 1 / n * Real.log 2 := mul_le_mul_of_nonneg_left hl2.le (one_div_pos.2 hn).le
  rw [h1, div_le_iff₀ (by linarith only [hl2]), div_mul_eq_mul_div, div_eq_mul_one_div (3 / 2 * Real.log 2)]
  linarith only [h2, h3, h4]

theorem Lg_sub_le {a b d n : Int} (ha : 0 < a) (hb : 0 < b) (hn : 0 < n) (hd : a ≤ b + d) (hdn : d * n ≤ b) :
    Lg a - Lg b ≤ 3 / 2 / (n : ℝ) :=
  logb_sub_le (d := d) (Int.cast_pos.2 ha) (Int.cast_pos.2 hb) (Int.cast_pos.2 hn) (by exact_mod_cast hd)
    (by exact_mod_cast hdn)

/-- one squaring step `s = ⌊y² / F⌋`, kept (`t = s`) or renormalised (`t = 2 ⌈s / 2⌉`) -/
theorem sq_step (F y s t : Int) (hF : 1 ≤ F) (hy : F ≤ y) (hs : F ≤ s) (h1 : s * F ≤ y * y) (h2 : y * y < s * F + F)
    (ht1 : s ≤ t) (ht2 : t ≤ s + 1) : |Lg t + Lg F - 2 * Lg y| ≤ 3 / 2 / (F : ℝ) := by
  have a1 : s * F ≤ t * F := Int.mul_le_mul_of_nonneg_right ht1 (by omega)
  have a2 : t * F ≤ (s + 1) * F := Int.mul_le_mul_of_nonneg_right ht2 (by omega)
  rw [Int.add_mul, Int.one_mul] at a2
  have a3 : F * F ≤ s * F := Int.mul_le_mul_of_nonneg_right hs (by omega)
  have a4 : F * F ≤ y * y := Int.mul_le_mul hy hy (by omega) (by omega)
  have a5 : 0 < F * F := Int.mul_pos (by omega) (by omega)
  have u := Lg_sub_le (a := t * F) (b := y * y) (d := F) (n := F) (by omega) (by omega) (by omega) (by omega) a4
  have l := Lg_sub_le (a := y * y) (b := t * F) (d := F) (n := F) (by omega) (by omega) (by omega) (by omega) (by omega)
  rw [Lg_mul (by omega) (by omega), Lg_mul (by omega) (by omega)] at u l
  rw [two_mul]
  exact abs_sub_le_iff.2 ⟨u, l⟩

theorem pot_step {P c Φ Φ' η r : ℝ} (hP : 0 ≤ P) (hη : |η| ≤ c) (he : Φ' = 2 * Φ + η)
    (h1 : r ≤ P * Φ' + c * (P - 1)) (h2 : P * Φ' - c * (P - 1) - 1 < r) :
    r ≤ P * 2 * Φ + c * (P * 2 - 1) ∧ P * 2 * Φ - c * (P * 2 - 1) - 1 < r := by
  obtain ⟨e1, e2⟩ := abs_le.1 hη
  have m1 := mul_le_mul_of_nonneg_left e1 hP
  have m2 := mul_le_mul_of_nonneg_left e2 hP
  subst he
  exact ⟨by linarith only [h1, m2], by linarith only [h2, m1]⟩

/-- the potential `(R + log2 (y / F)) * 2^k` is preserved by the squaring loop up to `1.5 / F` per unit, and the final
`log2 (y / F) ∈ [0, 1)` is dropped -/
theorem frac_inv (F : Int) (hF : 1 ≤ F) : ∀ (k : Nat) (y R : Int), F ≤ y → y < 2 * F →
    ((fracPure F k y R : Int) : ℝ) ≤ 2 ^ k * ((R : ℝ) + Lg y - Lg F) + 3 / 2 / (F : ℝ) * (2 ^ k - 1) ∧
    2 ^ k * ((R : ℝ) + Lg y - Lg F) - 3 / 2 / (F : ℝ) * (2 ^ k - 1) - 1 < ((fracPure F k y R : Int) : ℝ)
  | 0, y, R, h1, h2 => by
    have a := Lg_le (show (0 : Int) < F by omega) h1
    have b := Lg_lt (show (0 : Int) < y by omega) h2
    rw [Lg_two_mul (by omega)] at b
    simp only [fracPure, pow_zero, sub_self, mul_zero, one_mul, add_zero, sub_zero]
    exact ⟨by linarith only [a], by linarith only [b]⟩
  | k + 1, y, R, h1, h2 => by
    obtain ⟨b1, b2⟩ := sq_bounds F y hF h1 h2
    obtain ⟨d1, d2⟩ := floor_bracket (y * y) (D := F) (by omega)
    have hP : (0 : ℝ) ≤ 2 ^ k := by positivity
    rw [fracPure_succ, pow_succ]
    generalize y * y / F = s at *
    by_cases hge : 2 * F ≤ s
    · rw [if_pos hge]
      obtain ⟨i1, i2⟩ := frac_inv F hF k ((s + 1) / 2) (R * 2 + 1) (by omega) (by omega)
      have hη := sq_step F y s (2 * ((s + 1) / 2)) hF h1 b1 d1 d2 (by omega) (by omega)
      rw [Lg_two_mul (by omega)] at hη
      exact pot_step hP hη (by push_cast; ring) i1 i2
    · rw [if_neg hge]
      obtain ⟨i1, i2⟩ := frac_inv F hF k s (R * 2) (by omega) (by omega)
      exact pot_step hP (sq_step F y s s hF h1 b1 d1 d2 (Int.le_refl s) (by omega)) (by push_cast; ring) i1 i2

/-- the halving loop: `x ≤ P x' ≤ x + P - 1` with `P = 2^j`, `x' ≥ F` loses at most `1.5 (P - 1) / x ≤ 3 / F` -/
theorem halve_real (P x x' F : Int) (hP : 1 ≤ P) (hF : 2 ≤ F) (hx' : F ≤ x') (h1 : x ≤ P * x')
    (h2 : P * x' ≤ x + P - 1) :
    0 < x ∧ 0 ≤ Lg x' + Lg P - Lg x ∧ (F : ℝ) * (Lg x' + Lg P - Lg x) ≤ 3 := by
  have hPF : P * F ≤ P * x' := Int.mul_le_mul_of_nonneg_left hx' (by omega)
  have hPF2 : P * 2 ≤ P * F := Int.mul_le_mul_of_nonneg_left hF (by omega)
  have hx0 : 0 < x := by omega
  have hF' : (0 : ℝ) < (F : ℝ) / 2 := half_pos (Int.cast_pos.2 (by omega))
  have i1 : (P : ℝ) * F ≤ x + P - 1 := by exact_mod_cast hPF.trans h2
  have i2 : (P : ℝ) * 2 ≤ (P : ℝ) * F := by exact_mod_cast hPF2
  have e := logb_sub_le (a := ((P * x' : Int) : ℝ)) (b := x) (d := (P : ℝ) - 1) (Int.cast_pos.2 (by omega))
    (Int.cast_pos.2 hx0) hF' (by exact_mod_cast (show P * x' ≤ x + (P - 1) by omega)) (by linarith only [i1, i2, hF'])
  have e0 := Lg_le hx0 h1
  rw [show Real.logb 2 ((P * x' : Int) : ℝ) = Lg (P * x') from rfl, show Real.logb 2 (x : ℝ) = Lg x from rfl,
    le_div_iff₀ hF'] at e
  rw [Lg_mul (by omega) (by omega)] at e e0
  exact ⟨hx0, by linarith only [e0], by linarith only [e]⟩

theorem inner_real (f : Nat) (hf : 1 ≤ f) (x r : Int) (h : InnerSpec f x r) :
    0 < x ∧ (2 : ℝ) ^ f * (Lg x - f) - 5 / 2 < (r : ℝ) ∧ (r : ℝ) ≤ (2 : ℝ) ^ f * (Lg x - f) + 9 / 2 := by
  obtain ⟨j, x', h1, h2, h3, h4, hr⟩ := h
  have hF2 : 2 ≤ pow2 f := by
    obtain ⟨g, rfl⟩ : ∃ g, f = g + 1 := ⟨f - 1, by omega⟩
    have := pow2_pos g
    show 2 ≤ 2 * pow2 g
    omega
  obtain ⟨hx0, a1, a2⟩ := halve_real (pow2 j) x x' (pow2 f) (one_le_pow2 j) hF2 h3 h1 h2
  obtain ⟨i1, i2⟩ := frac_inv (pow2 f) (by omega) f x' (j : Int) h3 h4
  rw [← hr, Lg_pow2, pow2_cast] at i1 i2
  rw [Lg_pow2, pow2_cast] at a2
  rw [Lg_pow2] at a1
  have hG : (0 : ℝ) < 2 ^ f := by positivity
  have e := div_mul_cancel₀ (3 / 2 : ℝ) hG.ne'
  have hc := div_pos (show (0 : ℝ) < 3 / 2 by norm_num) hG
  have a3 := mul_nonneg hG.le a1
  push_cast at i1 i2
  generalize (3 / 2 : ℝ) / 2 ^ f = c at i1 i2 e hc
  generalize Lg x' = a at i1 i2 a2 a3
  generalize Lg x = b at a2 a3 ⊢
  generalize (2 : ℝ) ^ f = G at i1 i2 a2 a3 e ⊢
  exact ⟨hx0, by linarith only [i2, e, a3, hc], by linarith only [i1, e, a2, hc]⟩

theorem recip_real (F x : Int) (hF : 1 ≤ F) (hx0 : 0 < x) (hinv : F ≤ F * F / x) :
    0 ≤ 2 * Lg F - Lg (F * F / x) - Lg x ∧ (F : ℝ) * (2 * Lg F - Lg (F * F / x) - Lg x) ≤ 3 / 2 := by
  obtain ⟨d1, d2⟩ := floor_bracket (F * F) hx0
  generalize F * F / x = v at *
  have d3 : x * F ≤ v * x := by
    rw [Int.mul_comm x F]
    exact Int.mul_le_mul_of_nonneg_right hinv (by omega)
  have hvx : 0 < v * x := Int.mul_pos (by omega) hx0
  have e1 := Lg_le hvx d1
  have e2 := Lg_sub_le (a := F * F) (b := v * x) (d := x) (n := F) (by omega) hvx (by omega) (by omega) d3
  rw [Lg_mul (a := F) (b := F) (by omega) (by omega), Lg_mul (a := v) (by omega) hx0] at e1 e2
  rw [le_div_iff₀ (Int.cast_pos.2 (by omega))] at e2
  exact ⟨by linarith only [e1], by linarith only [e2]⟩

theorem logb_val (f : Nat) (x : Int) (hx : 0 < x) : Real.logb 2 ((x : ℝ) / 2 ^ f) = Lg x - f := by
  rw [Real.logb_div (Int.cast_ne_zero.2 hx.ne') (by positivity), Real.logb_pow, Real.logb_self_eq_one (by norm_num), mul_one]
  rfl

theorem log2_real (f : Nat) (hf : 1 ≤ f) (x r : Int) (h : Log2Spec f x r) :
    0 < x ∧ |(r : ℝ) / 2 ^ f - Real.logb 2 ((x : ℝ) / 2 ^ f)| ≤ 9 / 2 / 2 ^ f := by
  have hG : (0 : ℝ) < 2 ^ f := by positivity
  rcases h with ⟨_, hi⟩ | ⟨hx0, hxF, r', hinv, hi, hr⟩
  · obtain ⟨hx0, a1, a2⟩ := inner_real f hf x r hi
    refine ⟨hx0, ?_⟩
    rw [logb_val f x hx0]
    exact abs_val_le hG (by linarith only [a1]) a2
  · obtain ⟨_, a1, a2⟩ := inner_real f hf _ r' hi
    obtain ⟨b1, b2⟩ := recip_real (pow2 f) x (one_le_pow2 f) hx0 hinv
    refine ⟨hx0, ?_⟩
    rw [logb_val f x hx0]
    rw [Lg_pow2] at b1 b2
    rw [pow2_cast] at b2
    have b3 := mul_nonneg hG.le b1
    subst hr
    push_cast
    exact abs_val_le hG (by linarith only [a2, b3]) (by linarith only [a1, b2])

/-- `κ = 2^23 / 12102203 = 1 / LOG2_E₂₃` agrees with `ln 2` to a relative `2^-23` (in fact `1.4e-8`) -/
theorem kappa_close : |(8388608 / 12102203 : ℝ) / Real.log 2 - 1| ≤ 1 / 2 ^ 23 := by
  have h1 := Real.log_two_gt_d9
  have h2 := Real.log_two_lt_d9
  have hl : 0 < Real.log 2 := Real.log_pos (by norm_num)
  rw [div_sub_one hl.ne', abs_div, abs_of_pos hl, div_le_iff₀ hl]
  exact abs_le.2 ⟨by linarith only [h1, h2], by linarith only [h1, h2]⟩

theorem lnquot_real (f : Nat) (hf : 23 ≤ f) (l : Int) :
    |((Int.tdiv (l * pow2 f) (12102203 * pow2 (f - 23)) : Int) : ℝ) - (l : ℝ) * (8388608 / 12102203)| ≤ 1 := by
  have hsplit : pow2 f = 8388608 * pow2 (f - 23) := by
    rw [show f = 23 + (f - 23) by omega, pow2_add, Nat.add_sub_cancel_left]
    rfl
  rw [hsplit, ← Int.mul_assoc, Int.mul_tdiv_mul_of_pos_left _ _ (pow2_pos _)]
  obtain ⟨b1, b2⟩ := tdiv_bounds (l * 8388608) 12102203 (by decide)
  generalize Int.tdiv (l * 8388608) 12102203 = r at *
  have b1' : (12102203 : ℝ) * r - 12102203 < l * 8388608 := by exact_mod_cast b1
  have b2' : (l : ℝ) * 8388608 < 12102203 * r + 12102203 := by exact_mod_cast b2
  exact abs_le.2 ⟨by linarith only [b2'], by linarith only [b1']⟩

theorem ln_combine {r l G Lx κ ε ln2 c C : ℝ} (hG : 0 < G) (hκ0 : 0 ≤ κ) (hκ : 1 + κ * c ≤ C)
    (hq : |r - l * κ| ≤ 1) (hlb : |l / G - Lx / ln2| ≤ c / G) (hk : |κ / ln2 - 1| ≤ ε) :
    |r / G - Lx| ≤ |Lx| * ε + C / G := by
  have ident : r / G - Lx = (r - l * κ) / G + κ * (l / G - Lx / ln2) + Lx * (κ / ln2 - 1) := by ring
  rw [ident]
  refine (abs_add_three _ _ _).trans ?_
  rw [abs_div, abs_of_pos hG, abs_mul, abs_of_nonneg hκ0, abs_mul]
  have t1 := div_le_div_of_nonneg_right hq hG.le
  have t2 := mul_le_mul_of_nonneg_left hlb hκ0
  have t3 := mul_le_mul_of_nonneg_left hk (abs_nonneg Lx)
  have t4 := div_le_div_of_nonneg_right hκ hG.le
  have e : 1 / G + κ * (c / G) = (1 + κ * c) / G := by ring
  linarith only [t1, t2, t3, t4, e]

/-- `ln`: relative `2^-23` from the 23-bit constant plus `1 + 4.5 κ < 5 ulp` -/
theorem ln_real (f : Nat) (hf : 23 ≤ f) (x r : Int) (h : LnSpec f x r) :
    0 < x ∧ |(r : ℝ) / 2 ^ f - Real.log ((x : ℝ) / 2 ^ f)| ≤ |Real.log ((x : ℝ) / 2 ^ f)| / 2 ^ 23 + 5 / 2 ^ f := by
  obtain ⟨l, hl, hr⟩ := h
  obtain ⟨hx0, hlb⟩ := log2_real f (by omega) x l hl
  have hq := lnquot_real f hf l
  rw [← hr] at hq
  have h5 := ln_combine (C := 5) (by positivity) (by norm_num) (by norm_num) hq hlb kappa_close
  rw [mul_one_div] at h5
  exact ⟨hx0, h5⟩

end Sfx.LogAccPf
