import Mathlib.Tactic.Ring
import Mathlib.Tactic.Linarith
import SfxProofs.LogAccDefs
import SfxProofs.PrimLemmas
/-
  LogArith.lean — the integer arithmetic behind `transcendental::log2` / `ln`: `pow2`, one squaring step on `[1, 2)`, the pure
  squaring loop `fracPure` of `LogAccDefs.lean`, truncating division.  No `^` occurs in a statement but that of `pow2_eq`, so the file
  serves both the model side (core `Int` powers) and the real analysis.
-/
namespace Sfx.LogAccPf

theorem pow2_pos : ∀ k : Nat, 0 < pow2 k
  | 0 => Int.one_pos
  | k + 1 => Int.mul_pos (by decide) (pow2_pos k)

theorem one_le_pow2 (k : Nat) : 1 ≤ pow2 k := pow2_pos k

theorem pow2_add (a : Nat) : ∀ b : Nat, pow2 (a + b) = pow2 a * pow2 b
  | 0 => (Int.mul_one _).symm
  | b + 1 => by
    show 2 * pow2 (a + b) = pow2 a * (2 * pow2 b)
    rw [pow2_add a b, Int.mul_left_comm]

attribute [-instance] Monoid.toNPow in
/-- the `^` is core's `Int.pow` (the instance of Mathlib is switched off for this one statement), as in the model and in the files that
state facts about it -/
theorem pow2_eq : ∀ k : Nat, pow2 k = 2 ^ k
  | 0 => rfl
  | k + 1 => by rw [Int.pow_succ, Int.mul_comm, ← pow2_eq k]; rfl

/-- squaring a value of `[1, 2)`: the product stays in `[1, 4)` and, after `rs`, strictly below `2` -/
theorem sq_bounds (F y : Int) (hF : 1 ≤ F) (h1 : F ≤ y) (h2 : y < 2 * F) : F ≤ y * y / F ∧ y * y / F < 4 * F - 1 := by
  constructor
  · apply (Int.le_ediv_iff_mul_le (by omega)).2
    exact Int.mul_le_mul h1 h1 (by omega) (by omega)
  · apply (Int.ediv_lt_iff_lt_mul (by omega)).2
    have a : y * y ≤ (2 * F - 1) * (2 * F - 1) := Int.mul_le_mul (by omega) (by omega) (by omega) (by omega)
    have b : (2 * F - 1) * (2 * F - 1) = 4 * (F * F) - 4 * F + 1 := by ring
    have d : (4 * F - 1) * F = 4 * (F * F) - F := by ring
    omega

theorem fracPure_succ (F : Int) (k : Nat) (y R : Int) :
    fracPure F (k + 1) y R = if 2 * F ≤ y * y / F then fracPure F k ((y * y / F + 1) / 2) (R * 2 + 1)
      else fracPure F k (y * y / F) (R * 2) := rfl

/-- each round appends one bit to `R`, whatever `y` is -/
theorem fracPure_bounds (F : Int) : ∀ (k : Nat) (y R : Int),
    R * pow2 k ≤ fracPure F k y R ∧ fracPure F k y R < (R + 1) * pow2 k
  | 0, y, R => by
    show R * 1 ≤ R ∧ R < (R + 1) * 1
    omega
  | k + 1, y, R => by
    have hP := pow2_pos k
    rw [fracPure_succ]
    show R * (2 * pow2 k) ≤ _ ∧ _ < (R + 1) * (2 * pow2 k)
    split
    · obtain ⟨l1, l2⟩ := fracPure_bounds F k ((y * y / F + 1) / 2) (R * 2 + 1)
      constructor <;> linarith
    · obtain ⟨l1, l2⟩ := fracPure_bounds F k (y * y / F) (R * 2)
      constructor <;> linarith

theorem fracPure_one (F : Int) (hF : 1 ≤ F) : ∀ (k : Nat) (R : Int), fracPure F k F R = R * pow2 k
  | 0, R => (Int.mul_one R).symm
  | k + 1, R => by
    have hd : F * F / F = F := Int.mul_ediv_cancel F (by omega)
    rw [fracPure_succ, hd, if_neg (by omega), fracPure_one F hF k (R * 2), Int.mul_assoc]
    rfl

theorem tdiv_shrink (l F d : Int) (hF : 0 < F) (hd : F ≤ d) :
    (0 ≤ l → 0 ≤ Int.tdiv (l * F) d ∧ Int.tdiv (l * F) d ≤ l) ∧
    (l ≤ 0 → l ≤ Int.tdiv (l * F) d ∧ Int.tdiv (l * F) d ≤ 0) := by
  have key : ∀ a : Int, 0 ≤ a → 0 ≤ Int.tdiv (a * F) d ∧ Int.tdiv (a * F) d ≤ a := by
    intro a ha
    have haF : 0 ≤ a * F := Int.mul_nonneg ha (by omega)
    rw [Int.tdiv_eq_ediv_of_nonneg haF]
    refine ⟨Int.ediv_nonneg haF (by omega), ?_⟩
    apply Int.le_of_lt_add_one
    apply (Int.ediv_lt_iff_lt_mul (by omega)).2
    have h1 : a * F ≤ a * d := Int.mul_le_mul_of_nonneg_left hd ha
    have h2 : (a + 1) * d = a * d + d := by rw [Int.add_mul, Int.one_mul]
    omega
  refine ⟨key l, fun hl => ?_⟩
  have h := key (-l) (by omega)
  rw [Int.neg_mul, Int.neg_tdiv] at h
  omega

theorem tdiv_bounds (a d : Int) (hd : 0 < d) : d * Int.tdiv a d - d < a ∧ a < d * Int.tdiv a d + d := by
  obtain ⟨r, h, h1, h2⟩ := tdiv_rem a d hd
  constructor <;> omega

end Sfx.LogAccPf
