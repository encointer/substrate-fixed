import SfxProofs.Log
/-
  Pairs.lean — `exp::<S, D>`, `pow::<S, D>`, `powi::<S, D>` for a source type `S ≠ D` with `D: From<S>` reduce to the
  same-type instances `exp::<D, D>` … on the losslessly widened operand `x · 2^(D.f − S.f)`.

  The only operand where the two sides differ is `exp` at `x = S::MIN`: the source-side `checked_neg` returns `Err` at once
  (`exp_widen_min`), whereas the widened operand can be negated in `D` when `D` has more integer bits.  Both sides return `Err`
  in all evaluated cases but the iteration counters differ, so `exp_widen_fun` excludes `x = S.min` and `exp_widen_min` states
  what happens there.

  What the reductions need of a layout is `LogPf.Ctx` (valid, signed, room for the constants `1` and `2`); the supported types of C12
  satisfy it.  Core powers (`Int.instNatPow`) throughout, as in the model.
-/
attribute [-instance] Monoid.toNPow

namespace Sfx.PairsPf
open Sfx.SqrtPf Sfx.TransFacts Sfx.ConvPf Sfx.ExpPf Sfx.LogPf

theorem neg_inRange {S : Layout} (c : Ctx S) (x : Int) (hx : inRange S x) (hmin : x ≠ S.min) : inRange S (-x) := by
  rw [c.inRange_iff] at hx ⊢
  rw [c.min_eq] at hmin
  omega

theorem min_not_inRange_neg {S : Layout} (c : Ctx S) : ¬ inRange S (-S.min) := by
  have := two_pow_pos (S.n - 1)
  rw [c.inRange_iff, c.min_eq]
  omega

theorem exp_widen_fun (S D : Layout) (hS : Ctx S) (hD : Ctx D) (hadm : fromAdmissible S D) (x : Int) (hx : inRange S x)
    (hmin : x ≠ S.min) :
    Trans.exp S D x = Trans.exp D D (x * 2 ^ (D.f - S.f)) := by
  have cS := hS.conv
  have cD := hD.conv
  have hSv := hS.hv
  have hDv := hD.hv
  obtain ⟨hfrom, hx'⟩ := TransFacts.fromS_spec S D hSv hDv (Or.inr hadm) x hx
  obtain ⟨t2, t0, _, _, t1, _⟩ := widen_order S D hadm.1 x
  unfold Trans.exp
  rw [cS.eq0 x hx, cD.eq0 _ hx', cS.eq1 x hx, cD.eq1 _ hx', cS.lt0 x hx, cD.lt0 _ hx']
  simp only [decide_eq_true_eq, t0, t1, t2]
  by_cases hneg : x < 0
  · have hnx : inRange S (-x) := neg_inRange hS x hx hmin
    obtain ⟨hfromN, hnx'⟩ := TransFacts.fromS_spec S D hSv hDv (Or.inr hadm) (-x) hnx
    rw [Int.neg_mul] at hfromN hnx'
    simp only [hneg, if_true, checkedNeg_eq, Layout.chk_of_in S hnx, Layout.chk_of_in D hnx', liftOpt_some_bind, hfromN, fromS_same]
  · simp only [hneg, if_false, pure_bind', hfrom, fromS_same]

/-- `exp::<S, D>(S::MIN)` is `Err`, without a single loop iteration (`checked_neg` of the source fails) -/
theorem exp_widen_min (S D : Layout) (hS : Ctx S) :
    Trans.run (Trans.exp S D S.min) = .ok (none, 0) false := by
  have cS := hS.conv
  have hP := two_pow_pos (S.n - 1)
  have hF := two_pow_pos S.f
  have hm := hS.min_eq
  have hx : inRange S S.min := by rw [hS.inRange_iff, hm]; omega
  unfold Trans.run
  unfold Trans.exp
  rw [cS.eq0 _ hx, cS.eq1 _ hx, cS.lt0 _ hx]
  simp only [decide_eq_true_eq]
  rw [if_neg (by omega), if_neg (by omega), if_pos (by omega), checkedNeg_eq, Layout.chk_of_not_in S (min_not_inRange_neg hS),
    liftOpt_none_bind]

/-- the hypothesis `x ≠ S.min` of `exp_widen_fun` cannot be dropped: at `exp::<I9F23, I32F32>(MIN)` the source-side `checked_neg`
fails at once, while `exp::<I32F32, I32F32>(−256.0)` negates, runs four loop iterations and then overflows.  Both are `Err`
(C15 says nothing about `Err`), only the iteration counters differ. -/
theorem exp_widen_eq_min_counterexample :
    Trans.run (Trans.exp ⟨true, 32, 23⟩ ⟨true, 64, 32⟩ (-(2 ^ 31))) = .ok (none, 0) false ∧
    Trans.run (Trans.exp ⟨true, 64, 32⟩ ⟨true, 64, 32⟩ (-(2 ^ 31) * 2 ^ (32 - 23))) = .ok (none, 4) false := by
  refine ⟨by decide +kernel, by decide +kernel⟩

theorem powi_widen_fun (S D : Layout) (hSv : S.valid) (hDv : D.valid) (hadm : fromAdmissible S D) (x : Int) (hx : inRange S x)
    (n : Int) :
    Trans.powi S D x n = Trans.powi D D (x * 2 ^ (D.f - S.f)) n := by
  obtain ⟨hfrom, hx'⟩ := TransFacts.fromS_spec S D hSv hDv (Or.inr hadm) x hx
  obtain ⟨_, t0, _⟩ := widen_order S D hadm.1 x
  unfold Trans.powi
  simp only [fromNum0 S hSv, fromNum0 D hDv, liftO_bind, t0, hfrom, fromS_same]

theorem pow_widen_fun (S D : Layout) (hS : Ctx S) (hD : Ctx D) (hadm : fromAdmissible S D) (x y : Int)
    (hx : inRange S x) (hy : inRange S y) :
    Trans.pow S D x y = Trans.pow D D (x * 2 ^ (D.f - S.f)) (y * 2 ^ (D.f - S.f)) := by
  have oS := hS.conv.fromNum1
  have oD := hD.conv.fromNum1
  obtain ⟨hSv, hSs, _⟩ := hS
  obtain ⟨hDv, hDs, _⟩ := hD
  obtain ⟨hfromx, hx'⟩ := TransFacts.fromS_spec S D hSv hDv (Or.inr hadm) x hx
  obtain ⟨hfromy, hy'⟩ := TransFacts.fromS_spec S D hSv hDv (Or.inr hadm) y hy
  obtain ⟨_, tx0, _⟩ := widen_order S D hadm.1 x
  obtain ⟨_, ty0, _, _, ty1, _⟩ := widen_order S D hadm.1 y
  unfold Trans.pow
  simp only [fromNum0 S hSv, fromNum0 D hDv, oS, oD, liftO_bind, tx0, ty0, ty1, hfromx, hfromy, fromS_same,
    ln_widen_fun S D hSv hDv hadm x hx]

theorem widen_inRange (S D : Layout) (hSv : S.valid) (hDv : D.valid) (hadm : fromAdmissible S D) (x : Int) (hx : inRange S x) :
    inRange D (x * 2 ^ (D.f - S.f)) :=
  (TransFacts.fromS_spec S D hSv hDv (Or.inr hadm) x hx).2

/-! ### the reductions packaged for the real-valued statements (the widened operand as an abstract integer `w`) -/

theorem exp_widen_ex (S D : Layout) (hS : Ctx S) (hD : Ctx D) (hadm : fromAdmissible S D) (x : Int) (hx : inRange S x)
    (hmin : x ≠ S.min) :
    ∃ w : Int, w = x * 2 ^ (D.f - S.f) ∧ inRange D w ∧ Trans.run (Trans.exp S D x) = Trans.run (Trans.exp D D w) :=
  ⟨_, rfl, widen_inRange S D hS.hv hD.hv hadm x hx, by rw [exp_widen_fun S D hS hD hadm x hx hmin]⟩

theorem powi_widen_ex (S D : Layout) (hSv : S.valid) (hDv : D.valid) (hadm : fromAdmissible S D) (x : Int) (hx : inRange S x) :
    ∃ w : Int, w = x * 2 ^ (D.f - S.f) ∧ inRange D w ∧ (w = 0 ↔ x = 0) ∧
      ∀ n : Int, Trans.run (Trans.powi S D x n) = Trans.run (Trans.powi D D w n) :=
  ⟨_, rfl, widen_inRange S D hSv hDv hadm x hx, (widen_order S D hadm.1 x).2.1, fun n => by rw [powi_widen_fun S D hSv hDv hadm x hx n]⟩

theorem pow_widen_ex (S D : Layout) (hS : Ctx S) (hD : Ctx D) (hadm : fromAdmissible S D) (x y : Int)
    (hx : inRange S x) (hy : inRange S y) :
    ∃ w v : Int, w = x * 2 ^ (D.f - S.f) ∧ v = y * 2 ^ (D.f - S.f) ∧ inRange D w ∧ inRange D v ∧ (0 < x → 0 < w) ∧
      Trans.run (Trans.pow S D x y) = Trans.run (Trans.pow D D w v) :=
  ⟨_, _, rfl, rfl, widen_inRange S D hS.hv hD.hv hadm x hx, widen_inRange S D hS.hv hD.hv hadm y hy,
    (widen_order S D hadm.1 x).2.2.1.2, by rw [pow_widen_fun S D hS hD hadm x y hx hy]⟩

end Sfx.PairsPf

#print axioms Sfx.PairsPf.exp_widen_min
#print axioms Sfx.PairsPf.exp_widen_eq_min_counterexample
