import SfxProps.C15Acc
/-
  PairsC15.lean — the powi clause of C15 over the reals, and the statement of C15 for pairs of types.
    * `C15_powi_real_tight`: for `S = D`, the exact integer bound of `C15_partial`, `|r·F^k − x^(k+1)| ≤ k·max(F,|x|)^k` (`F = 2^f`), divided
      by `F^(k+1)` (`powi_real_core`): within `(n − 1) ulp · max(1, |x|)^(n−1)` of `x^n`; `powi_loosen` relaxes `n − 1` to the `n + 1` of the
      property's sentence;
    * `C15_powi_pairs_tight`: the same for `powi::<S, D>` with `D: From<S>`, through the reduction `powi_widen_ex` of SfxProofs/Pairs.lean
      (`powi_pairs_run`: the operand is converted losslessly, everything else runs in `D`, the value of the operand is unchanged);
    * `C15_pairs_statement`: the full statement of C15 over pairs (false, `C15.pairs_statement_false`).
  The exp and pow clauses for pairs are `ExpAccPf.exp_accuracy` and `PowAccPf.pow_accuracy` themselves.

  The theorems are elaborated with Mathlib's power instance (real powers), the closing example with core `Int` powers.
-/
namespace Sfx.PairsPf
open Sfx.C15 Sfx.C12 Sfx.ConvPf

theorem powi_real_core (F X R : ℝ) (k : ℕ) (hF : 0 < F)
    (h : |R * F ^ k - X ^ (k + 1)| ≤ (k : ℝ) * (max F |X|) ^ k) :
    |R / F - (X / F) ^ (k + 1)| ≤ (k : ℝ) / F * (max 1 |X / F|) ^ k := by
  have hFk : 0 < F ^ k := pow_pos hF k
  have hFk1 : 0 < F ^ (k + 1) := pow_pos hF _
  have e1 : R / F - (X / F) ^ (k + 1) = (R * F ^ k - X ^ (k + 1)) / F ^ (k + 1) := by
    rw [div_pow, pow_succ]
    field_simp
    ring
  have e2 : max 1 |X / F| = max F |X| / F := by
    rw [abs_div, abs_of_pos hF, ← max_div_div_right hF.le, div_self hF.ne']
  rw [e1, abs_div, abs_of_pos hFk1, e2, div_pow, div_le_iff₀ hFk1]
  refine le_trans h (le_of_eq ?_)
  rw [pow_succ]
  field_simp

theorem powi_loosen {A F B a b : ℝ} (hF : 0 < F) (hB : 0 ≤ B) (hab : a ≤ b) (h : A ≤ a / F * B) : A ≤ b / F * B :=
  h.trans (mul_le_mul_of_nonneg_right (div_le_div_of_nonneg_right hab hF.le) hB)

theorem powi_real_weaken (F A B : ℝ) (k : ℕ) (n : ℝ) (hF : 0 < F) (hB : 0 ≤ B) (hk : (k : ℝ) ≤ n + 1)
    (h : A ≤ (k : ℝ) / F * B) : A ≤ (n + 1) / F * B :=
  powi_loosen hF hB hk h

/-- powi, `n ≥ 2`, same type, the sharp constant: within `(n − 1) ulp · max(1, |x|)^(n−1)` of `x^n` -/
theorem C15_powi_real_tight (D : Layout) (h : Supp D) (x : Int) (hx : inRange D x) (n : Int) :
    ∀ r it dbg, 2 ≤ n → Trans.run (Trans.powi D D x n) = .ok (some r, it) dbg →
      |val D.f r - (val D.f x) ^ n.toNat| ≤ ((n : ℝ) - 1) / (2 : ℝ) ^ D.f * (max 1 |val D.f x|) ^ (n.toNat - 1) := by
  intro r it dbg hn he
  obtain ⟨F, M, k, hF, hM, hk, hkn, hb⟩ := ExpPf.powi_int_bound D h.valid h.ok.facts.oneR x hx n hn r it dbg he
  have hFr : (F : ℝ) = (2 : ℝ) ^ D.f := by
    rw [hF]; push_cast; rfl
  have hMr : (M : ℝ) = max (F : ℝ) |(x : ℝ)| := by
    rw [hM]; push_cast; rfl
  have hb' : |(r : ℝ) * (F : ℝ) ^ k - (x : ℝ) ^ (k + 1)| ≤ (k : ℝ) * (max (F : ℝ) |(x : ℝ)|) ^ k := by
    rw [← hMr]
    rw [Int.natCast_natAbs] at hb
    exact_mod_cast hb
  have hF0 : (0 : ℝ) < (F : ℝ) := by rw [hFr]; positivity
  have key := powi_real_core (F : ℝ) (x : ℝ) (r : ℝ) k hF0 hb'
  have hkr : (k : ℝ) = (n : ℝ) - 1 := by
    have : ((k : Int) : ℝ) = ((n - 1 : Int) : ℝ) := by rw [hkn]
    push_cast at this
    exact this
  have hk1 : n.toNat - 1 = k := by omega
  rw [hk1, hk]
  unfold val
  rw [← hFr, ← hkr]
  exact key

theorem powi_pairs_run (S D : Layout) (hS : S.valid) (hD : D.valid) (hadm : fromAdmissible S D) (x : Int) (hx : inRange S x) (n : Int)
    {r : Int} {it : Nat} {dbg : Bool} (he : Trans.run (Trans.powi S D x n) = .ok (some r, it) dbg) :
    ∃ w : Int, inRange D w ∧ val D.f w = val S.f x ∧ Trans.run (Trans.powi D D w n) = .ok (some r, it) dbg := by
  obtain ⟨w, hw, hwin, _, hrun⟩ := powi_widen_ex S D hS hD hadm x hx
  exact ⟨w, hwin, by rw [hw]; exact GridReal.cast_widen S.f D.f hadm.1 x, hrun n ▸ he⟩

theorem C15_powi_pairs_tight (S D : Layout) (hS : Supp S) (hD : Supp D) (hadm : fromAdmissible S D) (x : Int) (hx : inRange S x)
    (n : Int) :
    ∀ r it dbg, 2 ≤ n → Trans.run (Trans.powi S D x n) = .ok (some r, it) dbg →
      |val D.f r - (val S.f x) ^ n.toNat| ≤ ((n : ℝ) - 1) / (2 : ℝ) ^ D.f * (max 1 |val S.f x|) ^ (n.toNat - 1) := by
  intro r it dbg hn he
  obtain ⟨w, hwin, hval, he'⟩ := powi_pairs_run S D hS.valid hD.valid hadm x hx n he
  rw [← hval]
  exact C15_powi_real_tight D hD w hwin n r it dbg hn he'

/-- FULL statement of C15 over pairs of types (`S = D` is the instance `C15_statement`) -/
def C15_pairs_statement : Prop :=
  ∀ S D : Layout, Supp S → Supp D → fromAdmissible S D → ∀ x y : Int, inRange S x → inRange S y → ∀ n : Int,
    (∀ r it dbg, Trans.run (Trans.exp S D x) = .ok (some r, it) dbg →
      |val D.f r - Real.exp (val S.f x)| ≤ Real.exp (val S.f x) / (2 : ℝ) ^ 20 + 64 / (2 : ℝ) ^ D.f) ∧
    (∀ r it dbg, 0 < x → Trans.run (Trans.pow S D x y) = .ok (some r, it) dbg →
      |val D.f r - (val S.f x) ^ (val S.f y)| ≤
        (1 / (2 : ℝ) ^ 18 + |val S.f y * Real.log (val S.f x)| / (2 : ℝ) ^ 22 + 16 * |val S.f y| / (2 : ℝ) ^ D.f) * (val S.f x) ^ (val S.f y)
          + 64 / (2 : ℝ) ^ D.f) ∧
    (∀ r it dbg, 2 ≤ n → Trans.run (Trans.powi S D x n) = .ok (some r, it) dbg →
      |val D.f r - (val S.f x) ^ n.toNat| ≤ ((n : ℝ) + 1) / (2 : ℝ) ^ D.f * (max 1 |val S.f x|) ^ (n.toNat - 1))

end Sfx.PairsPf

/-! the model-level example is stated with core powers (`Int.instNatPow`), as in the model -/
attribute [-instance] Monoid.toNPow
namespace Sfx.PairsPf
open Sfx.C12 Sfx.ConvPf

/-- non-vacuity: I9F23 → I32F32 is an admissible pair of supported types, and `powi::<I9F23, I32F32>(1.5, 3)` returns
`Ok(3.375)` after two products -/
example : Supp ⟨true, 32, 23⟩ ∧ Supp ⟨true, 64, 32⟩ ∧ fromAdmissible ⟨true, 32, 23⟩ ⟨true, 64, 32⟩ ∧
    inRange ⟨true, 32, 23⟩ (3 * 2 ^ 22) ∧
    Trans.run (Trans.powi ⟨true, 32, 23⟩ ⟨true, 64, 32⟩ (3 * 2 ^ 22) 3) = .ok (some (27 * 2 ^ 29), 2) false := by
  refine ⟨⟨by decide, rfl, by decide, by decide⟩, ⟨by decide, rfl, by decide, by decide⟩, by unfold fromAdmissible; decide,
    by decide, by decide +kernel⟩

end Sfx.PairsPf

#print axioms Sfx.PairsPf.C15_powi_real_tight
#print axioms Sfx.PairsPf.C15_powi_pairs_tight
