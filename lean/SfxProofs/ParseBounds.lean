import SfxProofs.ParseBoundsLoop
import SfxProofs.ParseBoundsFolds
/-
  ParseBounds.lean — C08, tokeniser and integer part: `parse_bounds` accepts exactly the grammar of `TextSpec.literal`, its slices
  are the literal's digit strings (leading integer zeros / trailing fraction zeros trimmed: `parseBounds_char`), and its errors are
  never `Overflow`.  The second half of the file has `$get_int` through the half-width chain (`getInt_nv`) and the integer
  converters stated through the specification's `digitsVal`.
  Core Lean only.
-/
namespace Sfx.ParsePf
open FromStr (parseBoundsLoop Bounds Parse slice)

/-- the optional sign: both the specification and the scan treat the first byte, then go on with the rest `rest` of the string
(`pre` is the sign byte, if any) -/
theorem sign_split (bytes : List Nat) : ∃ (pre rest : List Nat) (s : Option Bool),
    TextSpec.split bytes = splitTail (bytes.head? == some 45) rest ∧
    bytes = pre ++ rest ∧
    (∀ radix, parseBoundsLoop radix (pre ++ rest) 0 {} = parseBoundsLoop radix rest pre.length (st0 s)) ∧
    s.getD false = (bytes.head? == some 45) ∧ (s.isSome = true ∨ ∀ b, rest.head? = some b → b ≠ 43 ∧ b ≠ 45) := by
  obtain ⟨pre, rest, rfl, hs, hpre⟩ := split_eq_splitTail bytes
  rcases hpre with rfl | rfl | ⟨rfl, h45, h⟩
  · exact ⟨[45], rest, some true, hs, rfl, fun _ => by rw [List.cons_append, List.nil_append, parseBoundsLoop]; simp, rfl, Or.inl rfl⟩
  · exact ⟨[43], rest, some false, hs, rfl, fun _ => by rw [List.cons_append, List.nil_append, parseBoundsLoop]; simp, rfl, Or.inl rfl⟩
  · exact ⟨[], rest, none, hs, rfl, fun _ => rfl, h45.symm, Or.inr h⟩

theorem parseBounds_char (radix : Nat) (bytes : List Nat) :
    (∃ neg ip fp, TextSpec.split bytes = some (neg, ip, fp) ∧ D radix ip = true ∧ D radix fp = true ∧
        FromStr.parseBounds bytes radix = .ok ⟨neg, ltrim ip, rtrim fp⟩) ∨
    ((∃ e, e < 3 ∧ FromStr.parseBounds bytes radix = .error e) ∧
      ∀ neg ip fp, TextSpec.split bytes = some (neg, ip, fp) → (D radix ip && D radix fp) = false) := by
  obtain ⟨pre, rest, s, hsplit, rfl, hstart, hneg, hs⟩ := sign_split bytes
  rw [hsplit]
  rcases parseBounds_after_sign radix pre rest s _ hneg hs (hstart radix) with ⟨ip, fp, h1, h2, h3, h4⟩ | h
  · exact Or.inl ⟨_, ip, fp, h1, h2, h3, h4⟩
  · exact Or.inr h

theorem literal_of_split {radix : Nat} (hr : Radix radix) {bytes : List Nat} {neg : Bool} {ip fp : List Nat}
    (h : TextSpec.split bytes = some (neg, ip, fp)) :
    TextSpec.literal radix bytes = if (D radix ip && D radix fp) = true
      then some (neg, nv radix ip * radix ^ fp.length + nv radix fp, fp.length) else none := by
  unfold TextSpec.literal
  rw [h]
  cases hi : D radix ip <;> cases hf : D radix fp <;> simp [digitsVal_eq hr, hi, hf]

theorem literal_none_of_err {radix : Nat} (hr : Radix radix) {bytes : List Nat}
    (h : ∀ neg ip fp, TextSpec.split bytes = some (neg, ip, fp) → (D radix ip && D radix fp) = false) :
    TextSpec.literal radix bytes = none := by
  cases hs : TextSpec.split bytes with
  | none => unfold TextSpec.literal; rw [hs]; rfl
  | some x =>
    obtain ⟨neg, ip, fp⟩ := x
    rw [literal_of_split hr hs, h _ _ _ hs, if_neg Bool.false_ne_true]

theorem parseBounds_ok_iff {radix : Nat} (hr : radix = 2 ∨ radix = 8 ∨ radix = 10 ∨ radix = 16) (bytes : List Nat) :
    (∃ p, FromStr.parseBounds bytes radix = .ok p) ↔ (TextSpec.literal radix bytes).isSome := by
  rcases parseBounds_char radix bytes with ⟨neg, ip, fp, h1, h2, h3, h4⟩ | ⟨⟨e, _, he⟩, h2⟩
  · rw [literal_of_split hr h1, h2, h3, if_pos (by decide)]
    exact ⟨fun _ => rfl, fun _ => ⟨_, h4⟩⟩
  · rw [literal_none_of_err hr h2]
    constructor
    · rintro ⟨p, hp⟩; rw [he] at hp; cases hp
    · intro h; cases h

/-- the errors of `parse_bounds` are InvalidDigit / NoDigits / TooManyPoints (never Overflow), and only on malformed input -/
theorem parseBounds_err {radix : Nat} (hr : radix = 2 ∨ radix = 8 ∨ radix = 10 ∨ radix = 16) {bytes : List Nat} {e : Nat}
    (h : FromStr.parseBounds bytes radix = .error e) : e < 3 ∧ TextSpec.literal radix bytes = none := by
  rcases parseBounds_char radix bytes with ⟨neg, ip, fp, _, _, _, h4⟩ | ⟨⟨e', he3, he'⟩, h2⟩
  · rw [h4] at h; cases h
  · rw [he'] at h; injection h with h
    exact ⟨h ▸ he3, literal_none_of_err hr h2⟩

/-- `dec_str_int_to_bin::<I>` (any width `n`): "keep the last `n` digits" is harmless because `10^n ≡ 0 (mod 2^n)` and a number
of more than `n` digits without a leading zero is `≥ 10^n ≥ 2^n`. -/
theorem decStrIntToBin_spec (n : Nat) {ds : List Nat} {v : Nat}
    (hv : TextSpec.digitsVal 10 ds = some v) (h0 : ds.head? ≠ some 48) :
    FromStr.decStrIntToBin n ds = ((v : Int) % 2 ^ n, decide (2 ^ n ≤ v)) := by
  obtain ⟨hD, rfl⟩ := digitsVal_some radix10 hv
  rw [decStrIntToBin_nv n hD h0, natCast_mod_pow]

/-- `bin_str_int_to_bin::<I>` (a plain pair in the model, no `Outcome`) -/
theorem binStrIntToBin_spec {n : Nat} (hn : 1 ≤ n) {ds : List Nat} {v : Nat}
    (hv : TextSpec.digitsVal 2 ds = some v) (h0 : ds.head? ≠ some 48) :
    FromStr.binStrIntToBin n ds = ((v : Int) % 2 ^ n, decide (2 ^ n ≤ v)) := by
  obtain ⟨hD, rfl⟩ := digitsVal_some radix2 hv
  rw [binStrIntToBin_nv hn hD h0, natCast_mod_pow]

/-- `oct_str_int_to_bin::<I>` on a non-empty slice (the empty slice panics: `powStrIntToBin_nil`), incl. the first-digit test -/
theorem octStrIntToBin_spec {n : Nat} (hn : 4 ≤ n) {ds : List Nat} {v : Nat} (hne : ds ≠ [])
    (hv : TextSpec.digitsVal 8 ds = some v) (h0 : ds.head? ≠ some 48) :
    FromStr.octStrIntToBin n ds = .ok ((v : Int) % 2 ^ n, decide (2 ^ n ≤ v)) false := by
  obtain ⟨hD, rfl⟩ := digitsVal_some radix8 hv
  rw [octStrIntToBin_nv hn hne hD h0, natCast_mod_pow]

theorem hexStrIntToBin_spec {n : Nat} (hn : 5 ≤ n) {ds : List Nat} {v : Nat} (hne : ds ≠ [])
    (hv : TextSpec.digitsVal 16 ds = some v) (h0 : ds.head? ≠ some 48) :
    FromStr.hexStrIntToBin n ds = .ok ((v : Int) % 2 ^ n, decide (2 ^ n ≤ v)) false := by
  obtain ⟨hD, rfl⟩ := digitsVal_some radix16 hv
  rw [hexStrIntToBin_nv hn hne hD h0, natCast_mod_pow]

/-- `bytes[0]` on an empty slice: the octal / hex folds panic (their callers test `int.is_empty()` first) -/
theorem powStrIntToBin_nil (k : Nat) (digit : Nat → Nat) (n : Nat) : FromStr.powStrIntToBin k digit n [] = .panic := by
  unfold FromStr.powStrIntToBin
  simp only [show FromStr.keepLast ((n + (k - 1)) / k) [] = ([], false) from if_neg (Nat.not_lt_zero _)]

/-- `$get_int` of the `n`-bit instance, through the whole half-width delegation chain -/
theorem getInt_nv {radix n nbits : Nat} (hr : Radix radix)
    (hn : n = 8 ∨ n = 16 ∨ n = 32 ∨ n = 64 ∨ n = 128) (hnb : nbits ≤ n) {ds : List Nat}
    (hD : D radix ds = true) (h0 : ds.head? ≠ some 48) :
    FromStr.getInt n ds radix nbits = .ok (intSpec (nv radix ds) n nbits) false := by
  have d : ∀ n, 5 ≤ n → ∀ nbits, nbits ≤ n →
      FromStr.getIntDirect n ds radix nbits = .ok (intSpec (nv radix ds) n nbits) false :=
    fun n hn nb h => getIntDirect_nv hr hn h hD h0
  have g16 := getIntHalf_nv (h := 8) FromStr.getInt8 (d 8 (by omega)) (d 16 (by omega))
  have g32 := getIntHalf_nv (h := 16) FromStr.getInt16 g16 (d 32 (by omega))
  have g64 := getIntHalf_nv (h := 32) FromStr.getInt32 g32 (d 64 (by omega))
  have g128 := getIntHalf_nv (h := 64) FromStr.getInt64 g64 (d 128 (by omega))
  rcases hn with rfl | rfl | rfl | rfl | rfl
  · exact d 8 (by omega) nbits hnb
  · exact g16 nbits hnb
  · exact g32 nbits hnb
  · exact g64 nbits hnb
  · exact g128 nbits hnb

theorem getInt_eq_direct {radix n nbits : Nat} (hr : radix = 2 ∨ radix = 8 ∨ radix = 10 ∨ radix = 16)
    (hn : n = 8 ∨ n = 16 ∨ n = 32 ∨ n = 64 ∨ n = 128) (hnb : nbits ≤ n) {ds : List Nat} {v : Nat}
    (hv : TextSpec.digitsVal radix ds = some v) (h0 : ds.head? ≠ some 48) :
    FromStr.getInt n ds radix nbits = FromStr.getIntDirect n ds radix nbits := by
  obtain ⟨hD, rfl⟩ := digitsVal_some hr hv
  rw [getInt_nv hr hn hnb hD h0, getIntDirect_nv hr (by omega) hnb hD h0]

example : FromStr.parseBounds [45, 48, 49, 50, 46, 53, 48] 10 = .ok ⟨true, [49, 50], [53]⟩ := rfl
example : FromStr.parseBounds [49, 46, 50, 46] 10 = .error 2 ∧ FromStr.parseBounds [46] 10 = .error 1
    ∧ FromStr.parseBounds [49, 43] 10 = .error 0 := ⟨rfl, rfl, rfl⟩
example : FromStr.getInt 16 [50, 53, 53] 10 8 = .ok (255 * 256, false) false := by decide
example : FromStr.getInt 16 [50, 53, 54] 10 8 = .ok (0, true) false := by decide
/-- the hypothesis "no leading zero" is needed (and is what `parse_bounds` guarantees): with leading zeros the
"more than `n` digits" shortcut reports an overflow for the value 1, and `nbits = 0` reports one for the value 0 -/
example : FromStr.decStrIntToBin 8 [48, 48, 48, 48, 48, 48, 48, 48, 49] = (1, true) := by decide
example : FromStr.getInt 8 [48] 10 0 = .ok (0, true) false := by decide

end Sfx.ParsePf

#print axioms Sfx.ParsePf.parseBounds_ok_iff
#print axioms Sfx.ParsePf.parseBounds_err
#print axioms Sfx.ParsePf.parseBounds_char
#print axioms Sfx.ParsePf.decStrIntToBin_spec
#print axioms Sfx.ParsePf.binStrIntToBin_spec
#print axioms Sfx.ParsePf.octStrIntToBin_spec
#print axioms Sfx.ParsePf.hexStrIntToBin_spec
#print axioms Sfx.ParsePf.getInt_eq_direct
