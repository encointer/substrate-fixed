import SfxModel.FromStr
import SfxProofs.TextSpecLemmas
import SfxProofs.FmtRadixBase
/-
  ParseBoundsDigits.lean — what all C08 proofs share (core Lean only): the digit bytes of the tokeniser (`isDigitOf`) are those
  of the specification (`TextSpec.digitVal`), and the model's two digit functions return the specified value on them;
  `TextSpec.digitsVal` on a digit list is the plain fold `nv`, with its arithmetic; the contract `fracRes` of the fraction converters.  (Facts about the specification alone,
  among them the arithmetic of `TextSpec.rneDiv`, are in TextSpecLemmas.lean.)
-/
namespace Sfx.ParsePf

/-- the four radices accepted by the crate -/
def Radix (r : Nat) : Prop := r = 2 ∨ r = 8 ∨ r = 10 ∨ r = 16

theorem Radix.pos {r : Nat} (hr : Radix r) : 0 < r := by unfold Radix at hr; omega
theorem Radix.two_le {r : Nat} (hr : Radix r) : 2 ≤ r := by unfold Radix at hr; omega

theorem radix2 : Radix 2 := Or.inl rfl
theorem radix8 : Radix 8 := Or.inr (Or.inl rfl)
theorem radix10 : Radix 10 := Or.inr (Or.inr (Or.inl rfl))
theorem radix16 : Radix 16 := Or.inr (Or.inr (Or.inr rfl))

theorem isDigitOf_iff {r b : Nat} (hr : Radix r) : FromStr.isDigitOf b r = true ↔
    48 ≤ b ∧ b ≤ 57 ∧ b - 48 < r ∨ r = 16 ∧ (97 ≤ b ∧ b ≤ 102 ∨ 65 ≤ b ∧ b ≤ 70) := by
  rcases hr with rfl | rfl | rfl | rfl <;> simp [FromStr.isDigitOf] <;> omega

theorem isDigitOf_eq {r : Nat} (hr : Radix r) (b : Nat) :
    FromStr.isDigitOf b r = (TextSpec.digitVal r b).isSome := by
  rw [Bool.eq_iff_iff, isDigitOf_iff hr, Option.isSome_iff_exists]
  constructor
  · rintro (⟨h1, h2, h3⟩ | ⟨rfl, h | h⟩)
    · exact ⟨_, digitVal_of_range.1 h1 h2 h3⟩
    · exact ⟨_, digitVal_of_range.2.1 h.1 h.2 (by omega)⟩
    · exact ⟨_, digitVal_of_range.2.2 h.1 h.2 (by omega)⟩
  · rintro ⟨d, hd⟩
    unfold Radix at hr
    obtain ⟨hlt, ⟨h1, h2, rfl⟩ | ⟨h1, h2, rfl⟩ | ⟨h1, h2, rfl⟩⟩ := digitVal_some hd
    · exact Or.inl ⟨h1, h2, hlt⟩
    · exact Or.inr ⟨by omega, Or.inl ⟨h1, h2⟩⟩
    · exact Or.inr ⟨by omega, Or.inr ⟨h1, h2⟩⟩

theorem isDigitOf_not_special {r b : Nat} (h : FromStr.isDigitOf b r = true) : b ≠ 43 ∧ b ≠ 45 ∧ b ≠ 46 := by
  unfold FromStr.isDigitOf at h
  simp at h
  omega

theorem isDigitOf_lt {r b : Nat} (h : FromStr.isDigitOf b r = true) : b < 256 := by
  unfold FromStr.isDigitOf at h
  simp at h
  omega

/-- every byte of `l` is a digit of radix `r`, as `parse_bounds` tests it -/
def D (r : Nat) (l : List Nat) : Bool := l.all fun b => FromStr.isDigitOf b r

@[simp] theorem D_nil (r : Nat) : D r [] = true := rfl
@[simp] theorem D_cons (r b : Nat) (l : List Nat) : D r (b :: l) = (FromStr.isDigitOf b r && D r l) := by
  simp [D]
theorem D_cons_iff {r b : Nat} {l : List Nat} : D r (b :: l) = true ↔ FromStr.isDigitOf b r = true ∧ D r l = true := by
  rw [D_cons, Bool.and_eq_true]
@[simp] theorem D_append (r : Nat) (l₁ l₂ : List Nat) : D r (l₁ ++ l₂) = (D r l₁ && D r l₂) := by
  simp [D]

theorem D_take_drop {r : Nat} {l : List Nat} (h : D r l = true) (z : Nat) :
    D r (l.take z) = true ∧ D r (l.drop z) = true := by
  rwa [← List.take_append_drop z l, D_append, Bool.and_eq_true] at h

theorem D_false {r : Nat} : ∀ {l : List Nat}, D r l = false →
    ∃ ds b rest, l = ds ++ b :: rest ∧ D r ds = true ∧ FromStr.isDigitOf b r = false
  | [], h => by simp at h
  | b :: l, h => by
    cases hb : FromStr.isDigitOf b r
    · exact ⟨[], b, l, rfl, rfl, hb⟩
    · rw [D_cons, hb, Bool.true_and] at h
      obtain ⟨ds, c, rest, rfl, hds, hc⟩ := D_false h
      exact ⟨b :: ds, c, rest, rfl, by rw [D_cons, hb, hds]; rfl, hc⟩

/-- the digit value of the byte `b` in radix `r` after the specification (`0` for a non-digit) -/
def dg (r b : Nat) : Nat := (TextSpec.digitVal r b).getD 0

theorem dg_zero (r : Nat) : dg r 48 = 0 := by
  unfold dg TextSpec.digitVal
  simp
  split <;> rfl

theorem dg_of_some {r b d : Nat} (h : TextSpec.digitVal r b = some d) : dg r b = d := by
  unfold dg; rw [h]; rfl

theorem digitVal_of_isDigit {r : Nat} (hr : Radix r) {b : Nat} (h : FromStr.isDigitOf b r = true) :
    TextSpec.digitVal r b = some (dg r b) := by
  rw [isDigitOf_eq hr, Option.isSome_iff_exists] at h
  obtain ⟨d, hd⟩ := h
  rw [dg_of_some hd, hd]

theorem digitVal_of_not_isDigit {r : Nat} (hr : Radix r) {b : Nat} (h : FromStr.isDigitOf b r = false) :
    TextSpec.digitVal r b = none := by
  rw [isDigitOf_eq hr] at h
  simpa using h

theorem dg_cases {r : Nat} (hr : Radix r) {b : Nat} (h : FromStr.isDigitOf b r = true) :
    dg r b < r ∧ (48 ≤ b ∧ b ≤ 57 ∧ dg r b = b - 48 ∨ 97 ≤ b ∧ b ≤ 102 ∧ dg r b = b - 87 ∨
      65 ≤ b ∧ b ≤ 70 ∧ dg r b = b - 55) :=
  digitVal_some (digitVal_of_isDigit hr h)

theorem dg_lt {r : Nat} (hr : Radix r) {b : Nat} (h : FromStr.isDigitOf b r = true) : dg r b < r :=
  (dg_cases hr h).1

theorem dg_pos {r : Nat} (hr : Radix r) {b : Nat} (h : FromStr.isDigitOf b r = true) (h0 : b ≠ 48) : 0 < dg r b := by
  have := dg_cases hr h; omega

/-- `byte - b'0'` is the digit value in the radices without letter digits -/
theorem digitVal_eq_dg {r : Nat} (hr : Radix r) (h10 : r ≤ 10) {b : Nat} (h : FromStr.isDigitOf b r = true) :
    FromStr.digitVal b = dg r b := by
  have := dg_cases hr h; unfold FromStr.digitVal; omega

theorem hexDigit_eq_dg {b : Nat} (h : FromStr.isDigitOf b 16 = true) : FromStr.uncheckedHexDigit b = dg 16 b := by
  have := dg_cases radix16 h
  unfold FromStr.uncheckedHexDigit
  rw [show b &&& 0x0f = b % 16 from Nat.and_two_pow_sub_one_eq_mod b 4]
  split <;> omega

/-- a radix `2^k` of the crate together with the function the code decodes its digit bytes with (`byte - b'0'` for 2 and 8,
`unchecked_hex_digit` for 16): what the shift-and-add converters of `from_str.rs` are generic over -/
structure Pow2Radix (r k : Nat) (digit : Nat → Nat) : Prop where
  pow : r = 2 ^ k
  radix : Radix r
  digit_eq : ∀ b, FromStr.isDigitOf b r = true → digit b = dg r b

theorem pow2Radix2 : Pow2Radix 2 1 FromStr.digitVal := ⟨rfl, radix2, fun _ => digitVal_eq_dg radix2 (by decide)⟩
theorem pow2Radix8 : Pow2Radix 8 3 FromStr.digitVal := ⟨rfl, radix8, fun _ => digitVal_eq_dg radix8 (by decide)⟩
theorem pow2Radix16 : Pow2Radix 16 4 FromStr.uncheckedHexDigit := ⟨rfl, radix16, fun _ => hexDigit_eq_dg⟩

/-- the digit bytes `l` appended to the number `a`, in radix `r` -/
def nvFrom (r : Nat) (a : Nat) (l : List Nat) : Nat := l.foldl (fun a b => a * r + dg r b) a
/-- the number the digit bytes `l` spell in radix `r`, most significant first (`digitsVal_eq`: what `TextSpec.digitsVal` returns) -/
def nv (r : Nat) (l : List Nat) : Nat := nvFrom r 0 l

@[simp] theorem nvFrom_nil (r a : Nat) : nvFrom r a [] = a := rfl
@[simp] theorem nvFrom_cons (r a b : Nat) (l : List Nat) : nvFrom r a (b :: l) = nvFrom r (a * r + dg r b) l := rfl
@[simp] theorem nv_nil (r : Nat) : nv r [] = 0 := rfl

/-- the decoded digit bytes are a digit list as the formatter's proofs read one (`FmtRadixPf.valI`), whose lemmas carry over -/
theorem nvFrom_map (r a : Nat) (l : List Nat) : nvFrom r a l = (l.map (dg r)).foldl (fun a d => a * r + d) a :=
  (List.foldl_map ..).symm

theorem nv_eq_valI (r : Nat) (l : List Nat) : nv r l = FmtRadixPf.valI r (l.map (dg r)) := nvFrom_map r 0 l

theorem nvFrom_eq (r : Nat) (l : List Nat) (a : Nat) : nvFrom r a l = a * r ^ l.length + nv r l := by
  rw [nvFrom_map, FmtRadixPf.foldl_val, List.length_map, nv_eq_valI]

theorem nv_cons (r b : Nat) (l : List Nat) : nv r (b :: l) = dg r b * r ^ l.length + nv r l := by
  show nvFrom r 0 (b :: l) = _
  rw [nvFrom_cons, nvFrom_eq]; simp

theorem nv_cons_nvFrom (r b : Nat) (l : List Nat) : nv r (b :: l) = nvFrom r (dg r b) l := by
  show nvFrom r (0 * r + dg r b) l = _
  rw [Nat.zero_mul, Nat.zero_add]

theorem nv_append (r : Nat) (l₁ l₂ : List Nat) : nv r (l₁ ++ l₂) = nv r l₁ * r ^ l₂.length + nv r l₂ := by
  simp only [nv_eq_valI, List.map_append, FmtRadixPf.valI_append, List.length_map]

theorem nv_zeros (r z : Nat) : nv r (List.replicate z 48) = 0 := by
  induction z with
  | zero => rfl
  | succ z ih => rw [List.replicate_succ, nv_cons, ih, dg_zero]; simp

theorem nv_lt {r : Nat} (hr : Radix r) (l : List Nat) (h : D r l = true) : nv r l < r ^ l.length := by
  have := FmtRadixPf.valI_lt r (l.map (dg r)) fun d hd => by
    obtain ⟨b, hb, rfl⟩ := List.mem_map.1 hd
    exact dg_lt hr (List.all_eq_true.1 h b hb)
  rwa [List.length_map, ← nv_eq_valI] at this

theorem nv_ge {r : Nat} (hr : Radix r) {b : Nat} {l : List Nat} (h : D r (b :: l) = true) (h0 : b ≠ 48) :
    r ^ l.length ≤ nv r (b :: l) := by
  simp at h
  have := dg_pos hr h.1 h0
  rw [nv_cons]
  have : 1 * r ^ l.length ≤ dg r b * r ^ l.length := Nat.mul_le_mul_right _ this
  omega

theorem nv_pos {r : Nat} (hr : Radix r) : ∀ {l : List Nat}, D r l = true → l ≠ [] → l.getLast? ≠ some 48 → 0 < nv r l
  | [], _, hne, _ => absurd rfl hne
  | [b], h, _, hl => by
    have := dg_pos hr (b := b) (by simpa using h) (by simpa using hl)
    rw [nv_cons]; simpa using this
  | b :: c :: l, h, _, hl => by
    rw [D_cons_iff] at h
    rw [List.getLast?_cons_cons] at hl
    have := nv_pos hr h.2 (by simp) hl
    rw [nv_cons]; omega

theorem foldlM_eq {r : Nat} (hr : Radix r) : ∀ (l : List Nat) (a : Nat),
    l.foldlM (fun acc b => (TextSpec.digitVal r b).map fun v => acc * r + v) a
      = if D r l = true then some (nvFrom r a l) else none := by
  intro l
  induction l with
  | nil => intro a; simp
  | cons b l ih =>
    intro a
    rw [List.foldlM_cons]
    cases hb : FromStr.isDigitOf b r
    · rw [digitVal_of_not_isDigit hr hb]; simp [hb]
    · rw [digitVal_of_isDigit hr hb]
      simp [hb, ih]

theorem digitsVal_eq {r : Nat} (hr : Radix r) (l : List Nat) :
    TextSpec.digitsVal r l = if D r l = true then some (nv r l) else none := by
  unfold TextSpec.digitsVal nv
  exact foldlM_eq hr l 0

theorem digitsVal_some {r : Nat} (hr : Radix r) {l : List Nat} {v : Nat} (h : TextSpec.digitsVal r l = some v) :
    D r l = true ∧ v = nv r l := by
  rw [digitsVal_eq hr] at h
  split at h
  · injection h with h; exact ⟨by assumption, h.symm⟩
  · cases h

theorem isOdd_iff (x : Int) : FromStr.isOdd x = true ↔ x % 2 = 1 := by
  unfold FromStr.isOdd; simp

theorem isOdd_cast (q : Nat) : FromStr.isOdd (q : Int) = decide (q % 2 = 1) := by
  unfold FromStr.isOdd
  rw [show ((q : Int) % 2 == 1) = decide ((q : Int) % 2 = 1) from rfl, decide_eq_decide]
  omega

/-- how the fraction converters return the rounded `nbits`-bit fraction `E`: `Some(E)` when it fits, `None` when it rounded up to 1.0 -/
def fracOpt (nbits E : Nat) : Option Int := if E < 2 ^ nbits then some (E : Int) else none

theorem fracOpt_of_lt {nbits E : Nat} (h : E < 2 ^ nbits) : fracOpt nbits E = some (E : Int) := if_pos h

theorem fracOpt_of_ge {nbits E : Nat} (h : ¬ E < 2 ^ nbits) : fracOpt nbits E = none := if_neg h

/-- what `bin/oct/hex/dec_str_frac_to_bin` return on the digit string `fs`: its value `nv fs / radix^len` rounded half-even to
`nbits` bits (`rneDiv_frac_le`: never above `2^nbits`) -/
def fracRes (radix nbits : Nat) (fs : List Nat) : Option Int :=
  fracOpt nbits (TextSpec.rneDiv (nv radix fs * 2 ^ nbits) (radix ^ fs.length))

theorem fracRes_eq (radix nbits : Nat) (fs : List Nat) :
    fracRes radix nbits fs = fracOpt nbits (TextSpec.rneDiv (nv radix fs * 2 ^ nbits) (radix ^ fs.length)) := rfl

/-- the empty fraction is `Some(0)` -/
theorem fracRes_nil (radix nbits : Nat) : fracRes radix nbits [] = some 0 := by
  rw [fracRes_eq, nv_nil, Nat.zero_mul, List.length_nil, Nat.pow_zero, rneDiv_one, fracOpt_of_lt (Nat.two_pow_pos nbits)]
  rfl

end Sfx.ParsePf
