import SfxProofs.ParseBoundsDigits
import SfxProofs.Returns
/-
  ParseBoundsFolds.lean — the integer digit folds of `from_str.rs` (C08, integer part; core Lean only): on a digit list without a
  leading `'0'` each of `dec/bin/oct/hex_str_int_to_bin` returns `nv` modulo `2^n` and the flag `2^n ≤ nv`; `getIntDirect`,
  `getIntHalf`.  The prologue `keepLast` is treated once (`keepLast_nv`); each fold is then followed on a list of at most
  `max_len` digits from an arbitrary incoming flag.
-/
namespace Sfx.ParsePf

theorem nv_drop_mod {r m n : Nat} (hdvd : 2 ^ n ∣ r ^ m) (l : List Nat) (hm : m ≤ l.length) :
    nv r l % 2 ^ n = nv r (l.drop (l.length - m)) % 2 ^ n := by
  conv => lhs; rw [← List.take_append_drop (l.length - m) l]
  rw [nv_append]
  have hlen : (l.drop (l.length - m)).length = m := by simp; omega
  rw [hlen]
  obtain ⟨c, hc⟩ := hdvd
  rw [hc, ← Nat.mul_assoc, Nat.mul_comm _ (2 ^ n), Nat.mul_assoc, Nat.mul_add_mod]

theorem nv_big {r m n : Nat} (hr : Radix r) (hge : 2 ^ n ≤ r ^ m) {l : List Nat} (hD : D r l = true)
    (h0 : l.head? ≠ some 48) (hm : m < l.length) : 2 ^ n ≤ nv r l := by
  cases l with
  | nil => simp at hm
  | cons b t =>
    have hb : b ≠ 48 := by intro h; subst h; simp at h0
    have h1 := nv_ge hr hD hb
    have h2 : r ^ m ≤ r ^ t.length := Nat.pow_le_pow_right hr.pos (by simp at hm; omega)
    omega

/-- "keep the last `m` digits" is harmless when `r^m ≡ 0 (mod 2^n)`: the value modulo `2^n` is unchanged, and a number of
more than `m` digits without a leading zero is `≥ r^m ≥ 2^n` -/
theorem keepLast_nv {r m n : Nat} (hr : Radix r) (hdvd : 2 ^ n ∣ r ^ m) {ds : List Nat} (hD : D r ds = true)
    (h0 : ds.head? ≠ some 48) :
    ∃ l o, FromStr.keepLast m ds = (l, o) ∧ D r l = true ∧ l.length = min m ds.length ∧
      nv r l % 2 ^ n = nv r ds % 2 ^ n ∧ (o || decide (2 ^ n ≤ nv r l)) = decide (2 ^ n ≤ nv r ds) := by
  unfold FromStr.keepLast
  by_cases hlen : ds.length > m
  · rw [if_pos hlen]
    refine ⟨_, _, rfl, (D_take_drop hD _).2, by simp; omega, (nv_drop_mod hdvd ds (by omega)).symm, ?_⟩
    rw [Bool.true_or, decide_eq_true (nv_big hr (Nat.le_of_dvd (Nat.pow_pos hr.pos) hdvd) hD h0 hlen)]
  · rw [if_neg hlen]
    exact ⟨_, _, rfl, hD, by omega, rfl, Bool.false_or _⟩

theorem pow_step (k n V d : Nat) (hk : k ≤ n) (hd : d < 2 ^ k) :
    (V * 2 ^ k) % 2 ^ n + d = (V * 2 ^ k + d) % 2 ^ n := by
  have hn : 2 ^ n = 2 ^ k * 2 ^ (n - k) := by rw [← Nat.pow_add]; congr 1; omega
  have hP : 0 < 2 ^ k := Nat.pow_pos (by decide)
  rw [hn, Nat.mul_comm V, Nat.mul_mod_mul_left, Nat.mod_mul, Nat.mul_add_mod, Nat.mul_add_div hP,
    Nat.mod_eq_of_lt hd, Nat.div_eq_of_lt hd, Nat.add_zero, Nat.add_comm]

/-- `acc = (acc << k) + digit` over a digit list keeps `acc = V mod 2^n` for the value `V` read so far: the bits shifted out are
lost, and the digit goes into the `k` clear bits -/
theorem powFold_eq {r k n : Nat} {digit : Nat → Nat} (P : Pow2Radix r k digit) (hk : k ≤ n) :
    ∀ (l : List Nat), D r l = true → ∀ V : Nat,
      l.foldl (fun acc byte => shlI false n acc k + Int.ofNat (digit byte)) ((V % 2 ^ n : Nat) : Int)
        = ((nvFrom r V l % 2 ^ n : Nat) : Int) := by
  obtain ⟨rfl, hr, hdig⟩ := P
  intro l
  induction l with
  | nil => intro _ V; rfl
  | cons b l ih =>
    intro hD V
    rw [D_cons_iff] at hD
    rw [List.foldl_cons, shlI_natCast, hdig b hD.1, Int.ofNat_eq_natCast, ← Int.natCast_add, Nat.mod_mul_mod,
      pow_step k n V _ hk (dg_lt hr hD.1)]
    exact ih hD.2 _

theorem binStrIntToBin_nv {n : Nat} (hn : 1 ≤ n) {ds : List Nat} (hD : D 2 ds = true) (h0 : ds.head? ≠ some 48) :
    FromStr.binStrIntToBin n ds = (((nv 2 ds % 2 ^ n : Nat) : Int), decide (2 ^ n ≤ nv 2 ds)) := by
  obtain ⟨l, o, hkl, hDl, hlen, hmod, hflag⟩ := keepLast_nv (m := n) radix2 (Nat.dvd_refl _) hD h0
  have hfold := powFold_eq pow2Radix2 hn l hDl 0
  have hlt : ¬ 2 ^ n ≤ nv 2 l := by
    have h1 := nv_lt radix2 l hDl
    have h2 : 2 ^ l.length ≤ 2 ^ n := Nat.pow_le_pow_right (by decide) (by omega)
    omega
  rw [decide_eq_false hlt, Bool.or_false] at hflag
  unfold FromStr.binStrIntToBin
  simp only [hkl]
  rw [← hmod, ← hflag]
  exact congrArg (·, o) hfold

theorem ge_iff (a F Q x : Nat) (hx : x < Q) : F * Q ≤ a * Q + x ↔ F ≤ a := by
  constructor
  · intro h
    apply Classical.byContradiction
    intro hlt
    have : (a + 1) * Q ≤ F * Q := Nat.mul_le_mul_right Q (by omega)
    rw [Nat.add_mul] at this
    omega
  · intro h
    have := Nat.mul_le_mul_right Q h
    omega

theorem firstMax_test (o : Bool) (F d : Nat) :
    (if Int.ofNat d > (F : Int) - 1 then true else o) = (o || decide (F ≤ d)) := by
  rw [Int.ofNat_eq_natCast]
  by_cases hc : F ≤ d
  · rw [if_pos (by omega), decide_eq_true hc, Bool.or_true]
  · rw [if_neg (by omega), decide_eq_false hc, Bool.or_false]

/-- `powStrIntToBin` after `keepLast`, on at most `m` digits, `m` the least number of `k`-bit digits that cover `n` bits: the test of the first digit against
`first_max_bits = n - (m-1)·k` is the test `2^n ≤ value` when there are exactly `m` digits, and fewer digits cannot reach `2^n` -/
theorem powCore_spec {r k n m : Nat} {digit : Nat → Nat} (P : Pow2Radix r k digit) (hk : k ≤ n) (hQ0 : 0 < (m - 1) * k)
    (hQ : (m - 1) * k < n)
    {b0 : Nat} {rest : List Nat} (hD : D r (b0 :: rest) = true) (hlen : (b0 :: rest).length ≤ m) (o : Bool) :
    (rest.foldl (fun acc byte => shlI false n acc k + Int.ofNat (digit byte)) (Int.ofNat (digit b0)),
      if (b0 :: rest).length = m then
        (if Int.ofNat (digit b0) > shlI false n 1 (n - (m - 1) * k) - 1 then true else o) else o)
      = (((nv r (b0 :: rest) % 2 ^ n : Nat) : Int), o || decide (2 ^ n ≤ nv r (b0 :: rest))) := by
  obtain ⟨hrk, hr, hdig⟩ := P
  have hD' := hD
  rw [D_cons_iff] at hD'
  have hlt : dg r b0 < 2 ^ k := hrk ▸ dg_lt hr hD'.1
  have hkn : 2 ^ k ≤ 2 ^ n := Nat.pow_le_pow_right (by decide) hk
  have hrest := nv_lt hr rest hD'.2
  have hrm1 : r ^ (m - 1) = 2 ^ ((m - 1) * k) := by rw [hrk, ← Nat.pow_mul, Nat.mul_comm]
  have hacc := powFold_eq ⟨hrk, hr, hdig⟩ hk rest hD'.2 (dg r b0)
  rw [Nat.mod_eq_of_lt (by omega), ← nv_cons_nvFrom] at hacc
  have hflag : (if (b0 :: rest).length = m then
        (if Int.ofNat (digit b0) > shlI false n 1 (n - (m - 1) * k) - 1 then true else o) else o)
      = (o || decide (2 ^ n ≤ nv r (b0 :: rest))) := by
    by_cases heq : (b0 :: rest).length = m
    · have hrl : rest.length = m - 1 := by simp at heq; omega
      have hsplit : 2 ^ n = 2 ^ (n - (m - 1) * k) * 2 ^ ((m - 1) * k) := by rw [← Nat.pow_add]; congr 1; omega
      rw [hrl, hrm1] at hrest
      rw [if_pos heq, shlI_one (show n - (m - 1) * k < n by omega), hdig b0 hD'.1, nv_cons, hrl, hrm1, hsplit, decide_eq_decide.2 (ge_iff _ _ _ _ hrest)]
      exact firstMax_test o _ _
    · have hlt := nv_lt hr _ hD
      have h1 : r ^ (b0 :: rest).length ≤ r ^ (m - 1) := Nat.pow_le_pow_right hr.pos (by omega)
      have h2 : 2 ^ ((m - 1) * k) < 2 ^ n := Nat.pow_lt_pow_right (by decide) hQ
      rw [if_neg heq, decide_eq_false (by omega), Bool.or_false]
  rw [hflag, hdig b0 hD'.1, Int.ofNat_eq_natCast, hacc]

theorem powStr_nv {r k n m : Nat} {digit : Nat → Nat} (P : Pow2Radix r k digit) (hk : k ≤ n)
    (hm : m = (n + (k - 1)) / k) (hQ0 : 0 < (m - 1) * k) (hQ : (m - 1) * k < n) (hmk : n ≤ m * k)
    {ds : List Nat} (hne : ds ≠ []) (hD : D r ds = true) (h0 : ds.head? ≠ some 48) :
    FromStr.powStrIntToBin k digit n ds
      = .ok (((nv r ds % 2 ^ n : Nat) : Int), decide (2 ^ n ≤ nv r ds)) false := by
  have hdvd : 2 ^ n ∣ r ^ m := by rw [P.pow, ← Nat.pow_mul, Nat.mul_comm]; exact Nat.pow_dvd_pow 2 hmk
  obtain ⟨l, o, hkl, hDl, hlen, hmod, hflag⟩ := keepLast_nv (m := m) P.radix hdvd hD h0
  unfold FromStr.powStrIntToBin
  cases l with
  | nil =>
    have : 0 < ds.length := List.length_pos_iff.2 hne
    have : 0 < m := Nat.pos_of_ne_zero (by rintro rfl; simp at hQ0)
    simp at hlen; omega
  | cons b0 rest =>
    simp only [← hm, hkl]
    rw [← hmod, ← hflag]
    exact congrArg (Outcome.ok · false) (powCore_spec P hk hQ0 hQ hDl (by omega) o)

theorem octStrIntToBin_nv {n : Nat} (hn : 4 ≤ n) {ds : List Nat} (hne : ds ≠ []) (hD : D 8 ds = true)
    (h0 : ds.head? ≠ some 48) :
    FromStr.octStrIntToBin n ds = .ok (((nv 8 ds % 2 ^ n : Nat) : Int), decide (2 ^ n ≤ nv 8 ds)) false :=
  powStr_nv (m := (n + (3 - 1)) / 3) pow2Radix8 (by omega) rfl (by omega) (by omega) (by omega) hne hD h0

theorem hexStrIntToBin_nv {n : Nat} (hn : 5 ≤ n) {ds : List Nat} (hne : ds ≠ []) (hD : D 16 ds = true)
    (h0 : ds.head? ≠ some 48) :
    FromStr.hexStrIntToBin n ds = .ok (((nv 16 ds % 2 ^ n : Nat) : Int), decide (2 ^ n ≤ nv 16 ds)) false :=
  powStr_nv (m := (n + (4 - 1)) / 4) pow2Radix16 (by omega) rfl (by omega) (by omega) (by omega) hne hD h0

/-- the step function of the fold in `dec_str_int_to_bin` -/
def decF (n : Nat) : Int × Bool → Nat → Int × Bool := fun st byte =>
  let (acc, overflow) := st
  let (mul, mulOverflow) := ovfI false n (acc * 10)
  let (add, addOverflow) := ovfI false n (mul + Int.ofNat (FromStr.digitVal byte))
  (add, overflow || mulOverflow || addOverflow)

theorem decStrIntToBin_unfold (n : Nat) (bytes : List Nat) :
    FromStr.decStrIntToBin n bytes
      = (FromStr.keepLast n bytes).1.foldl (decF n) (0, (FromStr.keepLast n bytes).2) := rfl

theorem decF_step (n V b : Nat) (o : Bool) :
    decF n (((V % 2 ^ n : Nat) : Int), o || decide (2 ^ n ≤ V)) b =
      ((((V * 10 + FromStr.digitVal b) % 2 ^ n : Nat) : Int), o || decide (2 ^ n ≤ V * 10 + FromStr.digitVal b)) := by
  have hP : 0 < 2 ^ n := Nat.pow_pos (by decide)
  unfold decF
  simp only []
  generalize FromStr.digitVal b = d
  rw [show ((V % 2 ^ n : Nat) : Int) * 10 = ((V % 2 ^ n * 10 : Nat) : Int) from (Int.natCast_mul _ 10).symm, ovfI_natCast]
  simp only []
  rw [Int.ofNat_eq_natCast, ← Int.natCast_add, ovfI_natCast]
  simp only []
  congr 1
  · rw [Nat.mod_mul_mod, Nat.mod_add_mod]
  · by_cases hV : 2 ^ n ≤ V
    · rw [decide_eq_true hV, decide_eq_true (show 2 ^ n ≤ V * 10 + d by omega)]; simp
    · rw [Nat.mod_eq_of_lt (Nat.not_le.1 hV)]
      by_cases h10 : 2 ^ n ≤ V * 10
      · rw [decide_eq_true h10, decide_eq_true (show 2 ^ n ≤ V * 10 + d by omega)]; simp
      · rw [Nat.mod_eq_of_lt (Nat.not_le.1 h10), decide_eq_false hV, decide_eq_false h10]; simp

theorem decFold_eq (n : Nat) : ∀ (l : List Nat), D 10 l = true → ∀ (V : Nat) (o : Bool),
    l.foldl (decF n) (((V % 2 ^ n : Nat) : Int), o || decide (2 ^ n ≤ V))
      = (((nvFrom 10 V l % 2 ^ n : Nat) : Int), o || decide (2 ^ n ≤ nvFrom 10 V l)) := by
  intro l
  induction l with
  | nil => intro _ V o; rfl
  | cons b l ih =>
    intro hD V o
    rw [D_cons_iff] at hD
    rw [List.foldl_cons, decF_step, digitVal_eq_dg radix10 (Nat.le_refl _) hD.1]
    exact ih hD.2 _ _

theorem decStrIntToBin_nv (n : Nat) {ds : List Nat} (hD : D 10 ds = true) (h0 : ds.head? ≠ some 48) :
    FromStr.decStrIntToBin n ds = (((nv 10 ds % 2 ^ n : Nat) : Int), decide (2 ^ n ≤ nv 10 ds)) := by
  obtain ⟨l, o, hkl, hDl, _, hmod, hflag⟩ :=
    keepLast_nv (m := n) radix10 ⟨5 ^ n, by rw [← Nat.mul_pow]⟩ hD h0
  have hfold := decFold_eq n l hDl 0 o
  rw [decide_eq_false (Nat.not_le.2 (Nat.pow_pos (by decide))), Bool.or_false] at hfold
  rw [decStrIntToBin_unfold, hkl, ← hmod, ← hflag]
  exact hfold

theorem decStrIntToBin_fst {n : Nat} {ds : List Nat} (hD : D 10 ds = true) (hlen : ds.length ≤ n) :
    (FromStr.decStrIntToBin n ds).1 = ((nv 10 ds % 2 ^ n : Nat) : Int) := by
  have hfold := decFold_eq n ds hD 0 false
  rw [decide_eq_false (Nat.not_le.2 (Nat.pow_pos (by decide))), Bool.or_false] at hfold
  rw [decStrIntToBin_unfold, show FromStr.keepLast n ds = (ds, false) from if_neg (by omega)]
  exact congrArg Prod.fst hfold

/-- the contract of `$get_int`: the integer value left-aligned in `nbits` bits at the top of the `n`-bit word (bits above are
lost), and the exact "does not fit `nbits` bits" flag -/
def intSpec (v n nbits : Nat) : Int × Bool := (((v * 2 ^ (n - nbits) % 2 ^ n : Nat) : Int), decide (2 ^ nbits ≤ v))

theorem intSpec_zero (n nbits : Nat) : intSpec 0 n nbits = (0, false) := by
  have := Nat.two_pow_pos nbits
  simp [intSpec]

/-- with `f` bits left below the integer part -/
theorem intSpec_add (v intN f : Nat) :
    intSpec v (intN + f) intN = (((v * 2 ^ f % 2 ^ (intN + f) : Nat) : Int), decide (2 ^ intN ≤ v)) := by
  rw [intSpec, Nat.add_sub_cancel_left]

open Outcome (Returns)

/-- the four-way dispatch of `getIntDirect` in front of any continuation `k` (in the model's text: the join point that holds
the code after the fold).  The relation `Returns` is used here only, where a rule has to unify with a join point; everywhere else the
statements are the equations `o = .ok v false` it abbreviates. -/
theorem intFold_nv {β : Type} {radix n : Nat} (hr : Radix radix) (hn : 5 ≤ n) {ds : List Nat} (hne : ds ≠ [])
    (hD : D radix ds = true) (h0 : ds.head? ≠ some 48) {k : Int × Bool → Outcome β} {w : β}
    (hk : Returns (k (((nv radix ds % 2 ^ n : Nat) : Int), decide (2 ^ n ≤ nv radix ds))) w) :
    Returns (if radix = 2 then pure (FromStr.binStrIntToBin n ds) >>= k
      else if radix = 8 then FromStr.octStrIntToBin n ds >>= k
      else if radix = 16 then FromStr.hexStrIntToBin n ds >>= k
      else pure (FromStr.decStrIntToBin n ds) >>= k) w := by
  rcases hr with rfl | rfl | rfl | rfl
  · exact .ite_pos rfl (.bind (.of_eq (congrArg (Outcome.ok · false) (binStrIntToBin_nv (by omega) hD h0))) hk)
  · exact .ite_neg (by decide) (.ite_pos rfl (.bind (octStrIntToBin_nv (by omega) hne hD h0) hk))
  · exact .ite_neg (by decide) (.ite_neg (by decide) (.ite_neg (by decide)
      (.bind (.of_eq (congrArg (Outcome.ok · false) (decStrIntToBin_nv n hD h0))) hk)))
  · exact .ite_neg (by decide) (.ite_neg (by decide) (.ite_pos rfl (.bind (hexStrIntToBin_nv hn hne hD h0) hk)))

theorem getIntDirect_nv {radix n nbits : Nat} (hr : Radix radix) (hn : 5 ≤ n) (hnb : nbits ≤ n) {ds : List Nat}
    (hD : D radix ds = true) (h0 : ds.head? ≠ some 48) :
    FromStr.getIntDirect n ds radix nbits = .ok (intSpec (nv radix ds) n nbits) false := by
  apply Returns.eq
  unfold FromStr.getIntDirect
  cases ds with
  | nil =>
    refine .ite_pos rfl ?_
    rw [nv_nil, intSpec_zero]
    rfl
  | cons b t =>
    have hb : b ≠ 48 := by intro h; subst h; simp at h0
    have hv1 : 1 ≤ nv radix (b :: t) := by
      have h1 := nv_ge hr hD hb
      have h2 : 0 < radix ^ t.length := Nat.pow_pos hr.pos
      omega
    refine .ite_neg (by simp) (intFold_nv hr hn (by simp) hD h0 ?_)
    -- the tail, once, on the value the fold returned
    generalize nv radix (b :: t) = v at hv1 ⊢
    show (if (nbits == 0) = true then _ else _) = Outcome.ok (intSpec v n nbits) false
    unfold intSpec
    by_cases hz : nbits = 0
    · subst hz
      rw [Nat.sub_zero, Nat.mul_mod_left, Nat.pow_zero, decide_eq_true hv1]; rfl
    · rw [show (nbits == 0) = false from beq_false_of_ne hz, if_neg Bool.false_ne_true]
      by_cases hlt : n - nbits > 0
      · have hle : 2 ^ nbits ≤ 2 ^ n := Nat.pow_le_pow_right (by decide) hnb
        have hPb : 0 < 2 ^ nbits := Nat.pow_pos (by decide)
        have hflag : (if shrI ((v % 2 ^ n : Nat) : Int) nbits != 0 then true else decide (2 ^ n ≤ v))
            = decide (2 ^ nbits ≤ v) := by
          have hne0 : ∀ q : Nat, (((q : Nat) : Int) != 0) = decide (0 < q) := fun q => by
            rw [Bool.eq_iff_iff]; simp; omega
          simp only [shrI_natCast, hne0, decide_eq_true_eq, Nat.div_pos_iff]
          by_cases hbig : 2 ^ n ≤ v
          · rw [decide_eq_true hbig, ite_self, decide_eq_true (by omega)]
          · rw [Nat.mod_eq_of_lt (by omega), decide_eq_false hbig]
            by_cases hc : 2 ^ nbits ≤ v
            · rw [if_pos (by omega), decide_eq_true hc]
            · rw [if_neg (by omega), decide_eq_false hc]
        rw [if_pos hlt, hflag, shlI_natCast, Nat.mod_mul_mod]
        rfl
      · rw [if_neg hlt, show n - nbits = 0 by omega, Nat.pow_zero, Nat.mul_one, show nbits = n by omega]
        rfl

theorem getIntHalf_nv {h : Nat} (half : List Nat → Nat → Nat → Outcome (Int × Bool))
    {ds : List Nat} {radix v : Nat}
    (hhalf : ∀ nbits, nbits ≤ h → half ds radix nbits = .ok (intSpec v h nbits) false)
    (hdirect : ∀ nbits, nbits ≤ h + h → FromStr.getIntDirect (h + h) ds radix nbits = .ok (intSpec v (h + h) nbits) false)
    (nbits : Nat) (hnb : nbits ≤ h + h) :
    FromStr.getIntHalf (h + h) half ds radix nbits = .ok (intSpec v (h + h) nbits) false := by
  unfold FromStr.getIntHalf
  rw [show (h + h) / 2 = h by omega]
  by_cases hle : nbits ≤ h
  · rw [if_pos hle, hhalf nbits hle]
    rw [ok_false_bind]
    show Outcome.ok _ false = _
    unfold intSpec
    rw [shlI_natCast, Nat.pow_add, ← Nat.mul_mod_mul_right, Nat.mod_mod, Nat.mul_assoc, ← Nat.pow_add,
      show h - nbits + h = h + h - nbits by omega, ← Nat.pow_add]
  · rw [if_neg hle]
    exact hdirect nbits hnb

end Sfx.ParsePf
