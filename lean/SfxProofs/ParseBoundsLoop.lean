import SfxProofs.ParseBoundsDigits
/-
  ParseBoundsLoop.lean — the scan loop of `parse_bounds` (C08, tokeniser; core Lean only): phase lemmas for the integer digits, the
  point and the fraction digits; `parseBounds_after_sign` ties the loop plus the final slicing of `parse_bounds` to `TextSpec.split`
  after the sign; the slices are the digit strings without leading (`ltrim`) resp. trailing (`rtrim`) zeros, which leaves the value alone
  (`nv_ltrim`) or scales it by a power of the radix (`nv_rtrim`).
-/
namespace Sfx.ParsePf
open FromStr (parseBoundsLoop Bounds Parse slice)

/-- number of leading `'0'` bytes -/
def leadZeros : List Nat → Nat
  | [] => 0
  | b :: r => if b = 48 then leadZeros r + 1 else 0

/-- length of the list without its trailing `'0'` bytes -/
def keptLen : List Nat → Nat
  | [] => 0
  | b :: r => if keptLen r = 0 ∧ b = 48 then 0 else keptLen r + 1

/-- `l` without its leading `'0'` bytes: the integer slice `parse_bounds` returns -/
def ltrim (l : List Nat) : List Nat := l.drop (leadZeros l)
/-- `l` without its trailing `'0'` bytes: the fraction slice `parse_bounds` returns -/
def rtrim (l : List Nat) : List Nat := l.take (keptLen l)

theorem leadZeros_le : ∀ l : List Nat, leadZeros l ≤ l.length
  | [] => Nat.le_refl _
  | b :: r => by have := leadZeros_le r; simp [leadZeros]; split <;> omega

theorem keptLen_le : ∀ l : List Nat, keptLen l ≤ l.length
  | [] => Nat.le_refl _
  | b :: r => by have := keptLen_le r; simp [keptLen]; split <;> omega

theorem ltrim_all_zero {l : List Nat} (h : ¬ leadZeros l < l.length) : ltrim l = [] := by
  have := leadZeros_le l
  unfold ltrim
  apply List.drop_eq_nil_of_le
  omega

theorem leadZeros_decomp : ∀ l : List Nat, l = List.replicate (leadZeros l) 48 ++ l.drop (leadZeros l)
  | [] => rfl
  | b :: r => by
    by_cases h : b = 48
    · subst h
      have := leadZeros_decomp r
      simp only [leadZeros, if_true, List.replicate_succ, List.drop_succ_cons, List.cons_append]
      rw [← this]
    · simp [leadZeros, h]

theorem ltrim_head : ∀ l : List Nat, (ltrim l).head? ≠ some 48
  | [] => by simp [ltrim, leadZeros]
  | b :: r => by
    by_cases h : b = 48
    · subst h
      have := ltrim_head r
      simpa [ltrim, leadZeros] using this
    · simp [ltrim, leadZeros, h]

theorem keptLen_decomp : ∀ l : List Nat, l = l.take (keptLen l) ++ List.replicate (l.length - keptLen l) 48
  | [] => rfl
  | b :: r => by
    have ih := keptLen_decomp r
    by_cases h : keptLen r = 0 ∧ b = 48
    · obtain ⟨h1, h2⟩ := h
      subst h2
      rw [h1] at ih
      simp only [keptLen, h1, and_self, if_true, List.take_zero, List.nil_append, List.length_cons, Nat.sub_zero,
        List.replicate_succ]
      simpa using ih
    · simp only [keptLen, h, if_false, List.take_succ_cons, List.cons_append, List.length_cons, Nat.add_sub_add_right]
      rw [← ih]

theorem rtrim_last : ∀ l : List Nat, (rtrim l).getLast? ≠ some 48
  | [] => by simp [rtrim, keptLen]
  | b :: r => by
    have ih := rtrim_last r
    have hle := keptLen_le r
    by_cases h : keptLen r = 0 ∧ b = 48
    · simp [rtrim, keptLen, h]
    · unfold rtrim at ih ⊢
      simp only [keptLen, h, if_false, List.take_succ_cons]
      cases ht : r.take (keptLen r) with
      | nil =>
        have : keptLen r = 0 := by
          have := congrArg List.length ht
          rw [List.length_take, List.length_nil] at this; omega
        simp; omega
      | cons c t =>
        rw [List.getLast?_cons_cons, ← ht]; exact ih

theorem nv_ltrim (r : Nat) (l : List Nat) : nv r (ltrim l) = nv r l := by
  conv => rhs; rw [leadZeros_decomp l]
  rw [nv_append, nv_zeros]; simp [ltrim]

theorem nv_rtrim (r : Nat) (l : List Nat) : nv r l = nv r (rtrim l) * r ^ (l.length - keptLen l) := by
  conv => lhs; rw [keptLen_decomp l]
  rw [nv_append, nv_zeros]; simp [rtrim]

theorem rtrim_length (l : List Nat) : (rtrim l).length = keptLen l := by
  have := keptLen_le l
  simp [rtrim]; omega

theorem loop_digit {radix b : Nat} (hb : FromStr.isDigitOf b radix = true) (rest : List Nat) (i : Nat)
    (s : Option Bool) (tis pt tfe : Option Nat) (h : Bool) :
    parseBoundsLoop radix (b :: rest) i ⟨s, tis, pt, tfe, h⟩ = parseBoundsLoop radix rest (i + 1)
      ⟨s, if tis.isNone && pt.isNone && b != 48 then some i else tis, pt,
        if tfe.isSome && b != 48 then some (i + 1) else tfe, true⟩ := by
  obtain ⟨h43, h45, h46⟩ := isDigitOf_not_special hb
  rw [parseBoundsLoop, if_neg h43, if_neg h45, if_neg h46, if_pos hb]
  cases hc1 : tis.isNone && pt.isNone && b != 48 <;> cases hc2 : tfe.isSome && b != 48 <;> simp [hc2]

/-- `k < 3`: the error is `InvalidDigit` (0) or `TooManyPoints` (2), not `Overflow` (3) -/
theorem loop_nondigit {radix b : Nat} (hb : FromStr.isDigitOf b radix = false) (rest : List Nat) (i : Nat)
    (s : Option Bool) (tis pt tfe : Option Nat) (h : Bool) (hpt : b = 46 → pt.isSome = true)
    (hsign : b = 43 ∨ b = 45 → (s.isSome || pt.isSome || h) = true) :
    ∃ k, k < 3 ∧ parseBoundsLoop radix (b :: rest) i ⟨s, tis, pt, tfe, h⟩ = .error k := by
  rw [parseBoundsLoop]
  by_cases h43 : b = 43
  · exact ⟨0, by decide, by rw [if_pos h43, if_pos (hsign (Or.inl h43))]⟩
  by_cases h45 : b = 45
  · exact ⟨0, by decide, by rw [if_neg h43, if_pos h45, if_pos (hsign (Or.inr h45))]⟩
  by_cases h46 : b = 46
  · exact ⟨2, by decide, by rw [if_neg h43, if_neg h45, if_pos h46, if_pos (hpt h46)]⟩
  · exact ⟨0, by decide, by rw [if_neg h43, if_neg h45, if_neg h46, if_neg (by rw [hb]; decide)]⟩

theorem loopF (radix : Nat) : ∀ (l : List Nat) (i e : Nat) (s : Option Bool) (tis : Option Nat) (pt : Nat) (h : Bool)
    (rest : List Nat), D radix l = true →
    parseBoundsLoop radix (l ++ rest) i ⟨s, tis, some pt, some e, h⟩
      = parseBoundsLoop radix rest (i + l.length)
          ⟨s, tis, some pt, some (if keptLen l = 0 then e else i + keptLen l), h || !l.isEmpty⟩ := by
  intro l
  induction l with
  | nil => intro i e s tis pt h rest _; simp [keptLen]
  | cons b r ih =>
    intro i e s tis pt h rest hd
    rw [D_cons_iff] at hd
    rw [List.cons_append, loop_digit hd.1]
    simp only [Option.isNone_some, Option.isSome_some, Bool.and_false, Bool.false_and, Bool.true_and, Bool.false_eq_true,
      if_false]
    rw [← apply_ite some, ih _ _ _ _ _ _ _ hd.2]
    have key : (if keptLen r = 0 then (if (b != 48) = true then i + 1 else e) else i + 1 + keptLen r)
        = if keptLen (b :: r) = 0 then e else i + keptLen (b :: r) := by
      show _ = if (if keptLen r = 0 ∧ b = 48 then 0 else keptLen r + 1) = 0 then e
        else i + (if keptLen r = 0 ∧ b = 48 then 0 else keptLen r + 1)
      by_cases ht : keptLen r = 0 <;> by_cases h48 : b = 48 <;> simp [ht, h48] <;> omega
    rw [key, show i + 1 + r.length = i + (b :: r).length by rw [List.length_cons]; omega]
    simp

/-- the start of the trimmed integer part after scanning the digit list `l` from index `i` -/
def tisOf (tis : Option Nat) (l : List Nat) (i : Nat) : Option Nat :=
  if tis.isSome then tis else if leadZeros l < l.length then some (i + leadZeros l) else none

theorem loopI (radix : Nat) : ∀ (l : List Nat) (i : Nat) (s : Option Bool) (tis : Option Nat) (h : Bool) (rest : List Nat),
    D radix l = true →
    parseBoundsLoop radix (l ++ rest) i ⟨s, tis, none, none, h⟩
      = parseBoundsLoop radix rest (i + l.length) ⟨s, tisOf tis l i, none, none, h || !l.isEmpty⟩ := by
  intro l
  induction l with
  | nil => intro i s tis h rest _; cases tis <;> simp [tisOf, leadZeros]
  | cons b r ih =>
    intro i s tis h rest hd
    rw [D_cons_iff] at hd
    rw [List.cons_append, loop_digit hd.1]
    have hlz := leadZeros_le r
    have e1 : i + 1 + r.length = i + (r.length + 1) := by omega
    have e2 : i + 1 + leadZeros r = i + (leadZeros r + 1) := by omega
    by_cases h48 : b = 48
    · subst h48
      simp [ih _ _ _ _ _ hd.2, tisOf, leadZeros, e1, e2]
    · cases tis with
      | none =>
        simp [ih _ _ _ _ _ hd.2, tisOf, leadZeros, h48, e1]
      | some t =>
        simp [ih _ _ _ _ _ hd.2, tisOf, e1]

theorem slice_int (pre ip tail : List Nat) (z : Nat) (hz : z ≤ ip.length) :
    slice (pre ++ (ip ++ tail)) (pre.length + z) (pre.length + ip.length) = ip.drop z := by
  unfold slice
  rw [List.drop_length_add_append, List.drop_append_of_le_length hz]
  have : pre.length + ip.length - (pre.length + z) = (ip.drop z).length := by simp; omega
  rw [this, List.take_left']
  rfl

theorem slice_frac (pre ip fp : List Nat) (c e : Nat) :
    slice (pre ++ (ip ++ c :: fp)) (pre.length + ip.length + 1) e = fp.take (e - (pre.length + ip.length + 1)) := by
  unfold slice
  have : pre ++ (ip ++ c :: fp) = (pre ++ ip ++ [c]) ++ fp := by simp
  rw [this]
  have h2 : pre.length + ip.length + 1 = (pre ++ ip ++ [c]).length := by simp [Nat.add_assoc]
  rw [h2, List.drop_left]

theorem D_not_contains {r : Nat} {l : List Nat} (h : D r l = true) : l.contains 46 = false := by
  induction l with
  | nil => rfl
  | cons b l ih =>
    simp at h
    have := (isDigitOf_not_special h.1).2.2
    have h2 := ih h.2
    simp at h2 ⊢
    exact ⟨by omega, h2⟩

theorem loop_point (radix : Nat) (fp : List Nat) (i : Nat) (s : Option Bool) (tis : Option Nat) (h : Bool) :
    parseBoundsLoop radix (46 :: fp) i ⟨s, tis, none, none, h⟩
      = parseBoundsLoop radix fp (i + 1) ⟨s, tis, some i, some (i + 1), h⟩ := by
  rw [parseBoundsLoop]; simp

/-- the scan state after the optional sign `s`, before any digit or point -/
abbrev st0 (s : Option Bool) : Bounds := ⟨s, none, none, none, false⟩

/-- The scan from position `pre.length` of `pre ++ rest`, where `pre` is the sign byte already consumed (`[]`, `[43]` or `[45]`
in `sign_split`; only its length matters, for the indices stored in `Bounds`) and `s` what the sign arm stored.
`e < 3`: the error is never `Overflow` (code 3 of `FromStr.ParseResult`). -/
theorem parseBounds_after_sign (radix : Nat) (pre rest : List Nat) (s : Option Bool) (neg : Bool)
    (hneg : s.getD false = neg)
    (hs : s.isSome = true ∨ ∀ b, rest.head? = some b → b ≠ 43 ∧ b ≠ 45)
    (hstart : parseBoundsLoop radix (pre ++ rest) 0 {} = parseBoundsLoop radix rest pre.length (st0 s)) :
    (∃ ip fp, splitTail neg rest = some (neg, ip, fp) ∧ D radix ip = true ∧ D radix fp = true ∧
        FromStr.parseBounds (pre ++ rest) radix = .ok ⟨neg, ltrim ip, rtrim fp⟩) ∨
    ((∃ e, e < 3 ∧ FromStr.parseBounds (pre ++ rest) radix = .error e) ∧
      ∀ n ip fp, splitTail neg rest = some (n, ip, fp) → (D radix ip && D radix fp) = false) := by
  obtain ⟨ip, hip⟩ : ∃ ip, ip = rest.takeWhile (· ≠ 46) := ⟨_, rfl⟩
  obtain ⟨after, hafter⟩ : ∃ a, a = rest.dropWhile (· ≠ 46) := ⟨_, rfl⟩
  have hrest : rest = ip ++ after := by rw [hip, hafter, List.takeWhile_append_dropWhile]
  cases hD : D radix ip
  · right
    obtain ⟨ds, b, r', hipd, hds, hb⟩ := D_false hD
    have hb46 : b ≠ 46 := of_decide_eq_true
      (List.all_eq_true.1 List.all_takeWhile b (show b ∈ rest.takeWhile (· ≠ 46) by rw [← hip, hipd]; simp))
    have hrest' : rest = ds ++ b :: (r' ++ after) := by rw [hrest, hipd]; simp
    obtain ⟨k, hk3, hk⟩ := loop_nondigit hb (r' ++ after) (pre.length + ds.length) s (tisOf none ds pre.length) none none
      (false || !ds.isEmpty) (fun h => absurd h hb46) (by
        intro hb'
        rcases hs with hs | hs
        · simp [hs]
        · cases ds with
          | nil => rw [hrest'] at hs; have := hs b rfl; omega
          | cons _ _ => simp)
    refine ⟨⟨k, hk3, by unfold FromStr.parseBounds; rw [hstart, show parseBoundsLoop radix rest pre.length (st0 s) = .error k by
      rw [hrest', loopI radix ds pre.length s none false _ hds]; exact hk]⟩, ?_⟩
    intro n' ip' fp' hsp
    obtain ⟨_, h2, _, _⟩ := splitTail_some hsp
    rw [h2, ← hip, hD]; rfl
  · have hloop := loopI radix ip pre.length s none false after hD
    rw [← hrest] at hloop
    have hlz := leadZeros_le ip
    cases hafter' : after with
    | nil =>
      rw [hafter'] at hloop hrest
      rw [List.append_nil] at hrest
      by_cases hne : ip = []
      · right
        refine ⟨⟨1, by decide, ?_⟩, ?_⟩
        · unfold FromStr.parseBounds; rw [hstart, hloop]; simp [parseBoundsLoop, hne]
        · intro n' ip' fp' hsp
          obtain ⟨_, h2, h3, h4⟩ := splitTail_some hsp
          rw [← hafter, hafter'] at h3
          rw [← hip] at h2
          rcases h3 with ⟨_, h3⟩ | ⟨c, h3⟩
          · subst h2; subst h3; subst hne; simp at h4
          · cases h3
      · left
        refine ⟨ip, [], ?_, hD, rfl, ?_⟩
        · rw [hip]; exact splitTail_nil neg (by rw [← hafter, hafter']) (by rw [← hip]; exact hne)
        · unfold FromStr.parseBounds; rw [hstart, hloop]
          have hne' : ip.isEmpty = false := by cases ip; exact absurd rfl hne; rfl
          simp only [parseBoundsLoop, hne', tisOf, hneg]
          by_cases hz : leadZeros ip < ip.length
          · simp [hz, hrest, rtrim, keptLen, ltrim]
          · simp [hz, ltrim_all_zero hz, rtrim, keptLen]
    | cons c fp =>
      have hc : c = 46 := dropWhile_head rest c fp (by rw [← hafter, hafter'])
      subst hc
      rw [hafter'] at hloop hrest
      rw [loop_point] at hloop
      cases hDf : D radix fp
      · right
        obtain ⟨ds, b, r', hfpd, hds, hb⟩ := D_false hDf
        obtain ⟨k, hk3, hk⟩ := loop_nondigit hb r' (pre.length + ip.length + 1 + ds.length) s (tisOf none ip pre.length)
          (some (pre.length + ip.length))
          (some (if keptLen ds = 0 then pre.length + ip.length + 1 else pre.length + ip.length + 1 + keptLen ds))
          ((false || !ip.isEmpty) || !ds.isEmpty) (fun _ => rfl) (fun _ => by simp)
        refine ⟨⟨k, hk3, by unfold FromStr.parseBounds; rw [hstart, hloop, hfpd, loopF radix ds _ _ _ _ _ _ _ hds, hk]⟩, ?_⟩
        intro n' ip' fp' hsp
        obtain ⟨_, _, h3, _⟩ := splitTail_some hsp
        rw [← hafter, hafter'] at h3
        rcases h3 with ⟨h3, _⟩ | ⟨c, h3⟩
        · cases h3
        · injection h3 with _ h3
          subst h3; simp [hDf]
      · have hok := loopF radix fp (pre.length + ip.length + 1) (pre.length + ip.length + 1) s
          (tisOf none ip pre.length) (pre.length + ip.length) (false || !ip.isEmpty) [] hDf
        rw [List.append_nil, parseBoundsLoop] at hok
        by_cases hne : ip.length + fp.length = 0
        · right
          refine ⟨⟨1, by decide, ?_⟩, ?_⟩
          · have h1 : ip = [] := List.eq_nil_of_length_eq_zero (by omega)
            have h2 : fp = [] := List.eq_nil_of_length_eq_zero (by omega)
            unfold FromStr.parseBounds; rw [hstart, hloop, hok]; simp; exact ⟨h1, h2⟩
          · intro n' ip' fp' hsp
            obtain ⟨_, h2, h3, h4⟩ := splitTail_some hsp
            rw [← hafter, hafter'] at h3
            rw [← hip] at h2
            rcases h3 with ⟨h3, _⟩ | ⟨c, h3⟩
            · cases h3
            · injection h3 with _ h3
              subst h3; subst h2; exact absurd hne h4
        · left
          refine ⟨ip, fp, ?_, hD, hDf, ?_⟩
          · rw [hip]; exact splitTail_cons neg (by rw [← hafter, hafter']) (D_not_contains hDf) (by rw [← hip]; exact hne)
          · unfold FromStr.parseBounds; rw [hstart, hloop, hok]
            have hany : ((false || !ip.isEmpty) || !fp.isEmpty) = true := by
              cases hi : ip with
              | nil =>
                cases hf : fp with
                | nil => rw [hi, hf] at hne; exact absurd rfl hne
                | cons _ _ => rfl
              | cons _ _ => rfl
            have hfr : fp.take ((if keptLen fp = 0 then pre.length + ip.length + 1 else pre.length + ip.length + 1 + keptLen fp)
                - (pre.length + ip.length + 1)) = rtrim fp := by
              unfold rtrim; congr 1; split <;> omega
            simp only [hany, tisOf, hneg, hrest]
            by_cases hz : leadZeros ip < ip.length
            · simp [hz, slice_int, slice_frac, hfr, ltrim, hlz]
            · simp [hz, ltrim_all_zero hz, slice_frac, hfr]

end Sfx.ParsePf
