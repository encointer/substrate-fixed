import SfxProofs.ParseDec128
/-
  ParseDec.lean — C08, decimal fractions (`dec_to_bin`, `dec_str_frac_to_bin` of `src/from_str.rs`): the statements on `Nat`, in the
  specification's `rneDiv`, for the five widths — `dec_to_bin` for the four table rows and the two-limb `u128` version, and
  `dec_str_frac_to_bin` by `decStr_of_floorOk` at the five instances of `FloorOk`.  Core Lean only.
-/
namespace Sfx.ParseDecPf
open FromStr TextSpec ParsePf

/-- `dec_to_bin` of the four widening instances.
`Round::Nearest` is round-half-even of `val · 2^nbits / 10^dec`, `None` when that reaches `2^nbits`
(the `Some(0)` branch of the code is the case `nbits = 0`, `val = 10^dec / 2`, where the rounded value `0` is below `2^0`);
`Round::Floor` is `⌊val · 2^nbits / 10^dec⌋`, minus one when the fraction is exactly an odd integer.
No debug check fires. -/
theorem decToBin_spec (bin dec : Nat)
    (hinst : (bin = 8 ∧ dec = 3) ∨ (bin = 16 ∧ dec = 6) ∨ (bin = 32 ∧ dec = 13) ∨ (bin = 64 ∧ dec = 27))
    (val : Nat) (hval : val < 10 ^ dec) (nbits : Nat) (hn : nbits ≤ bin) :
    FromStr.decToBin bin dec val nbits true =
      .ok (let E := rneDiv (val * 2 ^ nbits) (10 ^ dec); if E < 2 ^ nbits then some (E : Int) else none) false ∧
    FromStr.decToBin bin dec val nbits false =
      .ok (some (if (val * 2 ^ nbits) % 10 ^ dec = 0 ∧ (val * 2 ^ nbits / 10 ^ dec) % 2 = 1
        then ((val * 2 ^ nbits / 10 ^ dec : Nat) : Int) - 1 else ((val * 2 ^ nbits / 10 ^ dec : Nat) : Int))) false := by
  have I : Inst bin dec := by
    rcases hinst with ⟨rfl, rfl⟩ | ⟨rfl, rfl⟩ | ⟨rfl, rfl⟩ | ⟨rfl, rfl⟩
    · exact inst8
    · exact inst16
    · exact inst32
    · exact inst64
  have hv : (val : Int) < 10 ^ dec := by rw [← cast_ten]; exact Int.ofNat_lt.2 hval
  constructor
  · show _ = Outcome.ok (fracOpt nbits (rneDiv (val * 2 ^ nbits) (10 ^ dec))) false
    rw [spec_cast _ _ _ (Nat.pow_pos (by decide)), natCast_mul_pow, cast_ten]
    exact decToBin_near I val (Int.natCast_nonneg _) hv nbits hn
  · rw [floorQ_cast, natCast_mul_pow, cast_ten]
    exact decToBin_floor I val (Int.natCast_nonneg _) hv nbits hn

theorem decStr_nat {n dec : Nat} (I : Inst n dec) (hFl : FloorOk n dec) (h3 : 3 ≤ n) {nbits : Nat} {bytes : List Nat}
    (hnb : nbits ≤ n) (hD : D 10 bytes = true) (hlast : bytes.getLast? ≠ some 48) :
    FromStr.decStrFracToBin n bytes nbits = .ok (fracRes 10 nbits bytes) false := by
  rw [fracRes_eq, spec_cast _ _ _ (Nat.pow_pos (by decide)), natCast_mul_pow, cast_ten]
  exact decStr_of_floorOk n dec hFl h3 I.big bytes nbits hD hlast hnb

theorem decStrFracToBin_nv_le64 {n nbits : Nat} {bytes : List Nat} (hn : n = 8 ∨ n = 16 ∨ n = 32 ∨ n = 64)
    (hnb : nbits ≤ n) (hD : D 10 bytes = true) (hlast : bytes.getLast? ≠ some 48) :
    FromStr.decStrFracToBin n bytes nbits = .ok (fracRes 10 nbits bytes) false := by
  have h128 : n ≠ 128 := by omega
  have key : ∀ dec, Inst n dec → decDigits n = dec → _ := fun dec I hdd =>
    decStr_nat I (floorOk_small n dec I hdd h128) (by omega) hnb hD hlast
  rcases hn with rfl | rfl | rfl | rfl
  · exact key 3 inst8 rfl
  · exact key 6 inst16 rfl
  · exact key 13 inst32 rfl
  · exact key 27 inst64 rfl

/-- the two-limb `dec_to_bin` of `u128` (`dec = 54`, value `hi · 10^27 + lo`): the same two statements
as `decToBin_spec`.  The carries (`hi_hi + 1`, `numer_hi + 1`) do not overflow and `wide_div` does not panic. -/
theorem decToBin128_spec (hi lo : Nat) (hhi : hi < 10 ^ 27) (hlo : lo < 10 ^ 27) (nbits : Nat) (hn : nbits ≤ 128) :
    FromStr.decToBin128 hi lo nbits true =
      .ok (let E := rneDiv ((hi * 10 ^ 27 + lo) * 2 ^ nbits) (10 ^ 54); if E < 2 ^ nbits then some (E : Int) else none) false ∧
    FromStr.decToBin128 hi lo nbits false =
      .ok (some (if ((hi * 10 ^ 27 + lo) * 2 ^ nbits) % 10 ^ 54 = 0 ∧ ((hi * 10 ^ 27 + lo) * 2 ^ nbits / 10 ^ 54) % 2 = 1
        then (((hi * 10 ^ 27 + lo) * 2 ^ nbits / 10 ^ 54 : Nat) : Int) - 1
        else (((hi * 10 ^ 27 + lo) * 2 ^ nbits / 10 ^ 54 : Nat) : Int))) false := by
  have h1 : (hi : Int) < 10 ^ 27 := by rw [← cast_ten]; exact Int.ofNat_lt.2 hhi
  have h2 : (lo : Int) < 10 ^ 27 := by rw [← cast_ten]; exact Int.ofNat_lt.2 hlo
  have hc : ((hi * 10 ^ 27 + lo : Nat) : Int) = (hi : Int) * 10 ^ 27 + lo := by
    rw [Int.natCast_add, Int.natCast_mul, cast_ten]
  constructor
  · show _ = Outcome.ok (fracOpt nbits (rneDiv ((hi * 10 ^ 27 + lo) * 2 ^ nbits) (10 ^ 54))) false
    rw [spec_cast _ _ _ (Nat.pow_pos (by decide)), natCast_mul_pow, cast_ten, hc]
    exact decToBin128_near hi lo (Int.natCast_nonneg _) h1 (Int.natCast_nonneg _) h2 nbits hn
  · rw [floorQ_cast, natCast_mul_pow, cast_ten, hc]
    exact decToBin128_floor hi lo (Int.natCast_nonneg _) h1 (Int.natCast_nonneg _) h2 nbits hn

/-- `dec_str_frac_to_bin` for all five widths.
`bytes`: decimal digits (`D 10 bytes`, value `v = nv 10 bytes`) whose last digit is not `'0'` (the tokeniser trims trailing zeros;
the empty string is allowed).  The result is round-half-even of `v · 2^nbits / 10^len`, `None` when that reaches
`2^nbits`; no debug check fires (`numer += fives`, the carries of the `u128` version, the shifts). -/
theorem decStrFracToBin_nv {n nbits : Nat} {bytes : List Nat} (hn : n = 8 ∨ n = 16 ∨ n = 32 ∨ n = 64 ∨ n = 128)
    (hnb : nbits ≤ n) (hD : D 10 bytes = true) (hlast : bytes.getLast? ≠ some 48) :
    FromStr.decStrFracToBin n bytes nbits = .ok (fracRes 10 nbits bytes) false := by
  by_cases h128 : n = 128
  · subst h128
    exact decStr_nat inst128 floorOk_128 (by decide) hnb hD hlast
  · exact decStrFracToBin_nv_le64 (by omega) hnb hD hlast

/-- the hypothesis "last digit is not `'0'`" cannot be dropped: on the exact tie `0.001953125 = 0.5/256` followed by a `'0'`
the slow path sees "boundary exhausted, digits left" and rounds up, while the value is a tie that rounds to the even `0`.
(Outside the contract: `parse_bounds` trims trailing zeros of the fraction.) -/
theorem trailing_zero_witness :
    FromStr.decStrFracToBin 8 [48, 48, 49, 57, 53, 51, 49, 50, 53, 48] 8 = .ok (some 1) false ∧
    digitsVal 10 [48, 48, 49, 57, 53, 51, 49, 50, 53, 48] = some 19531250 ∧
    rneDiv (19531250 * 2 ^ 8) (10 ^ 10) = 0 := by decide

#print axioms decToBin_spec
#print axioms decStrFracToBin_nv_le64
#print axioms decToBin128_spec
#print axioms decStrFracToBin_nv

end Sfx.ParseDecPf
