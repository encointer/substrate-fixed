import SfxProofs.ParseDecSlow
import SfxProofs.WideDivU
/-
  ParseDec128.lean — the `u128` instance of decimal-fraction parsing.  A 256-bit number is a pair of 128-bit limbs (`Limbs`, a `Split`
  at base `2^128`); `decToBin128_eq` cuts the two-limb `dec_to_bin` into `carry128`, `numer128`, `check128`, `finish128`, each specified
  on `Limbs` against the same arithmetic (`near_answer`, `tieDown_floor`) as the one-word version; the division is the wide division of
  `wide_div.rs`.  With `parse_is_short` this gives `FloorOk 128 54`.  Core Lean only.
-/
namespace Sfx.ParseDecPf
open FromStr ParsePf

theorem halves (x : Int) (h0 : 0 ≤ x) (h1 : x < 2 ^ 128) :
    0 ≤ x / 2 ^ 64 ∧ x / 2 ^ 64 < 2 ^ 64 ∧ 0 ≤ x % 2 ^ 64 ∧ x % 2 ^ 64 < 2 ^ 64 ∧ x = x / 2 ^ 64 * 2 ^ 64 + x % 2 ^ 64 := by
  have s := Split.of (two_pow_pos 64) x
  rw [pow_add' 64 64] at h1
  exact ⟨(s.le_hi_iff 0).2 (by omega), (s.hi_lt_iff _).2 h1, s.lo0, s.lo1, s.eq.symm⟩

/-- the two limbs of `x` in base `2^128` (`Split`), the high one non-negative -/
structure Limbs (hi lo x : Int) : Prop extends Split (2 ^ 128) hi lo x where
  hi0 : 0 ≤ hi

theorem Limbs.hi_lt {hi lo x c : Int} (L : Limbs hi lo x) (h : x < c * 2 ^ 128) : hi < c := (L.toSplit.hi_lt_iff c).2 h

theorem Limbs.eq_iff {hi lo x hi' lo' y : Int} (L : Limbs hi lo x) (L' : Limbs hi' lo' y) :
    hi = hi' ∧ lo = lo' ↔ x = y := by
  obtain ⟨⟨l0, l1, e⟩, _⟩ := L
  obtain ⟨⟨m0, m1, e'⟩, _⟩ := L'
  omega

theorem Limbs.nonneg {hi lo x : Int} (L : Limbs hi lo x) : 0 ≤ x := by
  have := (L.toSplit.le_hi_iff 0).1 L.hi0
  omega

theorem limb_mul_add {B x y c : Int} (hx0 : 0 ≤ x) (hx1 : x < B) (hy0 : 0 ≤ y) (hy1 : y < B) (hc0 : 0 ≤ c) (hc1 : c < B) :
    0 ≤ x * y + c ∧ x * y + c < B * B := by
  have := mul_add_bounds (m := 0) (X := B - 1) (H := B) (Int.le_refl 0) (by omega) hx0 (by omega) hy0 hy1 hc0 hc1
  rw [Int.zero_mul, Int.sub_add_cancel] at this
  exact this

theorem mulHiLo_spec (lhs rhs : Int) (hl0 : 0 ≤ lhs) (hl1 : lhs < 2 ^ 128) (hr0 : 0 ≤ rhs) (hr1 : rhs < 2 ^ 128) :
    ∃ h l : Int, mulHiLo lhs rhs = (h, l) ∧ Limbs h l (lhs * rhs) := by
  have hB := two_pow_pos 64
  have hBB : (2 : Int) ^ 128 = 2 ^ 64 * 2 ^ 64 := pow_add' 64 64
  have sa := Split.of hB lhs
  have sb := Split.of hB rhs
  obtain ⟨a0, a1, -⟩ := halves lhs hl0 hl1
  obtain ⟨c0, c1, -⟩ := halves rhs hr0 hr1
  unfold mulHiLo shrI
  generalize lhs / 2 ^ 64 = lh at *
  generalize lhs % 2 ^ 64 = ll at *
  generalize rhs / 2 ^ 64 = rh at *
  generalize rhs % 2 ^ 64 = rl at *
  obtain ⟨p1, p1'⟩ := limb_mul_add sa.lo0 sa.lo1 sb.lo0 sb.lo1 (Int.le_refl 0) hB
  obtain ⟨p2, p2'⟩ := limb_mul_add a0 a1 sb.lo0 sb.lo1 (Int.le_refl 0) hB
  obtain ⟨p3, p3'⟩ := limb_mul_add sa.lo0 sa.lo1 c0 c1 (Int.le_refl 0) hB
  obtain ⟨p4, p4'⟩ := limb_mul_add a0 a1 c0 c1 (Int.le_refl 0) hB
  rw [Int.add_zero] at p1 p1' p2 p2' p3 p3' p4 p4'
  rw [← hBB] at p1' p2' p3' p4'
  simp only []
  rw [wrapU_of_lt p1 p1', wrapU_of_lt p2 p2', wrapU_of_lt p3 p3', wrapU_of_lt p4 p4']
  have s1 := Split.of hB (ll * rl)
  have q0 := (s1.le_hi_iff 0).2 (by omega)
  have q1 := (s1.hi_lt_iff (2 ^ 64)).2 (by omega)
  generalize ll * rl / 2 ^ 64 = c01h at *
  generalize ll * rl % 2 ^ 64 = c01l at *
  obtain ⟨m0, m1⟩ := limb_mul_add a0 a1 sb.lo0 sb.lo1 q0 q1
  rw [← hBB] at m1
  -- the middle column with its carry `cc ∈ {0, 1}`
  have key : ∀ (c12 cc : Int), 0 ≤ c12 → c12 < 2 ^ 128 → lh * rl + c01h + ll * rh = c12 + cc * (2 ^ 64 * 2 ^ 64) → 0 ≤ cc →
      Limbs (lh * rh + c12 / 2 ^ 64 + cc * 2 ^ 64) (shlI false 128 (c12 % 2 ^ 64) 64 + c01l) (lhs * rhs) := by
    intro c12 cc k0 k1 hk hcc
    have s2 := Split.of hB c12
    have e0 := (s2.le_hi_iff 0).2 (by omega)
    obtain ⟨r0, r1, re⟩ := Split.mul sa sb s1 s2 hk
    rw [← hBB] at r1 re
    have := Int.mul_nonneg s2.lo0 (Int.le_of_lt hB)
    rw [shlU_of_lt s2.lo0 (by omega)]
    exact ⟨⟨r0, r1, re⟩, Int.add_nonneg (Int.add_nonneg p4 e0) (Int.mul_nonneg hcc (Int.le_of_lt hB))⟩
  by_cases hov : lh * rl + c01h + ll * rh < 2 ^ 128
  · rw [ovfI_lt (by omega) hov]
    exact ⟨_, _, rfl, by simpa using key _ 0 (by omega) hov (by omega) (Int.le_refl 0)⟩
  · rw [ovfI_ge (by omega) (by omega)]
    exact ⟨_, _, rfl, by simpa using key _ 1 (by omega) (by omega) (by omega) (by decide)⟩

/-- `lo.overflowing_add(y)` with the carry added into `hi`, as it occurs twice in `dec_to_bin` -/
def carry128 {α : Type} (hi lo y : Int) (k : Int → Int → Outcome α) : Outcome α := do
  let (wrapped, overflow) := ovfI false 128 (lo + y)
  let hi ← if overflow then uadd false 128 hi 1 else pure hi
  k hi wrapped

/-- the shift by `nbits - 53`: `(numer_lo, numer_hi, inexact)` -/
def numer128 (valHi valLo : Int) (nbits : Nat) : Int × Int × Bool :=
  if nbits < 53 then
    let shr := 53 - nbits
    (orI false 128 (shrI valLo shr) (shlI false 128 valHi (128 - shr)), shrI valHi shr, valLo % 2 ^ shr != 0)
  else if nbits > 53 then
    let shl := nbits - 53
    (shlI false 128 valLo shl, orI false 128 (shlI false 128 valHi shl) (shrI valLo (128 - shl)), false)
  else (valLo, valHi, false)

/-- `div_tie` and the tie correction -/
def finish128 (inexact : Bool) (numerHi numerLo : Int) : Outcome (Option Int) := do
  let (div, tie) ← divTie numerHi numerLo (5 ^ 54 * 2)
  let tie := tie && !inexact
  let div := if tie && isOdd div then div - 1 else div
  pure (some div)

/-- the upper-bound test of `Round::Nearest` on the rounded numerator -/
def check128 (valHi valLo : Int) (nbits : Nat) (inexact : Bool) (numerHi numerLo : Int) : Outcome (Option Int) :=
  let checkOverflow :=
    if nbits == 128 then numerHi
    else if nbits == 0 then numerLo
    else orI false 128 (shrI numerLo nbits) (shlI false 128 numerHi (128 - nbits))
  if checkOverflow ≥ 5 ^ 54 * 2 then
    let halfHi := shrI (5 ^ 54) (128 - (54 - 1))
    let halfLo := shlI false 128 (5 ^ 54) (54 - 1)
    pure (if nbits == 0 && valHi == halfHi && valLo == halfLo then some 0 else none)
  else finish128 inexact numerHi numerLo

/-- everything after `val_hi`, `val_lo` -/
def stage128 (valHi valLo : Int) (nbits : Nat) (nearest : Bool) : Outcome (Option Int) :=
  let (numerLo, numerHi, inexact) := numer128 valHi valLo nbits
  if nearest then carry128 numerHi numerLo (5 ^ 54) (check128 valHi valLo nbits inexact)
  else finish128 inexact numerHi numerLo

theorem decToBin128_eq (hi lo : Int) (nbits : Nat) (nearest : Bool) :
    decToBin128 hi lo nbits nearest = (do
      Outcome.dassert (decide (hi < 10 ^ 27))
      Outcome.dassert (decide (lo < 10 ^ 27))
      Outcome.dassert (decide (nbits ≤ 128))
      let (hiHi, hiLo) := mulHiLo hi (10 ^ 27)
      carry128 hiHi hiLo lo fun valHi valLo => stage128 valHi valLo nbits nearest) := rfl

theorem carry128_spec {α : Type} {hi lo x y : Int} (k : Int → Int → Outcome α) (L : Limbs hi lo x) (hy0 : 0 ≤ y)
    (hy1 : y < 2 ^ 128) (hh : hi + 1 < 2 ^ 128) :
    ∃ hi' lo' : Int, carry128 hi lo y k = k hi' lo' ∧ Limbs hi' lo' (x + y) ∧ hi' ≤ hi + 1 := by
  obtain ⟨⟨l0, l1, he⟩, h0⟩ := L
  unfold carry128
  by_cases hov : lo + y < 2 ^ 128
  · rw [ovfI_lt (by omega) hov]
    exact ⟨hi, lo + y, ok_false_bind _ _, ⟨⟨by omega, hov, by omega⟩, h0⟩, by omega⟩
  · rw [ovfI_ge (by omega) (by omega)]
    simp only [if_true]
    rw [uadd_ok ((inU_iff _ _).2 ⟨by omega, hh⟩)]
    exact ⟨hi + 1, lo + y - 2 ^ 128, ok_false_bind _ _, ⟨⟨by omega, by omega, by rw [Int.add_mul]; omega⟩, by omega⟩, Int.le_refl _⟩

theorem val128_spec (hi lo : Int) (hh0 : 0 ≤ hi) (hh1 : hi < 10 ^ 27) (hl0 : 0 ≤ lo) (hl1 : lo < 10 ^ 27) (nbits : Nat)
    (hn : nbits ≤ 128) (nearest : Bool) :
    ∃ valHi valLo : Int, decToBin128 hi lo nbits nearest = stage128 valHi valLo nbits nearest ∧
      Limbs valHi valLo (hi * 10 ^ 27 + lo) := by
  obtain ⟨H, L, hm, hL⟩ := mulHiLo_spec hi (10 ^ 27) hh0 (by omega) (by decide) (by decide)
  have hH : H + 1 < 2 ^ 128 := by
    have := hL.hi_lt (c := 10 ^ 27) (by omega); omega
  obtain ⟨vh, vl, hc, hV, _⟩ := carry128_spec (fun valHi valLo => stage128 valHi valLo nbits nearest) hL hl0 (by omega) hH
  rw [decToBin128_eq]
  simp only [Outcome.dassert, hh1, hl1, hn, decide_true, Bool.not_true, ok_false_bind, hm]
  exact ⟨vh, vl, hc, hV⟩

theorem funnel_shr {hi lo x : Int} (L : Limbs hi lo x) (s : Nat) (hs : s < 128) :
    orI false 128 (shrI lo s) (shlI false 128 hi (128 - s)) = (hi % 2 ^ s) * 2 ^ (128 - s) + lo / 2 ^ s ∧
    Limbs (hi / 2 ^ s) ((hi % 2 ^ s) * 2 ^ (128 - s) + lo / 2 ^ s) (x / 2 ^ s) := by
  obtain ⟨⟨hl0, hl1, hx⟩, hh0⟩ := L
  have hS := two_pow_pos s
  have hW := two_pow_pos (128 - s)
  have hN : (2 : Int) ^ 128 = 2 ^ (128 - s) * 2 ^ s := pow_sub_mul (by omega)
  have hm0 := Int.emod_nonneg hi (Int.ne_of_gt hS)
  have hm1 := Int.emod_lt_of_pos hi hS
  have hq0 : 0 ≤ lo / 2 ^ s := Int.ediv_nonneg hl0 (Int.le_of_lt hS)
  have hq1 : lo / 2 ^ s < 2 ^ (128 - s) := by rw [Int.ediv_lt_iff_lt_mul hS, ← hN]; exact hl1
  have hx1 : hi % 2 ^ s * 2 ^ (128 - s) ≤ (2 ^ s - 1) * 2 ^ (128 - s) :=
    Int.mul_le_mul_of_nonneg_right (by omega) (Int.le_of_lt hW)
  rw [Int.sub_mul, Int.one_mul, Int.mul_comm (2 ^ s), ← hN] at hx1
  have hx0 : 0 ≤ hi % 2 ^ s * 2 ^ (128 - s) := Int.mul_nonneg hm0 (Int.le_of_lt hW)
  have e1 : shlI false 128 hi (128 - s) = hi % 2 ^ s * 2 ^ (128 - s) := by
    rw [WideDiv.shlU_eq (by omega)]; congr 3; omega
  refine ⟨?_, ⟨by omega, by omega, ?_⟩, Int.ediv_nonneg hh0 (Int.le_of_lt hS)⟩
  · rw [orI_comm, e1]; unfold shrI
    exact orI_mul_add hm0 hq0 hq1 (by omega)
  · have hd := Int.ediv_mul_add_emod hi (2 ^ s)
    have e2 : hi * 2 ^ 128 + lo = lo + (hi * 2 ^ (128 - s)) * 2 ^ s := by rw [hN, Int.add_comm, Int.mul_assoc]
    rw [← hx, e2, Int.add_mul_ediv_right _ _ (Int.ne_of_gt hS), hN]
    generalize hi / 2 ^ s = a at *
    generalize hi % 2 ^ s = b at *
    generalize lo / 2 ^ s = c at *
    subst hd
    grind

theorem funnel_shl {hi lo x : Int} (L : Limbs hi lo x) (s : Nat) (hs : s < 128) (hh1 : hi * 2 ^ s < 2 ^ 128) :
    shlI false 128 lo s = lo % 2 ^ (128 - s) * 2 ^ s ∧
    orI false 128 (shlI false 128 hi s) (shrI lo (128 - s)) = hi * 2 ^ s + lo / 2 ^ (128 - s) ∧
    Limbs (hi * 2 ^ s + lo / 2 ^ (128 - s)) (lo % 2 ^ (128 - s) * 2 ^ s) (x * 2 ^ s) := by
  have hS := two_pow_pos s
  have hN : (2 : Int) ^ 128 = 2 ^ (128 - s) * 2 ^ s := pow_sub_mul (by omega)
  have hsp := L.toSplit
  rw [hN] at hsp
  obtain ⟨⟨n0, n1, ne⟩, q0, q1⟩ := hsp.shl (two_pow_pos _) hS
  have hhs0 : 0 ≤ hi * 2 ^ s := Int.mul_nonneg L.hi0 (Int.le_of_lt hS)
  rw [← hN] at n1 ne
  refine ⟨WideDiv.shlU_eq (by omega) lo, ?_, ⟨n0, n1, ne⟩, by omega⟩
  rw [shlU_of_lt L.hi0 hh1]
  -- a sum of limbs `hi·2^s + q` with `q < 2^s` and `hi < 2^(128-s)` stays below `2^128`
  have h1 : hi < 2 ^ (128 - s) := (Int.mul_lt_mul_right hS).1 (by rw [← hN]; exact hh1)
  have := ((⟨q0, q1, rfl⟩ : Split (2 ^ s) hi (lo / 2 ^ (128 - s)) _).hi_lt_iff _).1 h1
  exact orI_mul_add L.hi0 q0 q1 (by rw [hN]; exact this)

theorem numer128_spec {valHi valLo V : Int} (L : Limbs valHi valLo V) (nbits : Nat) (hn : nbits ≤ 128) (hv : V < 10 ^ 54) :
    ∃ nHi nLo : Int,
      numer128 valHi valLo nbits = (nLo, nHi, !decide (2 * (V * 2 ^ nbits) % 2 ^ 54 = 0)) ∧
      Limbs nHi nLo (2 * (V * 2 ^ nbits) / 2 ^ 54) := by
  have hHs : valHi < 2 ^ 52 := L.hi_lt (by omega)
  rw [← two_pow_succ_mul]
  unfold numer128
  by_cases h1 : nbits < 53
  · rw [if_pos h1]
    simp only []
    obtain ⟨f1, f2⟩ := funnel_shr L (53 - nbits) (by omega)
    obtain ⟨sc1, sc2⟩ := shift_scale V 0 (53 - nbits) (nbits + 1) 54 (by omega)
    rw [Int.pow_zero, Int.mul_one] at sc1 sc2
    have hmod : valLo % 2 ^ (53 - nbits) = V % 2 ^ (53 - nbits) := by
      have hN : (2 : Int) ^ 128 = 2 ^ (128 - (53 - nbits)) * 2 ^ (53 - nbits) := pow_sub_mul (by omega)
      rw [← L.eq, hN, ← Int.mul_assoc, Int.add_comm, Int.add_mul_emod_self_right]
    refine ⟨_, _, ?_, sc1 ▸ f2⟩
    rw [f1, hmod, ← decide_eq_decide.2 sc2]; rfl
  · rw [if_neg h1]
    have hex : ∀ k : Nat, nbits + 1 = k + 54 → (V * 2 ^ (nbits + 1)) % 2 ^ 54 = 0 ∧ V * 2 ^ (nbits + 1) / 2 ^ 54 = V * 2 ^ k := by
      intro k e
      rw [e, pow_add', ← Int.mul_assoc]
      exact ⟨Int.mul_emod_left .., Int.mul_ediv_cancel _ (Int.ne_of_gt (two_pow_pos 54))⟩
    by_cases h2 : nbits > 53
    · rw [if_pos h2]
      simp only []
      have hsh : valHi * 2 ^ (nbits - 53) < 2 ^ 128 := by
        have h75 : (2 : Int) ^ (nbits - 53) ≤ 2 ^ 75 := pow_le_pow (by omega)
        have := Int.mul_le_mul_of_nonneg_left h75 L.hi0
        have := Int.mul_lt_mul_of_pos_right hHs (two_pow_pos 75)
        omega
      obtain ⟨g1, g2, g3⟩ := funnel_shl L (nbits - 53) (by omega) hsh
      obtain ⟨e1, e2⟩ := hex (nbits - 53) (by omega)
      rw [g1, g2, e1, e2, decide_eq_true rfl]
      exact ⟨_, _, rfl, g3⟩
    · rw [if_neg h2]
      obtain ⟨e1, e2⟩ := hex 0 (by omega)
      rw [e1, e2, decide_eq_true rfl, Int.pow_zero, Int.mul_one]
      exact ⟨_, _, rfl, L⟩

theorem finish128_spec {nHi nLo x : Int} (L : Limbs nHi nLo x) (ex : Prop) [Decidable ex] (hh1 : nHi < 2 ^ 128)
    (hq : x / (2 * 5 ^ 54) < 2 ^ 128) :
    finish128 (!decide ex) nHi nLo = .ok (some (tieDown x (2 * 5 ^ 54) ex)) false := by
  have hd : inI false 128 (5 ^ 54 * 2) := by decide
  have hq0 : 0 ≤ x / (2 * 5 ^ 54) := Int.ediv_nonneg L.nonneg (by decide)
  unfold finish128 divTie tieDown
  rw [divRemFromU_spec 128 (by decide) (by decide) _ nHi nLo hd (by decide) ((inU_iff _ _).2 ⟨L.hi0, hh1⟩)
    ((inU_iff _ _).2 ⟨L.lo0, L.lo1⟩), L.eq, Int.mul_comm (5 ^ 54) 2]
  simp only [ok_false_bind, pure_eq_ok]
  rw [Int.emod_eq_of_lt hq0 hq]
  simp only [Bool.not_not, Bool.and_eq_true, beq_iff_eq, decide_eq_true_eq, isOdd_iff]

/-- `check_overflow` is the rounded numerator shifted right by `nbits` -/
theorem check128_spec {nHi nLo x : Int} (L : Limbs nHi nLo x) (valHi valLo : Int) (nbits : Nat) (hn : nbits ≤ 128)
    (inexact : Bool) (hlt : x < (3 * 5 ^ 54) * 2 ^ nbits) :
    check128 valHi valLo nbits inexact nHi nLo =
      if 2 * 5 ^ 54 ≤ x / 2 ^ nbits then
        pure (if (nbits == 0 && valHi == shrI (5 ^ 54) 75 && valLo == shlI false 128 (5 ^ 54) 53) = true then some 0 else none)
      else finish128 inexact nHi nLo := by
  have hK := two_pow_pos nbits
  have hhk : nHi < 2 ^ nbits := L.hi_lt (by omega)
  have hco : (if (nbits == 128) = true then nHi else if (nbits == 0) = true then nLo
      else orI false 128 (shrI nLo nbits) (shlI false 128 nHi (128 - nbits))) = x / 2 ^ nbits := by
    by_cases h128 : nbits = 128
    · subst h128
      rw [if_pos (by decide), ← L.eq, Int.add_comm, Int.add_mul_ediv_right _ _ (by decide),
        Int.ediv_eq_zero_of_lt L.lo0 L.lo1, Int.zero_add]
    · rw [if_neg (by simpa using h128)]
      by_cases h0 : nbits = 0
      · subst h0
        have := L.eq
        rw [if_pos (by decide), Int.pow_zero, Int.ediv_one]
        have := L.hi0
        omega
      · rw [if_neg (by simpa using h0)]
        obtain ⟨f1, f2⟩ := funnel_shr L nbits (by omega)
        have := f2.eq
        rw [Int.ediv_eq_zero_of_lt L.hi0 hhk, Int.zero_mul, Int.zero_add] at this
        rw [f1, this]
  unfold check128
  simp only []
  rw [hco, Int.mul_comm (5 ^ 54) 2]

/-- `half_hi`, `half_lo` are the limbs of `10^54 / 2` -/
theorem half_limbs : Limbs (shrI (5 ^ 54) 75) (shlI false 128 (5 ^ 54) 53) (5 ^ 54 * 2 ^ 53) :=
  ⟨⟨by decide, by decide, by decide⟩, by decide⟩

theorem decToBin128_floor (hi lo : Int) (hh0 : 0 ≤ hi) (hh1 : hi < 10 ^ 27) (hl0 : 0 ≤ lo) (hl1 : lo < 10 ^ 27) (nbits : Nat)
    (hn : nbits ≤ 128) :
    decToBin128 hi lo nbits false = .ok (some (floorQ ((hi * 10 ^ 27 + lo) * 2 ^ nbits) (10 ^ 54))) false := by
  obtain ⟨valHi, valLo, hst, hV⟩ := val128_spec hi lo hh0 hh1 hl0 hl1 nbits hn false
  have hv1 : hi * 10 ^ 27 + lo < 10 ^ 54 := by omega
  obtain ⟨nHi, nLo, hnum, hN⟩ := numer128_spec hV nbits hn hv1
  rw [hst]
  unfold stage128
  rw [hnum]
  simp only [Bool.false_eq_true, if_false]
  generalize hi * 10 ^ 27 + lo = val at *
  have hP := two_pow_pos 54
  have hf := five_pow_pos 54
  have hK := two_pow_pos nbits
  have hKW : (2 : Int) ^ nbits ≤ 2 ^ 128 := pow_le_pow hn
  rw [ten_pow] at hv1 ⊢
  have hnl := numer_lt val (2 ^ 54) (5 ^ 54) (2 ^ nbits) hv1 hP hK
  have hnh : nHi < 2 * 5 ^ 54 := hN.hi_lt (by omega)
  rw [finish128_spec hN _ (by omega) ((Int.ediv_lt_iff_lt_mul (by decide)).2 (by omega)), tieDown_floor _ _ _ hP hf]

theorem decToBin128_near (hi lo : Int) (hh0 : 0 ≤ hi) (hh1 : hi < 10 ^ 27) (hl0 : 0 ≤ lo) (hl1 : lo < 10 ^ 27) (nbits : Nat)
    (hn : nbits ≤ 128) :
    decToBin128 hi lo nbits true = .ok (rneBelow ((hi * 10 ^ 27 + lo) * 2 ^ nbits) (10 ^ 54) (2 ^ nbits)) false := by
  obtain ⟨valHi, valLo, hst, hV⟩ := val128_spec hi lo hh0 hh1 hl0 hl1 nbits hn true
  have hv1 : hi * 10 ^ 27 + lo < 10 ^ 54 := by omega
  obtain ⟨nHi, nLo, hnum, hN⟩ := numer128_spec hV nbits hn hv1
  rw [hst]
  unfold stage128
  rw [hnum]
  simp only [if_true]
  have hv0 := hV.nonneg
  generalize hi * 10 ^ 27 + lo = val at *
  have hP := two_pow_pos 54
  have hf := five_pow_pos 54
  have hK := two_pow_pos nbits
  have hKW : (2 : Int) ^ nbits ≤ 2 ^ 128 := pow_le_pow hn
  rw [ten_pow] at hv1 ⊢
  have hnl := numer_lt val (2 ^ 54) (5 ^ 54) (2 ^ nbits) hv1 hP hK
  have hnh : nHi < 2 * 5 ^ 54 := hN.hi_lt (by omega)
  have hq0 := hN.nonneg
  obtain ⟨mHi, mLo, hcar, hM, hm1⟩ := carry128_spec (y := 5 ^ 54)
    (check128 valHi valLo nbits (!decide (2 * (val * 2 ^ nbits) % 2 ^ 54 = 0))) hN (by decide) (by decide) (by omega)
  have hc : (valHi == shrI (5 ^ 54) 75 && valLo == shlI false 128 (5 ^ 54) 53) = true ↔ val = 5 ^ 54 * 2 ^ 53 := by
    rw [Bool.and_eq_true, beq_iff_eq, beq_iff_eq]
    exact hV.eq_iff half_limbs
  rw [hcar, check128_spec hM valHi valLo nbits hn _ (by omega), Bool.and_assoc]
  exact near_answer val (2 ^ 54) (5 ^ 54) _ nbits _ hv0 hv1 hP hf (by decide) hc _
    fun _ hb => finish128_spec hM _ (by omega) (by omega)

theorem slice27 (bs : List Nat) (h : D 10 bs = true) (hl : bs.length ≤ 27) :
    (decStrIntToBin 128 bs).1 = valL bs ∧ 0 ≤ valL bs ∧ valL bs < 10 ^ bs.length := by
  have hb := valL_bounds bs h
  have h1 := ten_pow_le hl
  exact ⟨decStrIntToBin_val 128 bs h (by omega) (by omega), hb.1, hb.2⟩

theorem parseIsShort128_spec (bs : List Nat) (hall : D 10 bs = true) :
    ∃ hi lo : Int, parseIsShort128 bs = ((hi, lo), decide (bs.length ≤ 54)) ∧
      0 ≤ hi ∧ hi < 10 ^ 27 ∧ 0 ≤ lo ∧ lo < 10 ^ 27 ∧
      hi * 10 ^ 27 + lo = if bs.length ≤ 54 then valL bs * 10 ^ (54 - bs.length) else valL (bs.take 54) := by
  unfold parseIsShort128
  by_cases h27 : bs.length ≤ 27
  · have h54 : bs.length ≤ 54 := by omega
    obtain ⟨e1, b0, b1⟩ := slice27 bs hall h27
    have hT := ten_pow_pos (27 - bs.length)
    have ee := ten_pow_split h27
    rw [if_pos h27, if_pos h54, decide_eq_true h54, e1]
    refine ⟨_, _, rfl, Int.mul_nonneg b0 (Int.le_of_lt hT), ?_, Int.le_refl 0, by decide, ?_⟩
    · rw [← ee]; exact Int.mul_lt_mul_of_pos_right b1 hT
    · rw [Int.add_zero, Int.mul_assoc, ← ten_pow_add]; congr 2; omega
  · rw [if_neg h27]
    have hlen : (bs.take 27).length = 27 := by rw [List.length_take]; omega
    obtain ⟨e1, b0, b1⟩ := slice27 _ (D_take_drop hall 27).1 (by omega)
    rw [hlen] at b1
    by_cases h54 : bs.length ≤ 54
    · have hdl : (bs.drop 27).length = bs.length - 27 := List.length_drop ..
      obtain ⟨e2, c0, c1⟩ := slice27 _ (D_take_drop hall 27).2 (by omega)
      rw [hdl] at c1
      have hT := ten_pow_pos (54 - bs.length)
      have ee : (10 : Int) ^ (bs.length - 27) * 10 ^ (54 - bs.length) = 10 ^ 27 := by
        have := ten_pow_split (a := bs.length - 27) (b := 27) (by omega)
        rwa [show 27 - (bs.length - 27) = 54 - bs.length by omega] at this
      simp only [h54, if_true, decide_true]
      rw [e1, e2]
      refine ⟨_, _, rfl, b0, b1, Int.mul_nonneg c0 (Int.le_of_lt hT), ?_, ?_⟩
      · rw [← ee]; exact Int.mul_lt_mul_of_pos_right c1 hT
      · rw [valL_take_drop bs 27, ← ee, Int.add_mul, Int.mul_assoc]
    · have hml : ((bs.drop 27).take 27).length = 27 := by rw [List.length_take, List.length_drop]; omega
      obtain ⟨e2, c0, c1⟩ := slice27 _ ((D_take_drop (D_take_drop hall 27).2 27).1) (by omega)
      rw [hml] at c1
      simp only [h54, if_false, decide_false]
      rw [e1, e2, Int.mul_one]
      refine ⟨_, _, rfl, b0, b1, c0, c1, ?_⟩
      have : bs.take 54 = bs.take 27 ++ (bs.drop 27).take 27 := List.take_add (i := 27) (j := 27)
      rw [this, valL_append, hml]

theorem floorOk_128 : FloorOk 128 54 := by
  intro bs nbits hall hnb
  obtain ⟨hi, lo, hp, h0, h1, l0, l1, hv⟩ := parseIsShort128_spec bs hall
  unfold decFloor
  rw [if_pos rfl, hp]
  simp only []
  by_cases h54 : bs.length ≤ 54
  · rw [if_pos h54] at hv ⊢
    rw [decide_eq_true h54, decToBin128_near hi lo h0 h1 l0 l1 nbits hnb, ok_false_bind, hv]
    rfl
  · rw [if_neg h54] at hv ⊢
    rw [decide_eq_false h54, decToBin128_floor hi lo h0 h1 l0 l1 nbits hnb, ok_false_bind, hv]
    rfl

end Sfx.ParseDecPf
