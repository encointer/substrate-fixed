import SfxProofs.ParseBoundsDigits
/-
  ParseDecCore.lean — C08, decimal fractions: arithmetic core and `dec_to_bin` of the widening instances.
  Core Lean only.
  The decimal files (ParseDec*.lean) work on `Int`, because the model's `dec_to_bin` and slow path do (`tdiv`, `tmod`, shifts, a
  subtraction, the sign of a difference): `floorQ`, `rneI`, `rneBelow` are the `Int` readings of floor, `rneDiv` and `fracOpt`, and
  `valL` (ParseDecLoop.lean) is the cast of `nv 10`.  The other parser files stay on `Nat`; `rneDiv_cast`, `spec_cast`, `floorQ_cast` are
  the bridges, used once, in ParseDec.lean.
-/
namespace Sfx.ParseDecPf
open FromStr TextSpec ParsePf

/-- the value `dec_to_bin(_, _, Round::Floor)` returns for the fraction `N / D`: the floor, one less when the
fraction is exactly an odd integer -/
def floorQ (N D : Int) : Int := if N % D = 0 ∧ (N / D) % 2 = 1 then N / D - 1 else N / D

theorem floorQ_le (N D : Int) (hN : 0 ≤ N) (hD : 0 < D) : 0 ≤ floorQ N D ∧ floorQ N D ≤ N / D := by
  have h0 : 0 ≤ N / D := Int.ediv_nonneg hN (Int.le_of_lt hD)
  unfold floorQ; split <;> omega

theorem floorQ_bounds (N D K : Int) (hN : 0 ≤ N) (hND : N < K * D) (hD : 0 < D) :
    0 ≤ floorQ N D ∧ floorQ N D < K := by
  have h1 : N / D < K := (Int.ediv_lt_iff_lt_mul hD).2 hND
  have := floorQ_le N D hN hD
  omega

theorem floorQ_scale (N D c : Int) (hc : 0 < c) : floorQ (c * N) (c * D) = floorQ N D := by
  unfold floorQ
  rw [Int.mul_ediv_mul_of_pos _ _ hc, Int.mul_emod_mul_of_pos _ _ hc]
  have : c * (N % D) = 0 ↔ N % D = 0 := by rw [Int.mul_eq_zero]; omega
  simp only [this]

/-- round-half-even of `N / D` is the floor-mode value of the half-up fraction `(2N + D) / 2D` -/
def rneI (N D : Int) : Int := floorQ (2 * N + D) (2 * D)

theorem rneI_isRne (N D : Int) (hD : 0 < D) : IsRne N D (rneI N D) := by
  obtain ⟨hdm, hr0, hr1⟩ := euclid (2 * N + D) (show 0 < 2 * D by omega)
  unfold rneI floorQ IsRne
  rw [Int.mul_left_comm] at hdm
  generalize (2 * N + D) / (2 * D) = q at *
  generalize (2 * N + D) % (2 * D) = r at *
  split
  · rw [Int.sub_mul, Int.one_mul]; omega
  · omega

theorem rneI_eq {N D q : Int} (hD : 0 < D) (h : IsRne N D q) : rneI N D = q := (rneI_isRne N D hD).unique hD h

theorem rneI_scale (N D c : Int) (hc : 0 < c) : rneI (N * c) (D * c) = rneI N D := by
  rw [rneI, rneI, ← floorQ_scale (2 * N + D) (2 * D) c hc]
  congr 1 <;> grind

theorem rneDiv_cast (N D : Nat) (hD : 0 < D) : ((rneDiv N D : Nat) : Int) = rneI N D :=
  (rneI_eq (Int.ofNat_lt.2 hD) (rneDiv_isRne N D hD)).symm

/-- the answer of the `Round::Nearest` conversions: round-half-even of `N / D`, `None` when it reaches `K` -/
def rneBelow (N D K : Int) : Option Int := if rneI N D < K then some (rneI N D) else none

theorem emod_mul_decomp (a P c : Int) (hP : 0 < P) (hc : 0 < c) :
    a / (P * c) = a / P / c ∧ a % (P * c) = P * ((a / P) % c) + a % P := by
  obtain ⟨h1, r1, r1'⟩ := euclid a hP
  obtain ⟨h2, r2, r2'⟩ := euclid (a / P) hc
  generalize a / P = u at *
  generalize a % P = r at *
  generalize u / c = w at *
  generalize u % c = t at *
  have hPt : 0 ≤ P * t := Int.mul_nonneg (Int.le_of_lt hP) r2
  have hPt' : P * t ≤ P * (c - 1) := Int.mul_le_mul_of_nonneg_left (by omega) (Int.le_of_lt hP)
  rw [Int.mul_sub, Int.mul_one] at hPt'
  apply div_mod_of_eq (Int.mul_pos hP hc)
  · rw [h1, h2]; grind
  · omega
  · omega

/-- the last lines of `dec_to_bin` (`div`, `tie`, `div -= 1`): the quotient, one less on a tie with odd quotient;
`ex` says that the shift that produced `numer` lost nothing -/
def tieDown (numer denom : Int) (ex : Prop) [Decidable ex] : Int :=
  if (numer % denom = 0 ∧ ex) ∧ (numer / denom) % 2 = 1 then numer / denom - 1 else numer / denom

theorem tieDown_nest (a P c : Int) (hP : 0 < P) (hc : 0 < c) : tieDown (a / P) c (a % P = 0) = floorQ a (P * c) := by
  obtain ⟨e1, e2⟩ := emod_mul_decomp a P c hP hc
  have r1 := Int.emod_nonneg a (Int.ne_of_gt hP)
  have r2 := Int.mul_nonneg (Int.le_of_lt hP) (Int.emod_nonneg (a / P) (Int.ne_of_gt hc))
  have hz : a % (P * c) = 0 ↔ (a / P) % c = 0 ∧ a % P = 0 := by
    rw [e2]
    constructor
    · intro h0
      have : P * (a / P % c) = 0 := by omega
      rcases Int.mul_eq_zero.1 this with h | h
      · omega
      · exact ⟨h, by omega⟩
    · rintro ⟨h1, h2⟩; rw [h1, h2, Int.mul_zero]; rfl
  unfold tieDown floorQ
  rw [e1]; simp only [hz]

/-- `Round::Floor`: `numer = ⌊2N / P⌋`, `denom = 2 f` -/
theorem tieDown_floor (N P f : Int) (hP : 0 < P) (hf : 0 < f) :
    tieDown (2 * N / P) (2 * f) (2 * N % P = 0) = floorQ N (P * f) := by
  rw [tieDown_nest _ _ _ hP (by omega), Int.mul_left_comm, floorQ_scale _ _ 2 (by decide)]

theorem half_up_numer (N P f : Int) (hP : 0 < P) :
    (2 * N + P * f) / P = 2 * N / P + f ∧ (2 * N + P * f) % P = 2 * N % P := by
  rw [Int.mul_comm P f, Int.add_mul_ediv_right _ _ (Int.ne_of_gt hP), Int.add_mul_emod_self_right]
  exact ⟨rfl, rfl⟩

/-- `Round::Nearest`: `numer = ⌊2N / P⌋ + f` -/
theorem tieDown_near (N P f : Int) (hP : 0 < P) (hf : 0 < f) :
    tieDown (2 * N / P + f) (2 * f) (2 * N % P = 0) = rneI N (P * f) := by
  obtain ⟨e1, e2⟩ := half_up_numer N P f hP
  rw [rneI, ← e1, ← e2, tieDown_nest _ _ _ hP (by omega), Int.mul_left_comm]

theorem le_ediv_swap (x c K : Int) (hc : 0 < c) (hK : 0 < K) : c ≤ x / K ↔ K ≤ x / c := by
  rw [Int.le_ediv_iff_mul_le hK, Int.le_ediv_iff_mul_le hc, Int.mul_comm]

/-- `h`: the upper-bound test `numer >> nbits >= denom` fails -/
theorem tieDown_bounds (numer denom K : Int) (ex : Prop) [Decidable ex] (hn : 0 ≤ numer) (hd : 0 < denom) (hK : 0 < K)
    (h : ¬ denom ≤ numer / K) :
    0 ≤ tieDown numer denom ex ∧ tieDown numer denom ex ≤ numer / denom ∧ numer / denom < K := by
  have h0 : 0 ≤ numer / denom := Int.ediv_nonneg hn (Int.le_of_lt hd)
  have h1 : ¬ K ≤ numer / denom := fun h' => h ((le_ediv_swap _ _ _ hd hK).2 h')
  unfold tieDown; split <;> omega

theorem numer_lt (val P f K : Int) (hlt : val < P * f) (hP : 0 < P) (hK : 0 < K) :
    2 * (val * K) / P < 2 * f * K := by
  rw [Int.ediv_lt_iff_lt_mul hP]
  have h1 : val * K < P * f * K := Int.mul_lt_mul_of_pos_right hlt hK
  have e : 2 * f * K * P = 2 * (P * f * K) := by
    rw [Int.mul_assoc 2, Int.mul_assoc 2, Int.mul_assoc P, Int.mul_comm P]
  omega

/-- the upper-bound branch of `Round::Nearest`: the test `numer >> nbits >= denom` fires when the half-up quotient
reaches `2^nbits`; then round-half-even is below `2^nbits` only for `nbits = 0` on the tie `val = hv = P f / 2` (`c`).
`X` is what the code does when the test fails: it has to deliver the tie-corrected quotient, and may use that this quotient fits
`nbits` bits (so that neither the narrowing cast of the one-word version nor the wide division of the `u128` version loses anything). -/
theorem near_answer (val P f hv : Int) (nbits : Nat) (c : Bool) (h0 : 0 ≤ val) (hlt : val < P * f) (hP : 0 < P) (hf : 0 < f)
    (hhalf : 2 * hv = P * f) (hc : c = true ↔ val = hv) (X : Outcome (Option Int))
    (hX : ¬ 2 * f ≤ (2 * (val * 2 ^ nbits) / P + f) / 2 ^ nbits →
      0 ≤ tieDown (2 * (val * 2 ^ nbits) / P + f) (2 * f) (2 * (val * 2 ^ nbits) % P = 0) ∧
        tieDown (2 * (val * 2 ^ nbits) / P + f) (2 * f) (2 * (val * 2 ^ nbits) % P = 0) ≤ (2 * (val * 2 ^ nbits) / P + f) / (2 * f) ∧
        (2 * (val * 2 ^ nbits) / P + f) / (2 * f) < 2 ^ nbits →
      X = .ok (some (tieDown (2 * (val * 2 ^ nbits) / P + f) (2 * f) (2 * (val * 2 ^ nbits) % P = 0))) false) :
    (if 2 * f ≤ (2 * (val * 2 ^ nbits) / P + f) / 2 ^ nbits then pure (if (nbits == 0 && c) = true then some 0 else none) else X) =
      .ok (rneBelow (val * 2 ^ nbits) (P * f) (2 ^ nbits)) false := by
  have key : (if 2 * f ≤ (2 * (val * 2 ^ nbits) / P + f) / 2 ^ nbits then (if (nbits == 0 && c) = true then some 0 else none)
      else some (tieDown (2 * (val * 2 ^ nbits) / P + f) (2 * f) (2 * (val * 2 ^ nbits) % P = 0))) =
      rneBelow (val * 2 ^ nbits) (P * f) (2 ^ nbits) := by
    have hK := two_pow_pos nbits
    have hD := Int.mul_pos hP hf
    have hq := (emod_mul_decomp (2 * (val * 2 ^ nbits) + P * f) P (2 * f) hP (by omega)).1
    rw [(half_up_numer _ P f hP).1, Int.mul_left_comm P 2 f] at hq
    have hsw := le_ediv_swap (2 * (val * 2 ^ nbits) / P + f) (2 * f) (2 ^ nbits) (by omega) hK
    rw [← hq] at hsw
    simp only [hsw]
    rw [tieDown_near _ _ _ hP hf]
    unfold rneBelow rneI
    have hfl := floorQ_le (2 * (val * 2 ^ nbits) + P * f) (2 * (P * f))
      (by have := Int.mul_nonneg h0 (Int.le_of_lt hK); omega) (by omega)
    have hle : (2 * (val * 2 ^ nbits) + P * f) / (2 * (P * f)) < 2 ^ nbits + 1 := by
      have h1 : val * 2 ^ nbits < P * f * 2 ^ nbits := Int.mul_lt_mul_of_pos_right hlt hK
      rw [Int.ediv_lt_iff_lt_mul (by omega), Int.add_mul, Int.one_mul, Int.mul_left_comm (2 ^ nbits), Int.mul_comm (2 ^ nbits)]
      omega
    have hdm := Int.emod_add_mul_ediv (2 * (val * 2 ^ nbits) + P * f) (2 * (P * f))
    unfold floorQ at hfl ⊢
    generalize (2 * (val * 2 ^ nbits) + P * f) / (2 * (P * f)) = h at *
    generalize (2 * (val * 2 ^ nbits) + P * f) % (2 * (P * f)) = ρ at *
    by_cases hov : 2 ^ nbits ≤ h
    · have hh : h = 2 ^ nbits := by omega
      rw [if_pos hov, hh]
      rw [hh] at hdm
      cases nbits with
      | zero =>
        rw [Int.pow_zero, Int.mul_one] at hdm
        rw [Int.pow_zero]
        by_cases hz : val = hv
        · have h1 : ρ = 0 ∧ (1 : Int) % 2 = 1 := ⟨by omega, rfl⟩
          rw [if_pos h1, hc.2 hz]; rfl
        · have h1 : ¬ (ρ = 0 ∧ (1 : Int) % 2 = 1) := fun h => hz (by omega)
          have h2 : c = false := Bool.eq_false_iff.2 fun h => hz (hc.1 h)
          rw [if_neg h1, h2]; rfl
      | succ n =>
        have h1 : ¬ (ρ = 0 ∧ (2 : Int) ^ (n + 1) % 2 = 1) := by rw [Int.pow_succ]; omega
        rw [if_neg h1, if_neg (Int.lt_irrefl _)]; rfl
    · rw [if_neg hov]; exact (if_pos (by omega)).symm
  rw [← key]
  by_cases hov : 2 * f ≤ (2 * (val * 2 ^ nbits) / P + f) / 2 ^ nbits
  · rw [if_pos hov, if_pos hov]; rfl
  · have hn0 : 0 ≤ 2 * (val * 2 ^ nbits) / P + f :=
      Int.add_nonneg (Int.ediv_nonneg (by have := Int.mul_nonneg h0 (Int.le_of_lt (two_pow_pos nbits)); omega) (Int.le_of_lt hP))
        (Int.le_of_lt hf)
    rw [if_neg hov, if_neg hov]
    exact hX hov (tieDown_bounds _ _ _ _ hn0 (by omega) (two_pow_pos nbits) hov)

theorem shift_scale (a : Int) (s t u w : Nat) (h : s + w = t + u) :
    (a * 2 ^ s) / 2 ^ t = (a * 2 ^ u) / 2 ^ w ∧ ((a * 2 ^ s) % 2 ^ t = 0 ↔ (a * 2 ^ u) % 2 ^ w = 0) := by
  have hw := two_pow_pos w
  have ht := two_pow_pos t
  have e : a * 2 ^ s * 2 ^ w = a * 2 ^ u * 2 ^ t := by
    rw [Int.mul_assoc, Int.mul_assoc, ← pow_add', ← pow_add', h, Nat.add_comm]
  constructor
  · rw [← Int.mul_ediv_mul_of_pos_left (a * 2 ^ s) (2 ^ t) hw, ← Int.mul_ediv_mul_of_pos_left (a * 2 ^ u) (2 ^ w) ht,
      e, Int.mul_comm (2 ^ t)]
  · have m1 := Int.mul_emod_mul_of_pos (a * 2 ^ s) (2 ^ t) hw
    have m2 := Int.mul_emod_mul_of_pos (a * 2 ^ u) (2 ^ w) ht
    rw [Int.mul_comm _ (a * 2 ^ s), e, Int.mul_comm (2 ^ w) (2 ^ t), Int.mul_comm (a * 2 ^ u) (2 ^ t), m2] at m1
    constructor
    · intro h0; rw [h0, Int.mul_zero] at m1
      rcases Int.mul_eq_zero.1 m1 with h | h <;> omega
    · intro h0; rw [h0, Int.mul_zero] at m1
      rcases Int.mul_eq_zero.1 m1.symm with h | h <;> omega

theorem ten_pow (d : Nat) : (10 : Int) ^ d = 2 ^ d * 5 ^ d := by
  rw [← Int.mul_pow]; rfl

theorem five_pow_pos (d : Nat) : (0 : Int) < 5 ^ d := Int.pow_pos (by decide)

theorem two_pow_succ_mul (val : Int) (k : Nat) : val * 2 ^ (k + 1) = 2 * (val * 2 ^ k) := by
  rw [Int.pow_succ, Int.mul_comm (2 ^ k), Int.mul_left_comm]

/-- the numeric side conditions of an `impl_dec_to_bin!` instance (`$Single` of `bin` bits, `dec` digits): `dec_pos` and `dec_le`
make the constant shifts `dec - 1`, `bin - dec + 1` what the code means and let `dec` digits be folded without overflow;
`fives` (`denom = 2·5^dec` fits `bin` bits) keeps the shifted numerator and `numer += fives` inside `2·bin` bits;
`big` (`10^dec ≥ 2^(bin+1)`) is used by `dec_str_frac_to_bin`: the first `dec` digits determine the result up to the bracket
of `decStr_of_floorOk`. -/
structure Inst (bin dec : Nat) : Prop where
  dec_pos : 1 ≤ dec
  dec_le : dec ≤ bin
  fives : (5 : Int) ^ dec * 2 < 2 ^ bin
  big : (2 : Int) * 2 ^ bin ≤ 10 ^ dec

theorem inst8 : Inst 8 3 := ⟨by decide, by decide, by decide, by decide⟩
theorem inst16 : Inst 16 6 := ⟨by decide, by decide, by decide, by decide⟩
theorem inst32 : Inst 32 13 := ⟨by decide, by decide, by decide, by decide⟩
theorem inst64 : Inst 64 27 := ⟨by decide, by decide, by decide, by decide⟩
theorem inst128 : Inst 128 54 := ⟨by decide, by decide, by decide, by decide⟩

theorem Inst.ten_lt {bin dec : Nat} (I : Inst bin dec) : (10 : Int) ^ dec < 2 ^ (2 * bin) := by
  obtain ⟨_, hd2, hf, _⟩ := I
  have hB := two_pow_pos bin
  have hf0 := five_pow_pos dec
  have h1 : (2 : Int) ^ dec * 5 ^ dec ≤ 2 ^ bin * 5 ^ dec := Int.mul_le_mul_of_nonneg_right (pow_le_pow hd2) (Int.le_of_lt hf0)
  have h2 : (2 : Int) ^ bin * 5 ^ dec < 2 ^ bin * 2 ^ bin := Int.mul_lt_mul_of_pos_left (by omega) hB
  rw [ten_pow, pow_double]; omega

/-- the first three lines of `dec_to_bin`: `shifted`, `numer`, `inexact` -/
theorem prep {bin dec : Nat} (I : Inst bin dec) (val : Int) (h0 : 0 ≤ val) (hv : val < 10 ^ dec) (nbits : Nat)
    (hn : nbits ≤ bin) :
    shlI false (2 * bin) val (bin - dec + 1) = val * 2 ^ (bin - dec + 1) ∧
    shrI (val * 2 ^ (bin - dec + 1)) (bin - nbits) = 2 * (val * 2 ^ nbits) / 2 ^ dec ∧
    (shlI false (2 * bin) (2 * (val * 2 ^ nbits) / 2 ^ dec) (bin - nbits) != val * 2 ^ (bin - dec + 1))
      = !decide (2 * (val * 2 ^ nbits) % 2 ^ dec = 0) := by
  obtain ⟨hd1, hd2, hf, _⟩ := I
  have hs := two_pow_pos (bin - dec + 1)
  have hS0 : 0 ≤ val * 2 ^ (bin - dec + 1) := Int.mul_nonneg h0 (Int.le_of_lt hs)
  have hS1 : val * 2 ^ (bin - dec + 1) < 2 ^ (2 * bin) := by
    have h1 : val * 2 ^ (bin - dec + 1) < 10 ^ dec * 2 ^ (bin - dec + 1) := Int.mul_lt_mul_of_pos_right hv hs
    have h2 : (10 : Int) ^ dec * 2 ^ (bin - dec + 1) = 5 ^ dec * 2 * 2 ^ bin := by
      rw [ten_pow, Int.mul_comm (2 ^ dec), Int.mul_assoc, ← pow_add', Int.mul_assoc, ← Int.pow_succ']
      congr 2; omega
    have h3 : (5 : Int) ^ dec * 2 * 2 ^ bin < 2 ^ bin * 2 ^ bin := Int.mul_lt_mul_of_pos_right hf (two_pow_pos bin)
    rw [pow_double]; omega
  obtain ⟨sc1, sc2⟩ := shift_scale val (bin - dec + 1) (bin - nbits) (nbits + 1) dec (by omega)
  rw [two_pow_succ_mul val nbits] at sc1 sc2
  refine ⟨shlU_of_lt h0 hS1, sc1, ?_⟩
  rw [← sc1, ← decide_eq_decide.2 sc2]
  exact shl_shr_bne _ _ hS0 hS1

/-- the last three lines of `dec_to_bin` on a non-negative numerator -/
theorem tieDown_eq (numer denom : Int) (hn : 0 ≤ numer) (ex : Prop) [Decidable ex] :
    (if (numer.tmod denom == 0 && !(!decide ex) && isOdd (numer.tdiv denom)) = true then numer.tdiv denom - 1
      else numer.tdiv denom) = tieDown numer denom ex := by
  unfold tieDown
  rw [Int.tdiv_eq_ediv_of_nonneg hn, Int.tmod_eq_emod_of_nonneg hn]
  simp only [Bool.not_not, Bool.and_eq_true, beq_iff_eq, decide_eq_true_eq, isOdd_iff]

theorem decToBin_near {bin dec : Nat} (I : Inst bin dec) (val : Int) (h0 : 0 ≤ val) (hv : val < 10 ^ dec) (nbits : Nat)
    (hn : nbits ≤ bin) :
    decToBin bin dec val nbits true = .ok (rneBelow (val * 2 ^ nbits) (10 ^ dec) (2 ^ nbits)) false := by
  obtain ⟨p1, p2, p3⟩ := prep I val h0 hv nbits hn
  have hd1 := I.dec_pos
  have hf2 := I.fives
  unfold decToBin
  simp only [Outcome.dassert, hv, hn, decide_true, Bool.not_true, ok_false_bind, if_true]
  rw [p1, p2, p3]
  rw [ten_pow] at hv ⊢
  have hP := two_pow_pos dec
  have hf := five_pow_pos dec
  have hK := two_pow_pos nbits
  have hB := two_pow_pos bin
  have hKB : (2 : Int) ^ nbits ≤ 2 ^ bin := pow_le_pow hn
  have hq0 : 0 ≤ 2 * (val * 2 ^ nbits) / 2 ^ dec :=
    Int.ediv_nonneg (by have := Int.mul_nonneg h0 (Int.le_of_lt hK); omega) (Int.le_of_lt hP)
  have hq1 := numer_lt val (2 ^ dec) (5 ^ dec) (2 ^ nbits) hv hP hK
  have h1 : (2 : Int) * 5 ^ dec * 2 ^ nbits ≤ 2 * 5 ^ dec * 2 ^ bin := Int.mul_le_mul_of_nonneg_left hKB (by omega)
  have h2 : (2 : Int) * 5 ^ dec * 2 ^ bin ≤ (2 ^ bin - 1) * 2 ^ bin := Int.mul_le_mul_of_nonneg_right (by omega) (Int.le_of_lt hB)
  rw [Int.sub_mul, Int.one_mul] at h2
  rw [uadd_ok ((inU_iff _ _).2 ⟨by omega, by rw [pow_double]; omega⟩)]
  simp only [ok_false_bind, pure]
  rw [tieDown_eq _ _ (by omega), Int.mul_comm (5 ^ dec) 2]
  have hhalf : shlI false (2 * bin) (5 ^ dec) (dec - 1) = 5 ^ dec * 2 ^ (dec - 1) := by
    apply shlU_of_lt (Int.le_of_lt hf)
    have h10 := I.ten_lt
    have h1 : (5 : Int) ^ dec * 2 ^ (dec - 1) < 5 ^ dec * 2 ^ dec :=
      Int.mul_lt_mul_of_pos_left (pow_lt_pow (by omega)) hf
    rw [ten_pow, Int.mul_comm] at h10
    omega
  have hh : 2 * (5 ^ dec * 2 ^ (dec - 1)) = (2 : Int) ^ dec * 5 ^ dec := by
    rw [pow_split (n := dec) hd1, Int.mul_left_comm, Int.mul_comm]
  rw [hhalf]
  exact near_answer val (2 ^ dec) (5 ^ dec) _ nbits _ h0 hv hP hf hh beq_iff_eq _
    fun _ hb => by rw [wrapU_of_lt hb.1 (by omega)]

theorem decToBin_floor {bin dec : Nat} (I : Inst bin dec) (val : Int) (h0 : 0 ≤ val) (hv : val < 10 ^ dec) (nbits : Nat)
    (hn : nbits ≤ bin) :
    decToBin bin dec val nbits false = .ok (some (floorQ (val * 2 ^ nbits) (10 ^ dec))) false := by
  obtain ⟨p1, p2, p3⟩ := prep I val h0 hv nbits hn
  unfold decToBin
  simp only [Outcome.dassert, hv, hn, decide_true, Bool.not_true, ok_false_bind, Bool.false_eq_true, if_false]
  rw [p1, p2, p3]
  rw [ten_pow] at hv ⊢
  have hP := two_pow_pos dec
  have hf := five_pow_pos dec
  have hK := two_pow_pos nbits
  have hKB : (2 : Int) ^ nbits ≤ 2 ^ bin := pow_le_pow hn
  have hN0 : 0 ≤ val * 2 ^ nbits := Int.mul_nonneg h0 (Int.le_of_lt hK)
  rw [tieDown_eq _ _ (Int.ediv_nonneg (by omega) (Int.le_of_lt hP)), Int.mul_comm (5 ^ dec) 2, tieDown_floor _ _ _ hP hf]
  have hb := floorQ_bounds (val * 2 ^ nbits) (2 ^ dec * 5 ^ dec) (2 ^ nbits) hN0
    (by rw [Int.mul_comm (2 ^ nbits)]; exact Int.mul_lt_mul_of_pos_right hv hK) (Int.mul_pos hP hf)
  rw [wrapU_of_lt hb.1 (by omega)]
  rfl

theorem cast_ten (d : Nat) : ((10 ^ d : Nat) : Int) = 10 ^ d := by
  rw [Int.natCast_pow]; rfl

theorem spec_cast (N D nbits : Nat) (hD : 0 < D) : fracOpt nbits (rneDiv N D) = rneBelow N D (2 ^ nbits) := by
  unfold rneBelow
  simp only [← rneDiv_cast N D hD, ← natCast_two_pow]
  by_cases h : rneDiv N D < 2 ^ nbits
  · rw [fracOpt_of_lt h, if_pos (Int.ofNat_lt.2 h)]
  · rw [fracOpt_of_ge h, if_neg (fun h' => h (Int.ofNat_lt.1 h'))]

theorem floorQ_cast (N D : Nat) :
    (if N % D = 0 ∧ (N / D) % 2 = 1 then ((N / D : Nat) : Int) - 1 else ((N / D : Nat) : Int)) = floorQ N D := by
  unfold floorQ
  rw [← Int.natCast_ediv, ← Int.natCast_emod]
  generalize N / D = q
  generalize N % D = r
  by_cases h : r = 0 ∧ q % 2 = 1
  · rw [if_pos h, if_pos (by omega)]
  · rw [if_neg h, if_neg (by omega)]

end Sfx.ParseDecPf
