import SfxProofs.ParseDecCore
import SfxProofs.ParseBoundsFolds
import SfxProofs.FmtMul10
/-
  ParseDecLoop.lean — digit strings (`valL`, `dec_str_int_to_bin`, `parse_is_short`) and the slow-path loop of
  `dec_str_frac_to_bin`.  Core Lean only.  `mul10_assign` is the formatter's (`display.rs`): its
  specification is taken from FmtMul10.lean (`FmtDecPf.mul10_spec`, through `mul10Assign_cast`).
-/
namespace Sfx.ParseDecPf
open FromStr ParsePf

/-- the number the decimal digit bytes `bs` spell, as an `Int`: the cast of `nv 10 bs` (the lemmas below are those of `nv`, cast once) -/
def valL (bs : List Nat) : Int := ((nv 10 bs : Nat) : Int)

theorem valL_nil : valL [] = 0 := rfl

theorem valL_cons {b : Nat} (hb : FromStr.isDigitOf b 10 = true) (rest : List Nat) :
    valL (b :: rest) = Int.ofNat (FromStr.digitVal b) * 10 ^ rest.length + valL rest := by
  unfold valL
  rw [nv_cons, digitVal_eq_dg radix10 (Nat.le_refl _) hb]
  push_cast
  rfl

theorem ten_pow_pos (k : Nat) : (0 : Int) < 10 ^ k := Int.pow_pos (by decide)

theorem ten_pow_add (a b : Nat) : (10 : Int) ^ (a + b) = 10 ^ a * 10 ^ b := Int.pow_add ..

theorem ten_pow_split {a b : Nat} (h : a ≤ b) : (10 : Int) ^ a * 10 ^ (b - a) = 10 ^ b := by
  rw [← ten_pow_add]; congr 1; omega

theorem ten_pow_le {a b : Nat} (h : a ≤ b) : (10 : Int) ^ a ≤ 10 ^ b := by
  rw [← ten_pow_split h]
  have := Int.mul_le_mul_of_nonneg_left (show (1 : Int) ≤ 10 ^ (b - a) from ten_pow_pos _) (Int.le_of_lt (ten_pow_pos a))
  rwa [Int.mul_one] at this

theorem valL_bounds (bs : List Nat) (h : D 10 bs = true) : 0 ≤ valL bs ∧ valL bs < 10 ^ bs.length :=
  ⟨Int.natCast_nonneg _, by have := nv_lt radix10 bs h; unfold valL; exact_mod_cast this⟩

theorem valL_append (xs ys : List Nat) : valL (xs ++ ys) = valL xs * 10 ^ ys.length + valL ys := by
  unfold valL
  rw [nv_append]
  push_cast
  rfl

theorem valL_take_drop (bs : List Nat) (k : Nat) :
    valL bs = valL (bs.take k) * 10 ^ (bs.length - k) + valL (bs.drop k) := by
  have := valL_append (bs.take k) (bs.drop k)
  rw [List.take_append_drop, List.length_drop] at this
  exact this

theorem valL_pos (bs : List Nat) (h : D 10 bs = true) (hne : bs ≠ []) (hlast : bs.getLast? ≠ some 48) : 0 < valL bs :=
  Int.natCast_pos.2 (nv_pos radix10 h hne hlast)

theorem valL_take_bounds {bs : List Nat} (h : D 10 bs = true) {k : Nat} (hk : k ≤ bs.length) :
    0 ≤ valL (bs.take k) ∧ valL (bs.take k) < 10 ^ k := by
  have hb := valL_bounds _ (D_take_drop h k).1
  rwa [List.length_take, Nat.min_eq_left hk] at hb

theorem decStrIntToBin_val (N : Nat) (bs : List Nat) (h : D 10 bs = true) (hl : bs.length ≤ N) (hv : valL bs < 2 ^ N) :
    (decStrIntToBin N bs).1 = valL bs := by
  unfold valL at hv ⊢
  rw [decStrIntToBin_fst h hl, Nat.mod_eq_of_lt (by exact_mod_cast hv)]

theorem parseIsShort_short {bin dec : Nat} (I : Inst bin dec) (bs : List Nat) (h : D 10 bs = true) (hl : bs.length ≤ dec) :
    parseIsShort bin dec bs = (valL bs * 10 ^ (dec - bs.length), true) := by
  have hb := valL_bounds bs h
  have h10 := ten_pow_le hl
  have := I.ten_lt
  unfold parseIsShort
  simp only [hl, if_true]
  rw [decStrIntToBin_val _ bs h (by have := I.dec_le; omega) (by omega)]

theorem parseIsShort_long {bin dec : Nat} (I : Inst bin dec) (bs : List Nat) (h : D 10 bs = true) (hl : dec < bs.length) :
    parseIsShort bin dec bs = (valL (bs.take dec), false) := by
  have ht := (D_take_drop h dec).1
  have hb := valL_take_bounds h (Nat.le_of_lt hl)
  have := I.ten_lt
  unfold parseIsShort
  have : ¬ bs.length ≤ dec := by omega
  simp only [this, if_false]
  rw [decStrIntToBin_val _ _ ht (by rw [List.length_take]; have := I.dec_le; omega) (by omega), Int.mul_one]

/-- what the code after the loop makes of the loop's result: `-1` return `floor`, `0` tie, `1` round up -/
def cmpSign : Option (Bool × Int × Bool) → Int
  | none => -1
  | some (false, _, _) => 1
  | some (true, bd, a5) => if (a5 || bd != 0) = true then -1 else 0

/-- `FromStr.mul10Assign` is `Display.mul10`, the formatter's model of the same `Mul10::mul10_assign` (`display.rs`), read on `Int` -/
theorem mul10Assign_cast (n x : Nat) :
    mul10Assign n (x : Int) = ((((Display.mul10 n x).1 : Nat) : Int), (((Display.mul10 n x).2 : Nat) : Int)) := by
  unfold mul10Assign Display.mul10
  by_cases h : n = 128
  · rw [if_pos h, if_pos h]
    unfold Display.mul10U128
    have e10 : ∀ a : Nat, (a : Int) * 10 = ((a * 10 : Nat) : Int) := fun a => by push_cast; rfl
    have em : (x : Int) % 2 ^ 64 = ((x % 2 ^ 64 : Nat) : Int) := by simp
    simp only [shrI_natCast, em, e10, wrapU_natCast, ← Int.natCast_add, ovfI_natCast, shlI_natCast, Nat.shiftRight_eq_div_pow,
      Nat.and_two_pow_sub_one_eq_mod, Nat.shiftLeft_eq]
    rw [orI_natCast 128 _ _ (Nat.mod_lt _ (Nat.two_pow_pos _))
      (Nat.lt_of_lt_of_le (Nat.mod_lt _ (Nat.two_pow_pos _)) (by decide))]
    congr 1
    · congr 2
      rw [Nat.mod_eq_of_lt]
      have := Nat.mod_lt ((x / 2 ^ 64 * 10 % 2 ^ 64 + x % 2 ^ 64 * 10 / 2 ^ 64 % 2 ^ 64)) (Nat.two_pow_pos 64)
      omega
    · split <;> simp
  · rw [if_neg h, if_neg h]
    unfold Display.mul10Widen
    have e10 : (x : Int) * 10 = ((x * 10 : Nat) : Int) := by push_cast; rfl
    simp only [e10, shrI_natCast, wrapU_natCast, Nat.shiftRight_eq_div_pow]

theorem mul10Assign_spec (n : Nat) (x : Int) (h0 : 0 ≤ x) (h1 : x < 2 ^ n) :
    mul10Assign n x = ((x * 10) % 2 ^ n, (x * 10) / 2 ^ n) := by
  obtain ⟨m, rfl⟩ := Int.eq_ofNat_of_zero_le h0
  rw [mul10Assign_cast, FmtDecPf.mul10_spec n m (by exact_mod_cast h1)]
  push_cast
  rfl

/-- comparison of one digit `d` of the string (`r / T` the rest) with one digit `g` of the expansion of `B / W2`
(`c / W2` the rest, `10 B = g W2 + c`) -/
theorem cmp_step (d g T r W2 c B : Int) (hT : 0 < T) (hr0 : 0 ≤ r) (hr1 : r < T) (hW : 0 < W2) (hc0 : 0 ≤ c) (hc1 : c < W2)
    (hB : 10 * B = g * W2 + c) :
    (d < g → (d * T + r) * W2 - B * (T * 10) < 0) ∧
    (g < d → 0 < (d * T + r) * W2 - B * (T * 10)) ∧
    (d = g → (d * T + r) * W2 - B * (T * 10) = r * W2 - c * T) := by
  have e : (d * T + r) * W2 - B * (T * 10) = (d - g) * (T * W2) + r * W2 - c * T := by grind
  rw [e]
  have hTW : 0 ≤ T * W2 := Int.le_of_lt (Int.mul_pos hT hW)
  have h1 : r * W2 < T * W2 := Int.mul_lt_mul_of_pos_right hr1 hW
  have h2 : 0 ≤ r * W2 := Int.mul_nonneg hr0 (Int.le_of_lt hW)
  have h3 : c * T < W2 * T := Int.mul_lt_mul_of_pos_right hc1 hT
  have h4 : 0 ≤ c * T := Int.mul_nonneg hc0 (Int.le_of_lt hT)
  rw [Int.mul_comm W2 T] at h3
  refine ⟨fun h => ?_, fun h => ?_, fun h => ?_⟩
  · have := Int.mul_le_mul_of_nonneg_right (show d - g ≤ -1 by omega) hTW
    omega
  · have := Int.mul_le_mul_of_nonneg_right (show 1 ≤ d - g by omega) hTW
    omega
  · subst h; rw [Int.sub_self, Int.zero_mul]; omega

/-- the state update of one loop iteration: `mul10_assign`, then the deferred `+ 5` -/
def stepState (n : Nat) (bd : Int) (a5 : Bool) : Int × Int × Bool :=
  let (boundary, boundaryDigit) := mul10Assign n bd
  if a5 then
    let (wrapped, overflow) := ovfI false n (boundary + 5)
    (wrapped, if overflow then boundaryDigit + 1 else boundaryDigit, false)
  else (boundary, boundaryDigit, a5)

theorem stepState_spec (n : Nat) (h5 : (5 : Int) ≤ 2 ^ n) (bd : Int) (a5 : Bool) (h0 : 0 ≤ bd) (h1 : bd < 2 ^ n) :
    ∃ bd' g : Int, stepState n bd a5 = (bd', g, false) ∧
      0 ≤ bd' ∧ bd' < 2 ^ n ∧ 10 * (2 * bd + (if a5 then 1 else 0)) = g * (2 * 2 ^ n) + 2 * bd' := by
  unfold stepState
  rw [mul10Assign_spec n bd h0 h1]
  obtain ⟨hdm, hr0, hr1⟩ := euclid (bd * 10) (two_pow_pos n)
  generalize bd * 10 / 2 ^ n = q at *
  generalize bd * 10 % 2 ^ n = r at *
  have e : ∀ g : Int, g * (2 * 2 ^ n) = 2 * (g * 2 ^ n) := fun g => Int.mul_left_comm ..
  cases a5 with
  | false => exact ⟨r, q, rfl, hr0, hr1, by rw [e, if_neg Bool.false_ne_true]; omega⟩
  | true =>
    simp only [if_true]
    by_cases hov : r + 5 < 2 ^ n
    · rw [ovfI_lt (by omega) hov]
      exact ⟨r + 5, q, rfl, by omega, hov, by rw [e]; omega⟩
    · rw [ovfI_ge (by omega) (by omega)]
      exact ⟨r + 5 - 2 ^ n, q + 1, rfl, by omega, by omega, by rw [e, Int.add_mul]; omega⟩

theorem boundaryLoop_cons (n b : Nat) (rest : List Nat) (bd : Int) (a5 : Bool) :
    boundaryLoop n (b :: rest) bd a5 =
      if (!a5 && bd == 0) = true then some (false, bd, a5)
      else
        if Int.ofNat (FromStr.digitVal b) < (stepState n bd a5).2.1 then none
        else if Int.ofNat (FromStr.digitVal b) > (stepState n bd a5).2.1 then
          some (false, (stepState n bd a5).1, (stepState n bd a5).2.2)
        else boundaryLoop n rest (stepState n bd a5).1 (stepState n bd a5).2.2 := by
  rw [boundaryLoop]
  rfl

/-- the slow-path invariant: the loop compares the digit string with the decimal expansion of
`(2·boundary + add_5) / 2^(n+1)`; `cmpSign` of its result is the sign of `0.bytes − (2·boundary + add_5) / 2^(n+1)` -/
theorem boundaryLoop_spec (n : Nat) (h5 : (5 : Int) ≤ 2 ^ n) (bs : List Nat) :
    D 10 bs = true → bs.getLast? ≠ some 48 → ∀ (bd : Int) (a5 : Bool), 0 ≤ bd → bd < 2 ^ n →
    cmpSign (boundaryLoop n bs bd a5) =
      Int.sign (valL bs * (2 * 2 ^ n) - (2 * bd + (if a5 then 1 else 0)) * 10 ^ bs.length) := by
  induction bs with
  | nil =>
    intro _ _ bd a5 h0 h1
    rw [boundaryLoop, valL_nil]
    simp only [cmpSign, List.length_nil, Int.pow_zero, Int.mul_one, Int.zero_mul, Int.zero_sub]
    cases a5 with
    | true => simp only [Bool.true_or, if_true]; rw [Int.sign_eq_neg_one_of_neg (by omega)]
    | false =>
      simp only [Bool.false_or, Bool.false_eq_true, if_false, Int.add_zero, bne_iff_ne, ne_eq]
      by_cases hz : bd = 0
      · subst hz; rw [if_neg (by simp)]; rfl
      · rw [if_pos hz, Int.sign_eq_neg_one_of_neg (by omega)]
  | cons b rest ih =>
    intro hall hlast bd a5 h0 h1
    obtain ⟨hb, hr⟩ := D_cons_iff.1 hall
    have hW := two_pow_pos n
    have hT := ten_pow_pos rest.length
    have hv := valL_bounds rest hr
    rw [boundaryLoop_cons]
    by_cases hz : (!a5 && bd == 0) = true
    · rw [if_pos hz]
      simp only [Bool.and_eq_true, Bool.not_eq_true', beq_iff_eq] at hz
      obtain ⟨rfl, rfl⟩ := hz
      have hp := valL_pos (b :: rest) hall (by simp) hlast
      simp only [cmpSign, Bool.false_eq_true, if_false, Int.mul_zero, Int.add_zero, Int.zero_mul, Int.sub_zero]
      rw [Int.sign_eq_one_of_pos (Int.mul_pos hp (by omega))]
    · rw [if_neg hz]
      obtain ⟨bd', g, hs, hb0, hb1, h10⟩ := stepState_spec n h5 bd a5 h0 h1
      rw [hs]
      simp only []
      have hlast' : rest.getLast? ≠ some 48 := by
        cases rest with
        | nil => simp
        | cons b' rest' => rwa [List.getLast?_cons_cons] at hlast
      rw [valL_cons hb, List.length_cons, Int.pow_succ]
      obtain ⟨c1, c2, c3⟩ := cmp_step (Int.ofNat (FromStr.digitVal b)) g (10 ^ rest.length) (valL rest) (2 * 2 ^ n) (2 * bd') _
        hT hv.1 hv.2 (by omega) (by omega) (by omega) h10
      by_cases hlt : Int.ofNat (FromStr.digitVal b) < g
      · rw [if_pos hlt, Int.sign_eq_neg_one_of_neg (c1 hlt)]; rfl
      · rw [if_neg hlt]
        by_cases hgt : Int.ofNat (FromStr.digitVal b) > g
        · rw [if_pos hgt, Int.sign_eq_one_of_pos (c2 hgt)]; rfl
        · rw [if_neg hgt, c3 (by omega), ih hr hlast' bd' false hb0 hb1]
          simp only [Bool.false_eq_true, if_false, Int.add_zero]

theorem after_loop (r : Option (Bool × Int × Bool)) (floor : Int) (up : Outcome (Option Int)) :
    (match r with
      | none => (pure (some floor) : Outcome (Option Int))
      | some (tie, boundary, add5) =>
        if (tie && (add5 || boundary != 0)) = true then pure (some floor)
        else if (tie && !isOdd floor) = true then pure (some floor)
        else up) =
    if cmpSign r = -1 then pure (some floor)
    else if cmpSign r = 0 then (if floor % 2 = 1 then up else pure (some floor))
    else up := by
  match r with
  | none => simp [cmpSign]
  | some (false, bd, a5) => simp [cmpSign]
  | some (true, bd, a5) =>
    by_cases h : (a5 || bd != 0) = true
    · have hv : cmpSign (some (true, bd, a5)) = -1 := by simp only [cmpSign]; rw [if_pos h]
      rw [hv]; simp [h]
    · have hv : cmpSign (some (true, bd, a5)) = 0 := by simp only [cmpSign]; rw [if_neg h]
      have ho' : isOdd floor = true ↔ floor % 2 = 1 := isOdd_iff floor
      rw [hv]
      by_cases ho : floor % 2 = 1
      · have : isOdd floor = true := ho'.2 ho
        simp [h, ho, this]
      · have : isOdd floor = false := by
          cases hh : isOdd floor with
          | false => rfl
          | true => exact absurd (ho'.1 hh) ho
        simp [h, ho, this]

end Sfx.ParseDecPf
