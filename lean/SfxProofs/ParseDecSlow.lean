import SfxProofs.ParseDecLoop
/-
  ParseDecSlow.lean — the slow path of `dec_str_frac_to_bin` around the loop: the bracket given by the floor-mode
  `dec_to_bin`, the initial `boundary`, the final increment (`decStr_slow`); then `dec_str_frac_to_bin` as a whole over the contract
  `FloorOk` of `parse_is_short` + `dec_to_bin`, which the one-word widths meet here and `u128` in ParseDec128.lean.  Core Lean only.
-/
namespace Sfx.ParseDecPf
open FromStr ParsePf

/-- with `F` the floor-mode value of the first `dec` digits (`Np / D`), the full value `(Np T + t K) / (D T)`
(`t / T < 1` the remaining digits, `2 K ≤ D`) lies strictly between `F` and `F + 3/2` -/
theorem bracket (Np D T t K : Int) (hD : 0 < D) (hT : 0 < T) (ht0 : 0 < t) (ht1 : t < T) (hK : 0 < K) (h2K : 2 * K ≤ D) :
    2 * (floorQ Np D * (D * T)) < 2 * (Np * T + t * K) ∧
    2 * (Np * T + t * K) < 2 * (floorQ Np D * (D * T)) + 3 * (D * T) := by
  obtain ⟨hdm, hr0, hr1⟩ := euclid Np hD
  unfold floorQ
  generalize Np / D = q at *
  generalize Np % D = ρ at *
  have e1 : Np * T = ρ * T + q * (D * T) := by rw [hdm, Int.add_mul, Int.mul_assoc, Int.add_comm]
  have k1 : 0 < t * K := Int.mul_pos ht0 hK
  have k2 : t * K < T * K := Int.mul_lt_mul_of_pos_right ht1 hK
  have k3 : T * (2 * K) ≤ T * D := Int.mul_le_mul_of_nonneg_left h2K (Int.le_of_lt hT)
  have e2 : T * (2 * K) = 2 * (T * K) := Int.mul_left_comm ..
  have e3 : T * D = D * T := Int.mul_comm ..
  have k4 : 0 ≤ ρ * T := Int.mul_nonneg hr0 (Int.le_of_lt hT)
  have hρ : ρ ≤ D - 1 := by omega
  have k5 : ρ * T ≤ (D - 1) * T := Int.mul_le_mul_of_nonneg_right hρ (Int.le_of_lt hT)
  rw [Int.sub_mul, Int.one_mul] at k5
  have hDT : 0 < D * T := Int.mul_pos hD hT
  by_cases hc : ρ = 0 ∧ q % 2 = 1
  · rw [if_pos hc, Int.sub_mul, Int.one_mul]
    obtain ⟨rfl, _⟩ := hc
    rw [Int.zero_mul] at *
    omega
  · rw [if_neg hc]; omega

/-- round-half-even from a bracket `F < N / D < F + 3/2`: only the comparison with `F + 1/2` matters -/
theorem rne_from_bracket (N D F : Int) (hD : 0 < D) (h1 : 2 * (F * D) < 2 * N) (h2 : 2 * N < 2 * (F * D) + 3 * D) :
    rneI N D = if 2 * N - (2 * (F * D) + D) < 0 then F
      else if 2 * N - (2 * (F * D) + D) = 0 then (if F % 2 = 1 then F + 1 else F) else F + 1 := by
  apply rneI_eq hD
  unfold IsRne
  have e : (F + 1) * D = F * D + D := by rw [Int.add_mul, Int.one_mul]
  by_cases hn : 2 * N - (2 * (F * D) + D) < 0
  · rw [if_pos hn]; omega
  · rw [if_neg hn]
    by_cases hz : 2 * N - (2 * (F * D) + D) = 0
    · rw [if_pos hz]; split <;> (try rw [e]) <;> omega
    · rw [if_neg hz, e]; omega

/-- the initial `(boundary, add_5)`: `2·boundary + add_5 = (2·floor + 1) · 2^(n - nbits)`, i.e. the tie point
`(floor + ½) / 2^nbits` in units of `2^-(n+1)` -/
theorem init_spec (n nbits : Nat) (F : Int) (hn : 1 ≤ n) (hnb : nbits ≤ n) (hF0 : 0 ≤ F) (hF1 : F < 2 ^ nbits) :
    ∃ (bd : Int) (a5 : Bool),
      (if nbits == 0 then ((2 : Int) ^ (n - 1), false)
        else if (n - nbits == 0) = true then (F, true)
        else (shlI false n F (n - nbits) + shlI false n 1 (n - nbits - 1), false)) = (bd, a5) ∧
      0 ≤ bd ∧ bd < 2 ^ n ∧ 2 * bd + (if a5 then 1 else 0) = (2 * F + 1) * 2 ^ (n - nbits) := by
  have hN := two_pow_pos n
  by_cases h0 : nbits = 0
  · subst h0
    refine ⟨2 ^ (n - 1), false, rfl, Int.le_of_lt (two_pow_pos _), pow_lt_pow (by omega), ?_⟩
    rw [Int.pow_zero] at hF1
    have : F = 0 := by omega
    subst this
    have := pow_split (n := n) hn
    simp only [Bool.false_eq_true, if_false, Nat.sub_zero]; omega
  · by_cases hd : n - nbits = 0
    · have : nbits = n := by omega
      subst this
      refine ⟨F, true, by simp only [beq_iff_eq, h0, if_false, Nat.sub_self, if_true], hF0, hF1, ?_⟩
      simp only [if_true, Nat.sub_self, Int.pow_zero, Int.mul_one]
    · have hdp := two_pow_pos (n - nbits)
      have hdp1 := two_pow_pos (n - nbits - 1)
      have hsplit := pow_split (n := n - nbits) (by omega)
      have hnn : (2 : Int) ^ n = 2 ^ nbits * 2 ^ (n - nbits) := by rw [← pow_add']; congr 1; omega
      have hFle : F ≤ 2 ^ nbits - 1 := by omega
      have hmul : F * 2 ^ (n - nbits) ≤ (2 ^ nbits - 1) * 2 ^ (n - nbits) := Int.mul_le_mul_of_nonneg_right hFle (Int.le_of_lt hdp)
      rw [Int.sub_mul, Int.one_mul] at hmul
      have hm0 : 0 ≤ F * 2 ^ (n - nbits) := Int.mul_nonneg hF0 (Int.le_of_lt hdp)
      have e1 : shlI false n F (n - nbits) = F * 2 ^ (n - nbits) := shlU_of_lt hF0 (by omega)
      have e2 : shlI false n 1 (n - nbits - 1) = 2 ^ (n - nbits - 1) := by
        rw [shlI_one (by omega), natCast_two_pow]
      refine ⟨F * 2 ^ (n - nbits) + 2 ^ (n - nbits - 1), false, by simp only [beq_iff_eq, h0, hd, if_false, e1, e2], by omega, by omega, ?_⟩
      simp only [Bool.false_eq_true, if_false, Int.add_zero]
      have : (2 * F + 1) * 2 ^ (n - nbits) = 2 * (F * 2 ^ (n - nbits)) + 2 ^ (n - nbits) := by
        rw [Int.add_mul, Int.one_mul, Int.mul_assoc]
      omega

/-- the final increment, on values: what `checked_add` returns and what the test of the bits above `nbits` says -/
theorem up_val (n nbits : Nat) (F : Int) (hnb : nbits ≤ n) (hF0 : 0 ≤ F) (hF1 : F < 2 ^ nbits) :
    chkI false n (F + 1) = none ∧ ¬ F + 1 < 2 ^ nbits ∨
    chkI false n (F + 1) = some (F + 1) ∧ ((n - nbits != 0 && shrI (F + 1) nbits != 0) = true ↔ ¬ F + 1 < 2 ^ nbits) := by
  have hK := two_pow_pos nbits
  have hKN : (2 : Int) ^ nbits ≤ 2 ^ n := pow_le_pow hnb
  unfold chkI
  by_cases hin : inI false n (F + 1)
  · right
    have h1 := ((inU_iff _ _).1 hin).2
    refine ⟨if_pos hin, ?_⟩
    simp only [Bool.and_eq_true, bne_iff_ne, ne_eq, shrI_eq]
    by_cases hlt : F + 1 < 2 ^ nbits
    · rw [Int.ediv_eq_zero_of_lt (by omega) hlt]; simp [hlt]
    · have he : F + 1 = 2 ^ nbits := by omega
      have hne : nbits ≠ n := by rintro rfl; omega
      rw [he, Int.ediv_self (Int.ne_of_gt hK)]
      rw [he] at hlt
      exact ⟨fun _ => hlt, fun _ => ⟨by omega, by decide⟩⟩
  · left
    exact ⟨if_neg hin, fun h => hin ((inU_iff _ _).2 ⟨by omega, by omega⟩)⟩

/-- the slow path: when `parse_is_short` + `dec_to_bin(.., Round::Floor)` return a floor `F` that brackets the value
(`F < 0.bytes · 2^nbits < F + 3/2`), `dec_str_frac_to_bin` returns the correctly rounded fraction, `None` when it reaches `2^nbits` -/
theorem decStr_slow (n nbits : Nat) (h3 : 3 ≤ n) (hnb : nbits ≤ n) (bs : List Nat)
    (hall : D 10 bs = true) (hlast : bs.getLast? ≠ some 48) (F : Int)
    (hfl : decFloor n bs nbits = .ok (some F, false) false) (hF0 : 0 ≤ F) (hF1 : F < 2 ^ nbits)
    (hbr1 : 2 * (F * 10 ^ bs.length) < 2 * (valL bs * 2 ^ nbits))
    (hbr2 : 2 * (valL bs * 2 ^ nbits) < 2 * (F * 10 ^ bs.length) + 3 * 10 ^ bs.length) :
    decStrFracToBin n bs nbits = .ok (rneBelow (valL bs * 2 ^ nbits) (10 ^ bs.length) (2 ^ nbits)) false := by
  have h5 : (5 : Int) ≤ 2 ^ n := by
    have := pow_le_pow (a := 3) (b := n) h3
    have h8 : (2 : Int) ^ 3 = 8 := by decide
    omega
  obtain ⟨bd, a5, hinit, hb0, hb1, hB⟩ := init_spec n nbits F (by omega) hnb hF0 hF1
  have hloop := boundaryLoop_spec n h5 bs hall hlast bd a5 hb0 hb1
  have hsg : valL bs * (2 * 2 ^ n) - (2 * F + 1) * 2 ^ (n - nbits) * 10 ^ bs.length =
      2 ^ (n - nbits) * (2 * (valL bs * 2 ^ nbits) - (2 * (F * 10 ^ bs.length) + 10 ^ bs.length)) := by
    rw [pow_sub_mul hnb, Int.mul_comm (2 ^ (n - nbits))]
    generalize (2 : Int) ^ (n - nbits) = X
    generalize (2 : Int) ^ nbits = K
    generalize (10 : Int) ^ bs.length = D
    grind
  rw [hB, hsg, Int.sign_mul, Int.sign_eq_one_of_pos (two_pow_pos _), Int.one_mul] at hloop
  unfold decStrFracToBin rneBelow
  rw [hfl, ok_false_bind]
  simp only [Bool.false_eq_true, if_false]
  rw [hinit]
  simp only []
  refine (after_loop (boundaryLoop n bs bd a5) F _).trans ?_
  rw [hloop, rne_from_bracket _ _ F (ten_pow_pos _) hbr1 hbr2]
  simp only [Int.sign_eq_neg_one_iff_neg, Int.sign_eq_zero_iff_zero]
  generalize 2 * (valL bs * 2 ^ nbits) - (2 * (F * 10 ^ bs.length) + 10 ^ bs.length) = x
  have hup : ∀ {X : Outcome (Option Int)}, (chkI false n (F + 1) = none → X = pure none) →
      (chkI false n (F + 1) = some (F + 1) →
        X = if (n - nbits != 0 && shrI (F + 1) nbits != 0) = true then pure none else pure (some (F + 1))) →
      X = .ok (if F + 1 < 2 ^ nbits then some (F + 1) else none) false := by
    intro X h1 h2
    rcases up_val n nbits F hnb hF0 hF1 with ⟨hc, hge⟩ | ⟨hc, hg⟩
    · rw [h1 hc, if_neg hge]; rfl
    · rw [h2 hc]
      by_cases hlt : F + 1 < 2 ^ nbits
      · rw [if_neg (fun h => hg.1 h hlt), if_pos hlt]; rfl
      · rw [if_pos (hg.2 hlt), if_neg hlt]; rfl
  by_cases hn : x < 0
  · rw [if_pos hn, if_pos hn, if_pos hF1]; rfl
  · rw [if_neg hn, if_neg hn]
    by_cases hz : x = 0
    · rw [if_pos hz, if_pos hz]
      by_cases ho : F % 2 = 1
      · rw [if_pos ho, if_pos ho]; exact hup (fun hc => by rw [hc]) (fun hc => by rw [hc])
      · rw [if_neg ho, if_neg ho, if_pos hF1]; rfl
    · rw [if_neg hz, if_neg hz]; exact hup (fun hc => by rw [hc]) (fun hc => by rw [hc])

theorem rneBelow_pad (v K : Int) (len dec : Nat) (h : len ≤ dec) :
    rneBelow (v * 10 ^ (dec - len) * K) (10 ^ dec) K = rneBelow (v * K) (10 ^ len) K := by
  unfold rneBelow
  rw [← ten_pow_split h, Int.mul_right_comm, rneI_scale _ _ _ (ten_pow_pos _)]

/-- what `parse_is_short` followed by `dec_to_bin` must deliver for the generic part of `dec_str_frac_to_bin`
(`dec` digits of look-ahead): exact rounding of the zero-padded value for short inputs, the floor-mode value of the first
`dec` digits otherwise -/
def FloorOk (n dec : Nat) : Prop :=
  ∀ (bs : List Nat) (nbits : Nat), D 10 bs = true → nbits ≤ n →
    decFloor n bs nbits =
      if bs.length ≤ dec then
        .ok (rneBelow (valL bs * 10 ^ (dec - bs.length) * 2 ^ nbits) (10 ^ dec) (2 ^ nbits), true) false
      else .ok (some (floorQ (valL (bs.take dec) * 2 ^ nbits) (10 ^ dec)), false) false

theorem decStr_of_floorOk (n dec : Nat) (hFl : FloorOk n dec) (h3 : 3 ≤ n)
    (hbig : (2 : Int) * 2 ^ n ≤ 10 ^ dec) (bs : List Nat) (nbits : Nat) (hall : D 10 bs = true)
    (hlast : bs.getLast? ≠ some 48) (hnb : nbits ≤ n) :
    decStrFracToBin n bs nbits = .ok (rneBelow (valL bs * 2 ^ nbits) (10 ^ bs.length) (2 ^ nbits)) false := by
  have hfl := hFl bs nbits hall hnb
  by_cases hl : bs.length ≤ dec
  · rw [if_pos hl, rneBelow_pad _ _ _ _ hl] at hfl
    unfold decStrFracToBin
    rw [hfl, ok_false_bind]
    cases rneBelow (valL bs * 2 ^ nbits) (10 ^ bs.length) (2 ^ nbits) <;> rfl
  · rw [if_neg hl] at hfl
    have hK := two_pow_pos nbits
    have hKN : (2 : Int) ^ nbits ≤ 2 ^ n := pow_le_pow hnb
    have hD := ten_pow_pos dec
    have hT := ten_pow_pos (bs.length - dec)
    have hp := valL_take_bounds hall (k := dec) (by omega)
    have ht := valL_bounds _ (D_take_drop hall dec).2
    rw [List.length_drop] at ht
    have htpos : 0 < valL (bs.drop dec) := by
      apply valL_pos _ (D_take_drop hall dec).2
      · intro h; have := congrArg List.length h; rw [List.length_drop] at this; simp at this; omega
      · rw [List.getLast?_drop, if_neg hl]; exact hlast
    have hNp0 : 0 ≤ valL (bs.take dec) * 2 ^ nbits := Int.mul_nonneg hp.1 (Int.le_of_lt hK)
    have hNp1 : valL (bs.take dec) * 2 ^ nbits < 2 ^ nbits * 10 ^ dec := by
      rw [Int.mul_comm (2 ^ nbits)]; exact Int.mul_lt_mul_of_pos_right hp.2 hK
    have hF := floorQ_bounds _ _ _ hNp0 hNp1 hD
    have hbr := bracket (valL (bs.take dec) * 2 ^ nbits) (10 ^ dec) (10 ^ (bs.length - dec)) (valL (bs.drop dec)) (2 ^ nbits)
      hD hT htpos ht.2 hK (by omega)
    have e1 := ten_pow_split (a := dec) (b := bs.length) (by omega)
    have e2 : valL (bs.take dec) * 2 ^ nbits * 10 ^ (bs.length - dec) + valL (bs.drop dec) * 2 ^ nbits =
        valL bs * 2 ^ nbits := by
      rw [valL_take_drop bs dec, Int.add_mul, Int.mul_right_comm]
    rw [e1, e2] at hbr
    exact decStr_slow n nbits h3 hnb bs hall hlast _ hfl hF.1 hF.2 hbr.1 hbr.2

theorem floorOk_small (n dec : Nat) (I : Inst n dec) (hdd : decDigits n = dec) (hn : n ≠ 128) : FloorOk n dec := by
  intro bs nbits hall hnb
  have hb := valL_bounds bs hall
  unfold decFloor
  rw [if_neg hn, hdd]
  by_cases hl : bs.length ≤ dec
  · rw [if_pos hl, parseIsShort_short I bs hall hl]
    simp only []
    have hT := ten_pow_pos (dec - bs.length)
    have hv1 : valL bs * 10 ^ (dec - bs.length) < 10 ^ dec := by
      rw [← ten_pow_split hl]; exact Int.mul_lt_mul_of_pos_right hb.2 hT
    rw [decToBin_near I _ (Int.mul_nonneg hb.1 (Int.le_of_lt hT)) hv1 nbits hnb, ok_false_bind]
    rfl
  · rw [if_neg hl, parseIsShort_long I bs hall (by omega)]
    simp only []
    have hp := valL_take_bounds hall (k := dec) (by omega)
    rw [decToBin_floor I _ hp.1 hp.2 nbits hnb, ok_false_bind]
    rfl

end Sfx.ParseDecPf
