import SfxProofs.ParseBoundsDigits
/-
  ParsePow.lean — C08, fractions in radix 2, 8, 16: the fraction converters of `from_str.rs`
  (`bin_str_frac_to_bin`, `oct_str_frac_to_bin`, `hex_str_frac_to_bin`) return the correctly rounded
  (nearest, ties to even) `nbits`-bit fraction `E = rneDiv (v * 2^nbits) (r^m)` of the exact value `v / r^m` (`fracRes`),
  or `None` exactly when `E` reaches `2^nbits` (= 1.0; `rneDiv_frac_le` shows `E ≤ 2^nbits` always).  Core Lean only.

  `binStrFracToBin_nv`, `octStrFracToBin_nv`, `hexStrFracToBin_nv` hold for any width `n ≥ nbits`, not only the five
  primitive widths.  Hypotheses: `nbits ≤ n`, `bytes ≠ []`, all bytes valid digits (`D r bytes`), last byte
  not `'0'` (the tokeniser trims trailing zeros); the first, second and last are shown necessary by an `example` at the end
  of the file.

  The `None` condition in the code: `checked_add` overflow when `nbits = n` (`acc + 1 = 2^n`), `acc >> nbits ≠ 0` when
  `nbits < n` (`acc + 1 = 2^nbits`); both are `E = 2^nbits` (`fracFinish_nat`).
  Debug-only checks: none fires under the hypotheses.  The final `acc << rem_bits` has `rem_bits ≤ nbits - k < n` as soon as one
  digit was consumed; `rem_bits = n` needs `bytes = []` and `nbits = n`, which the model flags (`dbg = true`, also from the
  `debug_assert!`), but `get_frac` tests `frac.is_empty()` first, so it is unreachable: no finding.
-/
namespace Sfx.ParsePowPf
open Sfx.TextSpec Sfx.ParsePf

/-- the rounding decision at the digit that straddles the `nbits` boundary: `P = 2^rem` kept bits, `S = 2H = 2^(k-rem)`
dropped bits of this digit (`bit` = half bit, `low` = bits below it), `M = R^(later digits)`, `w'` = later digits -/
theorem finish_rne (A P S H M hi bit low w' : Nat) (hS : S = 2 * H) (hP : 0 < P)
    (hbit : bit < 2) (hlow : low < H) (hw : w' < M) :
    rneDiv ((A * (M * (P * S)) + ((hi * S + (H * bit + low)) * M + w')) * P) (M * (P * S)) =
      A * P + hi + if bit = 0 ∨ low * M + w' = 0 ∧ (A * P + hi) % 2 = 0 then 0 else 1 := by
  have e1 : M * (P * S) = (S * M) * P := by
    rw [Nat.mul_comm M, Nat.mul_comm P S, Nat.mul_assoc, Nat.mul_assoc, Nat.mul_comm P M]
  have e2 : A * (S * M * P) + ((hi * S + (H * bit + low)) * M + w') =
      (A * P + hi) * (2 * (H * M)) + (H * M * bit + (low * M + w')) := by
    subst hS
    rw [Nat.add_mul (hi * (2 * H)), Nat.add_mul (A * P), Nat.add_mul (H * bit), Nat.mul_assoc 2 H M,
      Nat.mul_right_comm A, Nat.mul_assoc hi, Nat.mul_assoc A, Nat.mul_assoc 2 H M, Nat.mul_right_comm H bit M]
    omega
  have e5 : low * M + w' < H * M := by
    have : (low + 1) * M ≤ H * M := Nat.mul_le_mul_right M hlow
    rw [Nat.add_mul, Nat.one_mul] at this; omega
  rw [e1, rneDiv_mul_right _ _ _ (Nat.mul_pos (by omega) (by omega)) hP, e2, hS, Nat.mul_assoc 2 H M]
  exact rneDiv_half _ _ _ _ hbit e5

theorem half_test (d j : Nat) : (d &&& (1 <<< j) != 0) = decide (d / 2 ^ j % 2 = 1) := by
  rw [Nat.one_shiftLeft, Bool.eq_iff_iff, bne_iff_ne, Ne, and_two_pow_eq_zero_iff, decide_eq_true_eq]
  omega

theorem low_test (d j : Nat) : (d &&& ((1 <<< j) - 1) != 0) = decide (d % 2 ^ j ≠ 0) := by
  rw [Nat.one_shiftLeft, Nat.and_two_pow_sub_one_eq_mod]
  by_cases h : d % 2 ^ j = 0 <;> simp [h]

/-- split of a digit `d` at the boundary: `j + 1` dropped bits, half bit at position `j` -/
theorem digit_split (d j : Nat) :
    d = d / 2 ^ (j + 1) * 2 ^ (j + 1) + (2 ^ j * (d / 2 ^ j % 2) + d % 2 ^ j) := by
  have h1 := Nat.div_add_mod d (2 ^ (j + 1))
  have h2 : d % 2 ^ (j + 1) = d % 2 ^ j + 2 ^ j * (d / 2 ^ j % 2) := by
    rw [Nat.pow_succ]; exact Nat.mod_mul
  rw [Nat.mul_comm] at h1
  omega

/-- shifting a whole digit into the accumulator: nothing is lost while the digits consumed fit the `nbits - rem` bits spent -/
theorem acc_step {k rem nbits n A d : Nat} (hkr : k ≤ rem) (hr : rem ≤ nbits) (hn : nbits ≤ n)
    (hA : A < 2 ^ (nbits - rem)) (hd : d < 2 ^ k) :
    shlI false n (A : Int) k + Int.ofNat d = ((A * 2 ^ k + d : Nat) : Int) ∧ A * 2 ^ k + d < 2 ^ (nbits - (rem - k)) := by
  have hb1 : (A + 1) * 2 ^ k ≤ 2 ^ (nbits - rem) * 2 ^ k := Nat.mul_le_mul_right _ hA
  rw [← Nat.pow_add, show nbits - rem + k = nbits - (rem - k) by omega, Nat.add_mul, Nat.one_mul] at hb1
  have hb2 : 2 ^ (nbits - (rem - k)) ≤ 2 ^ n := Nat.pow_le_pow_right (by decide) (by omega)
  refine ⟨?_, by omega⟩
  rw [shlI_natCast, Nat.mod_eq_of_lt (by omega), Int.natCast_add]; rfl

theorem fracFinish_nat (n nbits : Nat) (hn : nbits ≤ n) (q : Nat) (hq : q < 2 ^ nbits) (ru : Bool) :
    FromStr.fracFinish n nbits (q : Int) ru = fracOpt nbits (if ru then q + 1 else q) := by
  have hle : 2 ^ nbits ≤ 2 ^ n := Nat.pow_le_pow_right (by decide) hn
  have hdiv : ∀ E : Nat, E ≤ 2 ^ nbits → (shrI (E : Int) nbits != 0) = decide (E = 2 ^ nbits) := by
    intro E hE
    rw [shrI_natCast, Bool.eq_iff_iff, bne_iff_ne, decide_eq_true_eq, Ne, Int.natCast_eq_zero,
      Nat.div_eq_zero_iff_lt (Nat.pow_pos (by decide))]
    omega
  cases ru
  · simp only [FromStr.fracFinish, Bool.false_eq_true, if_false]
    rw [hdiv q (by omega), decide_eq_false (by omega), Bool.and_false, if_neg Bool.false_ne_true, fracOpt_of_lt hq]
  · simp only [FromStr.fracFinish, if_true, chkI]
    rw [show (q : Int) + 1 = ((q + 1 : Nat) : Int) by omega]
    by_cases hlt : q + 1 < 2 ^ nbits
    · rw [if_pos ((inU_natCast _ _).2 (by omega)), fracOpt_of_lt hlt]
      simp only []
      rw [hdiv _ (by omega), decide_eq_false (by omega), Bool.and_false, if_neg Bool.false_ne_true]
    · rw [fracOpt_of_ge hlt]
      by_cases hnn : nbits = n
      · subst hnn
        rw [if_neg (fun h => hlt ((inU_natCast _ _).1 h))]
      · have : 2 ^ nbits < 2 ^ n := Nat.pow_lt_pow_right (by decide) (by omega)
        rw [if_pos ((inU_natCast _ _).2 (by omega))]
        simp only []
        rw [hdiv _ (by omega), decide_eq_true (by omega), show (n - nbits != 0) = true from bne_iff_ne.2 (by omega)]
        rfl

/-- `round_up` of the code (half bit set, and something below it, later digits, or an odd accumulator) against the
rounding condition of `finish_rne` -/
theorem roundUp_iff {bit low M w' q : Nat} {e : Bool} (hb : bit < 2) (hM : 0 < M) (he : e = true ↔ w' = 0) :
    (decide (bit = 1) && (decide (low ≠ 0) || !e || decide (q % 2 = 1))) = true ↔
      ¬ (bit = 0 ∨ low * M + w' = 0 ∧ q % 2 = 0) := by
  simp only [Bool.and_eq_true, Bool.or_eq_true, decide_eq_true_eq, Bool.not_eq_true', ← Bool.not_eq_true, he,
    Ne, Nat.add_eq_zero_iff, Nat.mul_eq_zero]
  omega

theorem finish_case (k rem n nbits A d M w' : Nat) (e : Bool)
    (hrem : rem < k) (hd : d < 2 ^ k) (hn : nbits ≤ n) (hr : rem ≤ nbits) (hA : A < 2 ^ (nbits - rem))
    (hM : 0 < M) (hw : w' < M) (he : e = true ↔ w' = 0) :
    FromStr.fracFinish n nbits (shlI false n (A : Int) rem + Int.ofNat (d >>> (k - rem)))
        ((d &&& (1 <<< (k - 1 - rem)) != 0) &&
          ((d &&& ((1 <<< (k - 1 - rem)) - 1) != 0) || !e ||
            FromStr.isOdd (shlI false n (A : Int) rem + Int.ofNat (d >>> (k - rem))))) =
      fracOpt nbits (rneDiv ((A * (M * 2 ^ k) + (d * M + w')) * 2 ^ rem) (M * 2 ^ k)) := by
  obtain ⟨j, hj⟩ : ∃ j, k - 1 - rem = j := ⟨_, rfl⟩
  have hs : k - rem = j + 1 := by omega
  have hk : k = rem + (j + 1) := by omega
  have hPS : 2 ^ k = 2 ^ rem * 2 ^ (j + 1) := by rw [hk]; exact Nat.pow_add ..
  have hSH : 2 ^ (j + 1) = 2 * 2 ^ j := by rw [Nat.pow_succ, Nat.mul_comm]
  have hP : 0 < 2 ^ rem := Nat.two_pow_pos rem
  have hH : 0 < 2 ^ j := Nat.two_pow_pos j
  have hhi : d / 2 ^ (j + 1) < 2 ^ rem := by
    rw [Nat.div_lt_iff_lt_mul (Nat.two_pow_pos _)]; rwa [← hPS]
  obtain ⟨hacc, hq⟩ := acc_step (Nat.le_refl rem) hr hn hA hhi
  rw [Nat.sub_self, Nat.sub_zero] at hq
  have key := finish_rne A (2 ^ rem) (2 ^ (j + 1)) (2 ^ j) M (d / 2 ^ (j + 1)) (d / 2 ^ j % 2) (d % 2 ^ j) w'
    hSH hP (Nat.mod_lt _ (by decide)) (Nat.mod_lt _ hH) hw
  rw [← digit_split d j, ← hPS] at key
  rw [hs, Nat.shiftRight_eq_div_pow, hacc, isOdd_cast, hj, half_test, low_test, fracFinish_nat n nbits hn _ hq, key]
  congr 1
  have hb : d / 2 ^ j % 2 < 2 := Nat.mod_lt _ (by decide)
  clear key hacc hq hhi
  generalize d / 2 ^ j % 2 = bit at hb ⊢
  generalize d % 2 ^ j = low
  generalize A * 2 ^ rem + d / 2 ^ (j + 1) = q
  have hiff := roundUp_iff (low := low) (q := q) hb hM he
  by_cases hP : bit = 0 ∨ low * M + w' = 0 ∧ q % 2 = 0
  · rw [if_pos hP, if_neg (mt hiff.1 (fun h => h hP))]; rfl
  · rw [if_neg hP, if_pos (hiff.2 hP)]

theorem step_rne (A R d M w' Q : Nat) (hM : 0 < M) (hR : 0 < R) :
    rneDiv (((A * R + d) * M + w') * Q) M = rneDiv ((A * (M * R) + (d * M + w')) * (Q * R)) (M * R) := by
  rw [← Nat.mul_assoc _ Q R, rneDiv_mul_right _ _ _ hM hR]
  congr 2
  rw [Nat.add_mul (A * R), Nat.mul_assoc A R M, Nat.mul_comm R M, Nat.add_assoc]

theorem powFracLoop_nv {r k : Nat} {digit : Nat → Nat} (P : Pow2Radix r k digit) (n nbits : Nat) (hn : nbits ≤ n) :
    ∀ (bytes : List Nat) (rem A : Nat),
      rem ≤ nbits → A < 2 ^ (nbits - rem) → (bytes = [] → rem < n) →
      D r bytes = true → bytes.getLast? ≠ some 48 →
      FromStr.powFracLoop k digit n nbits bytes rem (A : Int) =
        .ok (fracOpt nbits (rneDiv ((A * r ^ bytes.length + nv r bytes) * 2 ^ rem) (r ^ bytes.length))) false := by
  obtain ⟨rfl, hr, hdig⟩ := P
  have hk : 0 < k := Nat.pos_of_ne_zero (by rintro rfl; exact absurd hr.two_le (by decide))
  intro bytes
  induction bytes with
  | nil =>
    intro rem A hr' hA hrn _ _
    have hrn := hrn rfl
    have hAP : A * 2 ^ rem < 2 ^ nbits := by
      have : (A + 1) * 2 ^ rem ≤ 2 ^ (nbits - rem) * 2 ^ rem := Nat.mul_le_mul_right _ hA
      rw [← Nat.pow_add, Nat.sub_add_cancel hr', Nat.add_mul, Nat.one_mul] at this
      have := Nat.two_pow_pos rem
      omega
    have hnn : 2 ^ nbits ≤ 2 ^ n := Nat.pow_le_pow_right (by decide) hn
    simp only [FromStr.powFracLoop, ushl, bind, Outcome.bind, pure, List.length_nil, Nat.pow_zero, Nat.mul_one,
      nv_nil, Nat.add_zero, rneDiv_one]
    rw [Nat.mod_eq_of_lt hrn, shlI_natCast, Nat.mod_eq_of_lt (show A * 2 ^ rem < 2 ^ n by omega)]
    have : decide (n ≤ rem) = false := by simp; omega
    simp [this, fracOpt_of_lt hAP]
  | cons b rest ih =>
    intro rem A hr' hA _ hD hl
    rw [D_cons_iff] at hD
    have hdlt := dg_lt hr hD.1
    have hw'lt := nv_lt hr rest hD.2
    have hR : 0 < 2 ^ k := Nat.two_pow_pos k
    have hM : 0 < (2 ^ k) ^ rest.length := Nat.pow_pos hR
    rw [FromStr.powFracLoop]
    simp only [hdig b hD.1, List.length_cons, Nat.pow_succ, nv_cons]
    by_cases hrem : rem < k
    · rw [if_pos hrem]
      have he : (rest.isEmpty = true) ↔ nv (2 ^ k) rest = 0 := by
        cases rest with
        | nil => simp
        | cons c l' =>
          rw [List.getLast?_cons_cons] at hl
          have := nv_pos hr hD.2 (by simp) hl
          simp; omega
      exact congrArg (Outcome.ok · false) (finish_case k rem n nbits A _ _ _ rest.isEmpty hrem hdlt hn hr' hA hM hw'lt he)
    · rw [if_neg hrem]
      have hkr : k ≤ rem := by omega
      obtain ⟨hacc, hAlt⟩ := acc_step hkr hr' hn hA hdlt
      have hl' : rest.getLast? ≠ some 48 := by
        cases rest with
        | nil => simp
        | cons c l' => rwa [List.getLast?_cons_cons] at hl
      rw [hacc, ih (rem - k) (A * 2 ^ k + dg (2 ^ k) b) (by omega) hAlt (by intro _; omega) hD.2 hl']
      have h2 : 2 ^ rem = 2 ^ (rem - k) * 2 ^ k := by
        rw [← Nat.pow_add, Nat.sub_add_cancel hkr]
      rw [h2, step_rne A (2 ^ k) (dg (2 ^ k) b) _ _ (2 ^ (rem - k)) hM hR]

theorem powStrFrac_nv {r k : Nat} {digit : Nat → Nat} (P : Pow2Radix r k digit) {n nbits : Nat} (hn : nbits ≤ n)
    {bytes : List Nat} (hne : bytes ≠ []) (hD : D r bytes = true) (hlast : bytes.getLast? ≠ some 48) :
    (do Outcome.dassert (!bytes.isEmpty); FromStr.powFracLoop k digit n nbits bytes nbits 0) =
      .ok (fracRes r nbits bytes) false := by
  have := powFracLoop_nv P n nbits hn bytes nbits 0 (Nat.le_refl _)
    (by rw [Nat.sub_self]; decide) (fun h => absurd h hne) hD hlast
  rw [Nat.zero_mul, Nat.zero_add, Int.natCast_zero] at this
  rw [show bytes.isEmpty = false by cases bytes; exact absurd rfl hne; rfl]
  show Outcome.bind _ (fun _ => FromStr.powFracLoop k digit n nbits bytes nbits 0) = _
  rw [this]
  rfl

theorem octStrFracToBin_nv {n nbits : Nat} {bytes : List Nat}
    (hnb : nbits ≤ n) (hne : bytes ≠ []) (hD : D 8 bytes = true) (hlast : bytes.getLast? ≠ some 48) :
    FromStr.octStrFracToBin n bytes nbits = .ok (fracRes 8 nbits bytes) false :=
  powStrFrac_nv pow2Radix8 hnb hne hD hlast

theorem hexStrFracToBin_nv {n nbits : Nat} {bytes : List Nat}
    (hnb : nbits ≤ n) (hne : bytes ≠ []) (hD : D 16 bytes = true) (hlast : bytes.getLast? ≠ some 48) :
    FromStr.hexStrFracToBin n bytes nbits = .ok (fracRes 16 nbits bytes) false :=
  powStrFrac_nv pow2Radix16 hnb hne hD hlast

theorem binFracLoop_eq (n nbits : Nat) (hn : nbits ≤ n) :
    ∀ (bytes : List Nat) (rem A : Nat), rem ≤ nbits → A < 2 ^ (nbits - rem) → D 2 bytes = true →
      FromStr.binFracLoop n nbits bytes rem (A : Int) =
        FromStr.powFracLoop 1 FromStr.digitVal n nbits bytes rem (A : Int) := by
  intro bytes
  induction bytes with
  | nil => intro rem A _ _ _; rw [FromStr.binFracLoop, FromStr.powFracLoop]
  | cons b rest ih =>
    intro rem A hr hA hD
    rw [D_cons_iff] at hD
    have hdlt := dg_lt radix2 hD.1
    rw [FromStr.binFracLoop, FromStr.powFracLoop]
    simp only [digitVal_eq_dg radix2 (by decide) hD.1]
    generalize dg 2 b = d at hdlt
    by_cases hrem : rem < 1
    · rw [if_pos hrem, if_pos hrem]
      have hr0 : rem = 0 := by omega
      subst hr0
      have hnn : 2 ^ nbits ≤ 2 ^ n := Nat.pow_le_pow_right (by decide) hn
      have hs : shlI false n (A : Int) 0 = (A : Int) := by
        rw [shlI_natCast, Nat.pow_zero, Nat.mul_one, Nat.mod_eq_of_lt (by rw [Nat.sub_zero] at hA; omega)]
      rw [hs]
      have hd01 : d = 0 ∨ d = 1 := by omega
      rcases hd01 with h | h <;> subst h <;> simp
    · rw [if_neg hrem, if_neg hrem]
      obtain ⟨hacc, hAlt⟩ := acc_step (k := 1) (by omega) hr hn hA hdlt
      rw [hacc]
      exact ih (rem - 1) (A * 2 ^ 1 + d) (by omega) hAlt hD.2

theorem binStrFracToBin_nv {n nbits : Nat} {bytes : List Nat}
    (hnb : nbits ≤ n) (hne : bytes ≠ []) (hD : D 2 bytes = true) (hlast : bytes.getLast? ≠ some 48) :
    FromStr.binStrFracToBin n bytes nbits = .ok (fracRes 2 nbits bytes) false := by
  have hb := binFracLoop_eq n nbits hnb bytes nbits 0 (Nat.le_refl _) (by rw [Nat.sub_self]; decide) hD
  unfold FromStr.binStrFracToBin
  rw [Int.natCast_zero] at hb
  rw [hb]
  exact powStrFrac_nv pow2Radix2 hnb hne hD hlast

/-- trailing zeros must be trimmed (the tokeniser does): `".10"` at `nbits = 0` is a tie (→ 0) but the code sees
"more significant bits" -/
example : FromStr.binStrFracToBin 8 [49, 48] 0 = .ok none false ∧ digitsVal 2 [49, 48] = some 2 ∧ rneDiv (2 * 2 ^ 0) (2 ^ 2) = 0 := by
  decide

/-- an empty digit string trips `debug_assert!(!bytes.is_empty())` (and, for `nbits = NBITS`, the shift `acc << rem_bits`
by the full width); `get_frac` tests `frac.is_empty()` first, so this is unreachable from `from_str` -/
example : FromStr.binStrFracToBin 8 [] 8 = .ok (some 0) true ∧ FromStr.octStrFracToBin 8 [] 3 = .ok (some 0) true ∧
    FromStr.hexStrFracToBin 8 [] 0 = .ok (some 0) true := by decide

/-- `nbits ≤ NBITS` is needed (`dump_bits = NBITS - nbits` underflows in the Rust; all callers pass `nbits ≤ NBITS`) -/
example : FromStr.binStrFracToBin 8 [49] 9 = .ok (some 1) true := by decide

#print axioms binStrFracToBin_nv
#print axioms octStrFracToBin_nv
#print axioms hexStrFracToBin_nv

end Sfx.ParsePowPf
