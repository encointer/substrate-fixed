import SfxProofs.ParseTopIntFrac
import SfxProofs.ParsePow
import SfxProofs.ParseDec
/-
  ParseTop.lean — C08 top level: `from_str_{i,u}{8..128}` return the correctly rounded value of the literal with the exact
  overflow flag, or a non-`Overflow` error on malformed input; no panic, no debug-only check (core Lean only).
  The three stages meet here: `$get_frac` over all four radices (`getFrac_nv`: ParsePow.lean and the decimal chain ParseDec*.lean),
  `$get_int_frac` (ParseTopIntFrac.lean), then sign and overflow (`fromStrI_spec`, `fromStrU_spec`): `fromStr_spec`; `parseForm_spec` for the four public forms.
-/
namespace Sfx.ParseTopPf
open Sfx.TextSpec Sfx.ParsePowPf Sfx.ParsePf

/-- `abs.wrapping_neg()` on the reduced magnitude is the wrapped negated magnitude, in either signedness -/
theorem wrap_sign (s : Bool) (n : Nat) (neg : Bool) (M : Int) :
    wrapI s n (if neg then wrapU n (-(M % 2 ^ n)) else M % 2 ^ n) = wrapI s n (if neg then -M else M) := by
  cases neg
  · exact wrapI_wrapI s false n M
  · rw [if_pos rfl, if_pos rfl]
    refine (wrapI_wrapI s false n _).trans (wrapI_congr s n (M / 2 ^ n) ?_)
    have := Int.emod_add_mul_ediv M (2 ^ n)
    rw [Int.mul_comm] at this
    omega

theorem emod_cases {n : Nat} {M : Int} (hM : 0 ≤ M) :
    (2 : Int) ^ n ≤ M ∧ 0 ≤ M % 2 ^ n ∧ M % 2 ^ n < 2 ^ n ∨ ¬ (2 : Int) ^ n ≤ M ∧ M % 2 ^ n = M := by
  by_cases h : (2 : Int) ^ n ≤ M
  · exact Or.inl ⟨h, Int.emod_nonneg _ (Int.ne_of_gt (two_pow_pos n)), Int.emod_lt_of_pos _ (two_pow_pos n)⟩
  · exact Or.inr ⟨h, Int.emod_eq_of_lt hM (by omega)⟩

/-- wrapped value and overflow flag of `$from_i` from the reduced magnitude and the flag of `$get_int_frac` -/
theorem signed_result {n : Nat} (hn : 0 < n) (neg : Bool) (M : Int) (hM : 0 ≤ M) :
    (wrapS n (if neg then wrapU n (-(M % 2 ^ n)) else M % 2 ^ n),
      if M % 2 ^ n > 2 ^ (n - 1) - (if !neg then 1 else 0) then true else decide ((2 : Int) ^ n ≤ M)) =
    (wrapS n (if neg then -M else M), !decide (inI true n (if neg then -M else M))) := by
  have hN := pow_split hn
  have hH := two_pow_pos (n - 1)
  have hm := emod_cases (n := n) hM
  rw [show wrapS n (if neg then wrapU n (-(M % 2 ^ n)) else M % 2 ^ n) = _ from wrap_sign true n neg M]
  congr 1
  rw [Bool.eq_iff_iff]
  cases neg <;> simp [inS_iff] <;> omega

/-- wrapped value and overflow flag of `$from_u` -/
theorem unsigned_result (n : Nat) (neg : Bool) (M : Int) (hM : 0 ≤ M) :
    ((if neg then wrapU n (-(M % 2 ^ n)) else M % 2 ^ n),
      if (neg && decide (M % 2 ^ n > 0)) = true then true else decide ((2 : Int) ^ n ≤ M)) =
    (wrapU n (if neg then -M else M), !decide (inI false n (if neg then -M else M))) := by
  have hN := two_pow_pos n
  have hm := emod_cases (n := n) hM
  have hval := wrap_sign false n neg M
  change wrapU n _ = wrapU n _ at hval
  rw [← hval]
  congr 1
  · cases neg <;> exact (wrapI_wrapI false false n _).symm
  · rw [Bool.eq_iff_iff]
    cases neg <;> simp [inU_iff] <;> omega

theorem fromStrI_spec {n radix intN fracN : Nat} (hn : 0 < n) {bytes : List Nat} {neg : Bool} {M : Nat}
    (hg : FromStr.getIntFrac n bytes radix intN fracN =
      .ok (.ok (neg, (M : Int) % 2 ^ n, decide ((2 : Int) ^ n ≤ (M : Int)))) false) :
    FromStr.fromStrI n bytes radix intN fracN =
      .ok (.ok (wrapS n (if neg then -(M : Int) else M), !decide (inI true n (if neg then -(M : Int) else M)))) false := by
  unfold FromStr.fromStrI
  rw [hg]
  simp only [ok_false_bind]
  rw [← signed_result hn neg (M : Int) (Int.natCast_nonneg M)]
  rfl

theorem fromStrU_spec {n radix intN fracN : Nat} {bytes : List Nat} {neg : Bool} {M : Nat}
    (hg : FromStr.getIntFrac n bytes radix intN fracN =
      .ok (.ok (neg, (M : Int) % 2 ^ n, decide ((2 : Int) ^ n ≤ (M : Int)))) false) :
    FromStr.fromStrU n bytes radix intN fracN =
      .ok (.ok (wrapU n (if neg then -(M : Int) else M), !decide (inI false n (if neg then -(M : Int) else M)))) false := by
  unfold FromStr.fromStrU
  rw [hg]
  simp only [ok_false_bind]
  rw [← unsigned_result n neg (M : Int) (Int.natCast_nonneg M)]
  rfl

theorem fromStrI_err {n radix intN fracN : Nat} {bytes : List Nat} {e : Nat}
    (hp : FromStr.parseBounds bytes radix = .error e) :
    FromStr.fromStrI n bytes radix intN fracN = .ok (.error e) false := by
  unfold FromStr.fromStrI
  rw [getIntFrac_err hp]
  simp only [ok_false_bind]
  rfl

theorem fromStrU_err {n radix intN fracN : Nat} {bytes : List Nat} {e : Nat}
    (hp : FromStr.parseBounds bytes radix = .error e) :
    FromStr.fromStrU n bytes radix intN fracN = .ok (.error e) false := by
  unfold FromStr.fromStrU
  rw [getIntFrac_err hp]
  simp only [ok_false_bind]
  rfl

/-- the part of `$get_frac` after the half-width attempt (the empty fraction gives `Some(0)`) -/
theorem getFracDirect_nv {radix n nbits : Nat} (hr : Radix radix)
    (hn : n = 8 ∨ n = 16 ∨ n = 32 ∨ n = 64 ∨ n = 128) (hnb : nbits ≤ n) {fs : List Nat}
    (hD : D radix fs = true) (hlast : fs.getLast? ≠ some 48) :
    FromStr.getFracDirect n fs radix nbits = .ok (fracRes radix nbits fs) false := by
  cases fs with
  | nil => rw [fracRes_nil]; rfl
  | cons b l =>
    have hne : b :: l ≠ [] := by simp
    unfold FromStr.getFracDirect
    rw [List.isEmpty_cons, if_neg (by decide)]
    rcases hr with rfl | rfl | rfl | rfl
    · rw [if_pos rfl]; exact binStrFracToBin_nv hnb hne hD hlast
    · rw [if_neg (by decide), if_pos rfl]; exact octStrFracToBin_nv hnb hne hD hlast
    · rw [if_neg (by decide), if_neg (by decide), if_neg (by decide), if_pos rfl]
      exact ParseDecPf.decStrFracToBin_nv hn hnb hD hlast
    · rw [if_neg (by decide), if_neg (by decide), if_pos rfl]; exact hexStrFracToBin_nv hnb hne hD hlast

theorem getFracHalf_nv {n nbits radix : Nat} {half : List Nat → Nat → Nat → Outcome (Option Int)} {fs : List Nat}
    {R : Outcome (Option Int)} (hhalf : nbits ≤ n / 2 → half fs radix nbits = R)
    (hdirect : FromStr.getFracDirect n fs radix nbits = R) : FromStr.getFracHalf n half fs radix nbits = R := by
  unfold FromStr.getFracHalf
  split
  · exact hhalf ‹_›
  · exact hdirect

/-- `$get_frac` of the `n`-bit instance, through the whole half-width delegation chain (a delegated call passes the same
`nbits` to a narrower instance, and the contract of each converter does not depend on the width) -/
theorem getFrac_nv {radix n nbits : Nat} (hr : Radix radix)
    (hn : n = 8 ∨ n = 16 ∨ n = 32 ∨ n = 64 ∨ n = 128) (hnb : nbits ≤ n) {fs : List Nat}
    (hD : D radix fs = true) (hlast : fs.getLast? ≠ some 48) :
    FromStr.getFrac n fs radix nbits = .ok (fracRes radix nbits fs) false := by
  have d : ∀ m, (m = 8 ∨ m = 16 ∨ m = 32 ∨ m = 64 ∨ m = 128) → nbits ≤ m →
      FromStr.getFracDirect m fs radix nbits = .ok (fracRes radix nbits fs) false :=
    fun m hm hle => getFracDirect_nv hr hm hle hD hlast
  have g16 : nbits ≤ 16 → FromStr.getFrac16 fs radix nbits = .ok (fracRes radix nbits fs) false :=
    fun hle => getFracHalf_nv (fun h => d 8 (by simp) (by omega)) (d 16 (by simp) hle)
  unfold FromStr.getFrac
  rcases hn with rfl | rfl | rfl | rfl | rfl
  · exact d 8 (by simp) hnb
  · exact g16 hnb
  · exact getFracHalf_nv (fun h => g16 (by omega)) (d 32 (by simp) hnb)
  · exact d 64 (by simp) hnb
  · exact getFracHalf_nv (fun h => d 64 (by simp) (by omega)) (d 128 (by simp) hnb)

/-- `from_str_{i,u}N` for every signedness `s`, width `n` of the five and `f ≤ n` fractional bits: on a well-formed literal, with
exact rounding `E`, the wrapped value and the flag "`E` does not fit"; on a malformed one an error that is not `Overflow` (3).
No panic, no debug-only check. -/
theorem fromStr_spec (s : Bool) {n f radix : Nat} (hr : Radix radix) (hn : n = 8 ∨ n = 16 ∨ n = 32 ∨ n = 64 ∨ n = 128)
    (hf : f ≤ n) (bytes : List Nat) :
    (∃ E, parseExact radix f bytes = some E ∧
      FromStr.fromStr s n bytes radix (n - f) f = some (.ok (.ok (wrapI s n E, !decide (inI s n E))) false)) ∨
    (parseExact radix f bytes = none ∧
      ∃ k, k < 3 ∧ FromStr.fromStr s n bytes radix (n - f) f = some (.ok (.error k) false)) := by
  have hfs : FromStr.fromStr s n bytes radix (n - f) f =
      some (if s then FromStr.fromStrI n bytes radix (n - f) f else FromStr.fromStrU n bytes radix (n - f) f) := by
    unfold FromStr.fromStr
    rw [if_pos ⟨hn, by omega⟩]
  rw [hfs]
  cases hp : FromStr.parseBounds bytes radix with
  | error e =>
    obtain ⟨he, hlit⟩ := parseBounds_err hr hp
    refine Or.inr ⟨by unfold parseExact; rw [hlit]; rfl, e, he, ?_⟩
    rw [fromStrI_err hp, fromStrU_err hp, ite_self]
  | ok p =>
    obtain ⟨num, k, hlit, hg⟩ := getIntFrac_spec hr hn hf hp (getFrac_nv hr hn hf)
    refine Or.inl ⟨_, by unfold parseExact; rw [hlit]; rfl, ?_⟩
    cases s
    · rw [if_neg (by decide), fromStrU_spec hg]; rfl
    · rw [if_pos rfl, fromStrI_spec (by omega) hg]; rfl

/-- the four wrappers around the overflowing form, on its answer for an exact rounding `E` that has the sign the first byte announces -/
theorem parseForm_spec (L : Layout) (hn : 0 < L.n) (bytes : List Nat) (E : Int)
    (hsign : if (bytes.head? == some 45) = true then E ≤ 0 else 0 ≤ E) :
    FromStr.parseForm L .overflowing bytes (.ok (L.wrap E, !decide (inRange L E))) = .valFlag (L.wrap E) (!decide (inRange L E)) ∧
    FromStr.parseForm L .wrapping bytes (.ok (L.wrap E, !decide (inRange L E))) = .val (L.wrap E) ∧
    FromStr.parseForm L .plain bytes (.ok (L.wrap E, !decide (inRange L E))) = (if inRange L E then .val E else .err 3) ∧
    FromStr.parseForm L .saturating bytes (.ok (L.wrap E, !decide (inRange L E))) = .val (L.clamp E) := by
  refine ⟨rfl, rfl, ?_, ?_⟩
  · simp only [FromStr.parseForm]
    by_cases hin : inRange L E
    · simp only [hin, decide_true, Bool.not_true, if_true]
      rw [show L.wrap E = E from wrapI_of_in hn hin]; rfl
    · simp [hin]
  · show (if (ovfI L.signed L.n E).2 = true then FromStr.PAns.val _ else FromStr.PAns.val (ovfI L.signed L.n E).1) =
      FromStr.PAns.val (clampI L.signed L.n E)
    rw [← apply_ite FromStr.PAns.val, clampI_of_ovfI hn E _ fun hin => ?_]
    split
    · rw [if_pos ‹_›] at hsign; exact (clampI_of_nonpos hin hsign).symm
    · rw [if_neg ‹_›] at hsign; exact (clampI_of_nonneg hin hsign).symm

/-- "-1.5" on the integer grid of `i8`: an exact half with an odd integer part rounds to the even neighbour (`frac_is_half`) -/
example : FromStr.fromStr true 8 [45, 49, 46, 53] 10 8 0 = some (.ok (.ok (-2, false)) false) ∧
    parseExact 10 0 [45, 49, 46, 53] = some (-2) := ⟨rfl, rfl⟩
/-- "0.8" (hex) with 4 fraction bits in `u8` is exactly one half; "f.f8" rounds up to 16.0 and overflows the 4 integer bits -/
example : FromStr.fromStr false 8 [48, 46, 56] 16 4 4 = some (.ok (.ok (8, false)) false) ∧
    FromStr.fromStr false 8 [102, 46, 102, 56] 16 4 4 = some (.ok (.ok (0, true)) false) ∧
    parseExact 16 4 [102, 46, 102, 56] = some 256 := ⟨rfl, rfl, rfl⟩
/-- "-128" fits `i8`, "128" does not; "-1" overflows `u8` with the wrapped value 255 -/
example : FromStr.fromStr true 8 [45, 49, 50, 56] 10 8 0 = some (.ok (.ok (-128, false)) false) ∧
    FromStr.fromStr true 8 [49, 50, 56] 10 8 0 = some (.ok (.ok (-128, true)) false) ∧
    FromStr.fromStr false 8 [45, 49] 10 8 0 = some (.ok (.ok (255, true)) false) := ⟨rfl, rfl, rfl⟩
/-- malformed input: the error kind of `parse_bounds`, never `Overflow` (3) -/
example : FromStr.fromStr true 8 [49, 46, 46] 10 4 4 = some (.ok (.error 2) false) ∧ parseExact 10 4 [49, 46, 46] = none :=
  ⟨rfl, rfl⟩

end Sfx.ParseTopPf

#print axioms Sfx.ParseTopPf.getFrac_nv
#print axioms Sfx.ParseTopPf.fromStrI_spec
#print axioms Sfx.ParseTopPf.fromStrU_spec
