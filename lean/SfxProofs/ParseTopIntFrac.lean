import SfxProofs.ParseBounds
/-
  ParseTopIntFrac.lean — C08, `$get_int_frac` (core Lean only): it recombines the integer and fraction parts into the correctly rounded
  magnitude `M = rne(num · 2^f / radix^k)` and returns `(neg, M mod 2^n, 2^n ≤ M)`.  Rounding `iv + fv/D` to the grid `2^-f` lets the
  integer part pass through and rounds the fraction part, except on the integer grid (`f = 0`) at an exact half with an odd integer
  part (`rneDiv_int_frac`); that case is what `frac_is_half` is for (`fracIsHalf_nv`: it recognises exactly the fraction strings,
  without trailing zero, of value one half).
-/
namespace Sfx.ParseTopPf
open Sfx.TextSpec Sfx.ParsePf

theorem digit_half {r : Nat} (hr : Radix r) {b : Nat} (h : FromStr.isDigitOf b r = true) :
    (FromStr.digitVal b == r % 256 / 2) = decide (2 * dg r b = r) := by
  have := dg_cases hr h
  have hr2 : r % 256 / 2 * 2 = r ∧ r ≤ 16 := by unfold Radix at hr; omega
  rw [Bool.eq_iff_iff, beq_iff_eq, decide_eq_true_eq]
  unfold FromStr.digitVal
  generalize r % 256 / 2 = m at hr2 ⊢
  omega

/-- a second digit that is not a trailing zero makes the value differ from the half -/
theorem fracIsHalf_nv {r : Nat} (hr : Radix r) :
    ∀ {ds : List Nat}, D r ds = true → (ds ≠ [] → ds.getLast? ≠ some 48) →
      FromStr.fracIsHalf ds r = decide (2 * nv r ds = r ^ ds.length)
  | [], _, _ => by simp [FromStr.fracIsHalf]
  | [b], hD, _ => by
    rw [D_cons_iff] at hD
    simp only [FromStr.fracIsHalf, digit_half hr hD.1, nv_cons, nv_nil, List.length_cons, List.length_nil,
      Nat.pow_zero, Nat.mul_one, Nat.add_zero, Nat.zero_add, Nat.pow_one]
  | b :: c :: l, hD, hlast => by
    rw [D_cons_iff] at hD
    have hl := hlast (by simp)
    rw [List.getLast?_cons_cons] at hl
    have h0 := nv_pos hr hD.2 (by simp) hl
    have h1 := nv_lt hr _ hD.2
    have hne : ¬ 2 * nv r (b :: c :: l) = r ^ (b :: c :: l).length := by
      rw [nv_cons, List.length_cons (a := b), Nat.pow_succ]
      generalize r ^ (c :: l).length = P at *
      generalize nv r (c :: l) = w' at *
      generalize dg r b = d
      obtain ⟨s, rfl⟩ : ∃ s, r = 2 * s := by unfold Radix at hr; exact ⟨r / 2, by omega⟩
      intro h2
      have h2 : d * P + w' = s * P := by
        have : P * (2 * s) = 2 * (s * P) := by rw [Nat.mul_comm, Nat.mul_assoc]
        omega
      rcases Nat.lt_or_ge d s with h | h
      · have := Nat.mul_le_mul_right P (show d + 1 ≤ s from h)
        rw [Nat.add_mul, Nat.one_mul] at this
        omega
      · have := Nat.mul_le_mul_right P h
        omega
    rw [decide_eq_false hne]
    rfl

theorem getIntFrac_err {n radix intN fracN : Nat} {bytes : List Nat} {e : Nat}
    (hp : FromStr.parseBounds bytes radix = .error e) :
    FromStr.getIntFrac n bytes radix intN fracN = .ok (.error e) false := by
  unfold FromStr.getIntFrac
  rw [hp]
  rfl

theorem recombine (iv intN f E' : Nat) :
    (iv * 2 ^ f + E') % 2 ^ (intN + f) = (iv % 2 ^ intN * 2 ^ f + E') % 2 ^ (intN + f) ∧
    decide (2 ^ (intN + f) ≤ iv * 2 ^ f + E')
      = (decide (2 ^ intN ≤ iv) || decide (2 ^ (intN + f) ≤ iv % 2 ^ intN * 2 ^ f + E')) := by
  have hdm := Nat.div_add_mod iv (2 ^ intN)
  have hlt := Nat.mod_lt iv (Nat.two_pow_pos intN)
  generalize iv % 2 ^ intN = a at *
  generalize iv / 2 ^ intN = c at *
  have e1 : iv * 2 ^ f + E' = (a * 2 ^ f + E') + c * 2 ^ (intN + f) := by
    rw [← hdm, Nat.pow_add, Nat.add_mul, Nat.mul_comm (2 ^ intN) c, Nat.mul_assoc]; omega
  refine ⟨by rw [e1, Nat.add_mul_mod_self_right], ?_⟩
  rw [e1, Bool.eq_iff_iff]
  simp only [decide_eq_true_eq, Bool.or_eq_true]
  rcases Nat.eq_zero_or_pos c with rfl | hc
  · rw [Nat.mul_zero, Nat.zero_add] at hdm; omega
  · have := Nat.le_mul_of_pos_right (2 ^ intN) hc
    have := Nat.le_mul_of_pos_left (2 ^ (intN + f)) hc
    omega

/-- the magnitude assembled by `$get_int_frac`: integer part, rounded fraction, and the half-to-even carry on the integer grid -/
def magnitude (iv f E : Nat) (half : Bool) : Nat :=
  iv * 2 ^ f + E + (if f = 0 ∧ half = true ∧ iv % 2 = 1 then 1 else 0)

theorem ushl_one {n f : Nat} (hf : f < n) : ushl false n 1 f = .ok (((2 ^ f : Nat) : Int)) false := by
  rw [ushl_of_lt false hf, shlI_one hf]

theorem orI_cast {n f a E : Nat} (hE : E < 2 ^ f) (hlt : a * 2 ^ f + E < 2 ^ n) :
    orI false n ((a * 2 ^ f : Nat) : Int) (E : Int) = ((a * 2 ^ f + E : Nat) : Int) := by
  rw [orI_natCast n _ _ (by omega) (by omega), ← Nat.shiftLeft_eq, Nat.shiftLeft_add_eq_or_of_lt hE]

/-- the part of `$get_int_frac` after its three calls, which enter as hypotheses: `parse_bounds` returned `p`, `$get_int` the integer
value `iv` left-aligned with its flag, `$get_frac` the rounded fraction `E` -/
theorem getIntFrac_parts {intN f radix : Nat} (hn0 : 0 < intN + f) {bytes : List Nat} {p : FromStr.Parse}
    (hp : FromStr.parseBounds bytes radix = .ok p) (iv E : Nat) (hE : E ≤ 2 ^ f)
    (hi : FromStr.getInt (intN + f) p.int radix intN = .ok (intSpec iv (intN + f) intN) false)
    (hfr : FromStr.getFrac (intN + f) p.frac radix f = .ok (fracOpt f E) false)
    (hhalf : FromStr.fracIsHalf p.frac radix = true → f = 0 → E = 0) :
    FromStr.getIntFrac (intN + f) bytes radix intN f
      = .ok (.ok (p.neg, ((magnitude iv f E (FromStr.fracIsHalf p.frac radix) % 2 ^ (intN + f) : Nat) : Int),
          decide (2 ^ (intN + f) ≤ magnitude iv f E (FromStr.fracIsHalf p.frac radix)))) false := by
  have hP : 0 < 2 ^ f := Nat.two_pow_pos f
  have hX : iv % 2 ^ intN * 2 ^ f + 2 ^ f ≤ 2 ^ (intN + f) := by
    have := Nat.mul_le_mul_right (2 ^ f) (Nat.mod_lt iv (Nat.two_pow_pos intN))
    rwa [Nat.succ_mul, ← Nat.pow_add] at this
  have hodd : intN ≠ 0 → FromStr.isOdd ((iv % 2 ^ intN * 2 ^ 0 : Nat) : Int) = decide (iv % 2 = 1) := by
    intro hi
    rw [isOdd_cast, Nat.pow_zero, Nat.mul_one, Nat.mod_mod_of_dvd _ (Nat.pow_dvd_pow 2 (Nat.pos_of_ne_zero hi))]
  rw [intSpec_add, show iv * 2 ^ f % 2 ^ (intN + f) = iv % 2 ^ intN * 2 ^ f by rw [Nat.pow_add, Nat.mul_mod_mul_right]] at hi
  unfold FromStr.getIntFrac
  rw [hp]
  simp only [hi, hfr, ok_false_bind]
  generalize FromStr.fracIsHalf p.frac radix = half at hhalf ⊢
  have hM : magnitude iv f E half = iv * 2 ^ f + (E + if f = 0 ∧ half = true ∧ iv % 2 = 1 then 1 else 0) := Nat.add_assoc ..
  obtain ⟨h1, h2⟩ := recombine iv intN f (E + if f = 0 ∧ half = true ∧ iv % 2 = 1 then 1 else 0)
  rw [hM, h1, h2]
  clear hM h1 h2 hi
  generalize decide (2 ^ intN ≤ iv) = o
  by_cases hEl : E < 2 ^ f
  · have hor := orI_cast (n := intN + f) (a := iv % 2 ^ intN) hEl (by omega)
    rw [fracOpt_of_lt hEl]
    simp only [hor, Bool.false_or]
    by_cases hc : f = 0 ∧ half = true ∧ iv % 2 = 1
    · obtain ⟨rfl, rfl, hodd'⟩ := hc
      have hi : intN ≠ 0 := by omega
      rw [hhalf rfl rfl, if_pos (show 0 = 0 ∧ true = true ∧ iv % 2 = 1 from ⟨rfl, rfl, hodd'⟩)]
      simp only [hodd hi, decide_eq_true hodd', beq_self_eq_true, Bool.and_self, if_true,
        show (intN == 0) = false from beq_false_of_ne hi, Bool.false_eq_true, if_false,
        ushl_one (show 0 < intN + 0 by omega), ok_false_bind, pure_eq_ok]
      rw [← Int.natCast_add, ovfI_natCast]
    · have hcond : (FromStr.isOdd ((iv % 2 ^ intN * 2 ^ f : Nat) : Int) && f == 0 && half) = false := by
        by_cases hf0 : f = 0
        · subst hf0
          rw [hodd (by omega)]
          cases half
          · simp
          · have : ¬ iv % 2 = 1 := fun h => hc ⟨rfl, rfl, h⟩
            simp [this]
        · simp [hf0]
      have hlt : iv % 2 ^ intN * 2 ^ f + E < 2 ^ (intN + f) := by omega
      rw [hcond, if_neg Bool.false_ne_true, if_neg hc, Nat.add_zero, Nat.mod_eq_of_lt hlt,
        decide_eq_false (Nat.not_le.2 hlt), Bool.or_false]
      rfl
  · have hEeq : E = 2 ^ f := by omega
    have hnc : ¬ (f = 0 ∧ half = true ∧ iv % 2 = 1) := by
      rintro ⟨rfl, h, _⟩
      have := hhalf h rfl
      omega
    have hor := orI_cast (n := intN + f) (a := iv % 2 ^ intN) (E := 0) hP (by omega)
    rw [Int.natCast_zero, Nat.add_zero] at hor
    rw [fracOpt_of_ge hEl, if_neg hnc, Nat.add_zero, hEeq]
    simp only [hor, Bool.true_or, if_true]
    by_cases hi : intN = 0
    · subst hi
      simp only [beq_self_eq_true, if_true, ok_false_bind, pure_eq_ok, Nat.pow_zero, Nat.mod_one, Nat.zero_mul,
        Nat.zero_add, Nat.mod_self, Nat.le_refl, decide_true]
    · simp only [show (intN == 0) = false from beq_false_of_ne hi, Bool.false_eq_true, if_false,
        ushl_one (show f < intN + f by omega), ok_false_bind, pure_eq_ok]
      rw [← Int.natCast_add, ovfI_natCast]

/-- `$get_int_frac` on a well-formed literal: the sign, the correctly rounded magnitude `M = rne(num·2^f / radix^k)` reduced
modulo `2^n`, and the flag `2^n ≤ M`; no panic and no debug-only check.  `hfrac` is the contract of `$get_frac` on the fraction slice
(ParseTop.lean: `getFrac_nv`, which needs the decimal chain). -/
theorem getIntFrac_spec {radix n f : Nat} (hr : Radix radix)
    (hn : n = 8 ∨ n = 16 ∨ n = 32 ∨ n = 64 ∨ n = 128) (hf : f ≤ n) {bytes : List Nat} {p : FromStr.Parse}
    (hp : FromStr.parseBounds bytes radix = .ok p)
    (hfrac : D radix p.frac = true → p.frac.getLast? ≠ some 48 →
      FromStr.getFrac n p.frac radix f = .ok (fracRes radix f p.frac) false) :
    ∃ num k, literal radix bytes = some (p.neg, num, k) ∧
      FromStr.getIntFrac n bytes radix (n - f) f =
        .ok (.ok (p.neg, ((rneDiv (num * 2 ^ f) (radix ^ k) : Nat) : Int) % 2 ^ n,
          decide ((2 : Int) ^ n ≤ ((rneDiv (num * 2 ^ f) (radix ^ k) : Nat) : Int)))) false := by
  obtain ⟨neg, ip, fp, hs, hDi, hDf, hok⟩ : ∃ neg ip fp, split bytes = some (neg, ip, fp) ∧ D radix ip = true ∧
      D radix fp = true ∧ FromStr.parseBounds bytes radix = .ok ⟨neg, ltrim ip, rtrim fp⟩ := by
    rcases parseBounds_char radix bytes with h | ⟨⟨e, _, he⟩, _⟩
    · exact h
    · rw [he] at hp; cases hp
  rw [hok] at hp
  injection hp with hp
  subst hp
  refine ⟨_, _, by rw [literal_of_split hr hs, hDi, hDf, if_pos (by decide)], ?_⟩
  have hDi' : D radix (ltrim ip) = true := (D_take_drop hDi _).2
  have hDf' : D radix (rtrim fp) = true := (D_take_drop hDf _).1
  have hi := getInt_nv hr hn (Nat.sub_le n f) hDi' (ltrim_head ip)
  have hfr := hfrac hDf' (rtrim_last fp)
  have hfvlt := nv_lt hr _ hDf'
  have hle := keptLen_le fp
  have hM : rneDiv ((nv radix ip * radix ^ fp.length + nv radix fp) * 2 ^ f) (radix ^ fp.length) =
      magnitude (nv radix (ltrim ip)) f
        (rneDiv (nv radix (rtrim fp) * 2 ^ f) (radix ^ (rtrim fp).length)) (FromStr.fracIsHalf (rtrim fp) radix) := by
    have hr0 : 0 < radix := hr.pos
    have hp : radix ^ fp.length = radix ^ (fp.length - keptLen fp) * radix ^ keptLen fp := by
      rw [← Nat.pow_add]; congr 1; omega
    rw [rneDiv_congr _ _ ((nv radix (ltrim ip) * radix ^ (rtrim fp).length + nv radix (rtrim fp)) * 2 ^ f)
        (radix ^ (rtrim fp).length) (Nat.pow_pos hr0) (Nat.pow_pos hr0)
        (by rw [rtrim_length, nv_ltrim, nv_rtrim radix fp, hp]
            generalize radix ^ (fp.length - keptLen fp) = A
            generalize radix ^ keptLen fp = B
            grind),
      rneDiv_int_frac _ _ _ f hfvlt, fracIsHalf_nv hr hDf' (fun _ => rtrim_last fp)]
    unfold magnitude
    simp only [decide_eq_true_eq]
  show FromStr.getIntFrac n bytes radix (n - f) f = Outcome.ok (Except.ok (neg, _, _)) false
  rw [hM, ← natCast_mod_pow, decide_eq_decide.2 (show (2 : Int) ^ n ≤ ((magnitude _ _ _ _ : Nat) : Int) ↔ 2 ^ n ≤ magnitude _ _ _ _ by
    exact_mod_cast Iff.rfl)]
  obtain ⟨intN, rfl⟩ : ∃ intN, n = intN + f := ⟨n - f, by omega⟩
  rw [Nat.add_sub_cancel] at hi ⊢
  refine getIntFrac_parts (p := ⟨neg, ltrim ip, rtrim fp⟩) (by omega) hok _ _ (rneDiv_frac_le _ f hfvlt) hi hfr ?_
  intro hh hf0
  subst hf0
  rw [fracIsHalf_nv hr hDf' (fun _ => rtrim_last fp), decide_eq_true_eq] at hh
  rw [Nat.pow_zero, Nat.mul_one, rneDiv_of_decomp _ _ 0 _ (by omega) hfvlt, if_pos (Or.inr ⟨hh, rfl⟩)]

end Sfx.ParseTopPf

#print axioms Sfx.ParseTopPf.getIntFrac_spec
