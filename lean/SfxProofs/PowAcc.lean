import SfxProofs.PowAccModel
import SfxProofs.PowAccReal
import SfxProofs.PowBandReal
import SfxProofs.ExpAcc
import SfxProofs.LogAcc
/-
  PowAcc.lean — property C15 (pow clause) for `transcendental::pow` (model `Trans.pow`) over Mathlib's reals.  With
  `val f v = (v : ℝ) / 2 ^ f`, `X = val S.f x > 0`, `Y = val S.f y`, `t = Y ln X`, `ulp = 2^-D.f`, for every supported destination `D` (valid,
  signed, `23 ≤ f`, `9 ≤ intBits`) and every supported source `S` with `D: From<S>` (`S = D` included), ONE theorem (`pow_accuracy`):

      8 |Y| ulp ≤ 1  ∧  TailOK D.f (powExponent 2^f |t| |Y|)  ∧  pow(x, y) = Ok(r)
          →   |val r - X^Y| ≤ (2^-18 + |t| / 2^22 + 16 |Y| ulp) · X^Y + 64 ulp

  i.e. not D16 (`8 |Y| ulp ≤ 1`), and the region `ExpAccPf.TailOK` of the exp clause (it contains every operand outside D10) at the largest
  exponent that `pow` can hand to `exp` (`powExponent 2^f |t| |Y| = |t| + (|t| / 2^23 + 5 |Y| ulp + 1 ulp)`).  The second hypothesis holds
  * where that exponent stays within `frac_nbits / 4`: `4 (|t| + 8 |Y| ulp) + 1 ≤ f` (`TailOK.pow_wide`; `C15_pow_wide_gen` — `S = D`, in spite of the name —, with the
    corollaries `4 |t| + 2 ≤ f`, `32 |Y| ≤ 2^f` (`C15.pow_holds_wide`), `|t| + 8 |Y| ulp ≤ 31/8` (`C15_pow_partial_gen`) and `|t| ≤ 7/2`,
    `32 |Y| ≤ 2^f` (`C15.pow_holds_small`));
  * where `Rm (|t| + 1) f ≤ e^(|t| + 1) / 2^24` (`TailOK.pow_band`, margin 1 for the error of the computed exponent; `Rm T f = e^T - Σ_{i<f}
    T^i/i!`; `C15.pow_holds_outside_findings`).  Neither region contains the other for small `f`.

  The idea: an `Ok(r)` for `S = D` is the trace `PowSpec`: one of the exact early returns (`y = 0 → 1`, `y = 1 → x`) or the `exp` trace of
  `z = ⌊l · y / 2^f⌋` with `l` the trace of `ln`; `S ≠ D` goes through widened operands of the same values; `ln` is accurate to `5 ulp`, so
  `Z = val z` has `|Z - t| ≤ |t| / 2^23 + 5 |Y| ulp + 1 ulp < 1`, and `TailOK` is downward closed (`TailOK.mono`), so the exp clause holds at `Z`.
  WHY `8 |Y| ulp ≤ 1`: the absolute part of the error of `ln` is multiplied by `|Y|`; the bound of the property linearises
  `e^s - 1 ≈ s`, which is only valid while `8 |Y| ulp` is of order 1.  Outside, the pow clause is FALSE even where `exp` is exact
  (finding D16, a different mechanism from D10): `D = I41F23` (`FixedI64<U23>`, a supported type), `x = 1 + 2^-23`, `y = -2^26`: `ln x` is
  computed as 0 (`≈ 1 ulp`, truncated), so `pow` returns exactly 1.0 through the `exp(0)` early return, the true value is
  `(1 + 2^-23)^(-2^26) ≤ e^-7 < 0.001`, and the allowed error is `≤ 129.1 · x^y + 2^-17 < 0.13` (`C15.pow_clause_counterexample`).
  At the end, in `PowBandPf`: the band hypothesis said of the partial sum (`C15_pow_band_sum`) and a witness in the band, `I32F32`, `2.0^12.0`
  (`band_witness_*`).
-/
namespace Sfx.PowAccPf
open Sfx.ExpAccPf Sfx.C15 Sfx.C12 Sfx.ConvPf

/-- a returned value of `pow::<D, D>` on a base `x ≠ 0` is the trace -/
theorem pow_trace (D : Layout) (hv : D.valid) (hs : D.signed = true) (hf : 23 ≤ D.f) (hint : 9 ≤ D.intBits)
    (x y : Int) (hx : inRange D x) (hy : inRange D y) (hx0 : x ≠ 0) {r : Int} {it : Nat} {dbg : Bool}
    (h : Trans.run (Trans.pow D D x y) = .ok (some r, it) dbg) : PowSpec D.f x y r :=
  ((pow_spec D hv hs hf hint x y hx hy 0).post h).2 hx0

theorem pow_pairs_run (S D : Layout) (hS : LogPf.Ctx S) (hD : LogPf.Ctx D) (hadm : fromAdmissible S D) (x y : Int)
    (hx : inRange S x) (hy : inRange S y) (hx0 : 0 < x)
    {r : Int} {it : Nat} {dbg : Bool} (he : Trans.run (Trans.pow S D x y) = .ok (some r, it) dbg) :
    ∃ w v : Int, inRange D w ∧ inRange D v ∧ 0 < w ∧ val D.f w = val S.f x ∧ val D.f v = val S.f y ∧
      Trans.run (Trans.pow D D w v) = .ok (some r, it) dbg := by
  obtain ⟨w, v, hw, hv, hwin, hvin, hpos, hrun⟩ := PairsPf.pow_widen_ex S D hS hD hadm x y hx hy
  exact ⟨w, v, hwin, hvin, hpos hx0, by rw [hw]; exact GridReal.cast_widen S.f D.f hadm.1 x,
    by rw [hv]; exact GridReal.cast_widen S.f D.f hadm.1 y, hrun ▸ he⟩

/-- C15 (pow clause) for `pow::<S, D>` outside the known findings D16 (`hA`) and D10 (`hT`) -/
theorem pow_accuracy (S D : Layout) (hS : LogPf.Ctx S) (hD : Supp D) (hadm : fromAdmissible S D) (x y : Int)
    (hx : inRange S x) (hy : inRange S y)
    (hA : 8 * |val S.f y| / (2 : ℝ) ^ D.f ≤ 1)
    (hT : TailOK D.f (powExponent (2 ^ D.f) |val S.f y * Real.log (val S.f x)| |val S.f y|)) :
    ∀ r it dbg, 0 < x → Trans.run (Trans.pow S D x y) = .ok (some r, it) dbg →
      |val D.f r - (val S.f x) ^ (val S.f y)| ≤
        (1 / (2 : ℝ) ^ 18 + |val S.f y * Real.log (val S.f x)| / (2 : ℝ) ^ 22 + 16 * |val S.f y| / (2 : ℝ) ^ D.f) * (val S.f x) ^ (val S.f y)
          + 64 / (2 : ℝ) ^ D.f := by
  intro r it dbg hx0 he
  obtain ⟨w, v, hwin, hvin, hw0, hvalx, hvaly, he'⟩ := pow_pairs_run S D hS hD.ctx hadm x y hx hy hx0 he
  rw [← hvaly] at hA
  rw [← hvalx, ← hvaly] at hT ⊢
  have hf128 := hD.ok.f128
  obtain ⟨hv, hs, hf, hint⟩ := hD
  exact pow_real D.f hf w v r hw0 hA ((le_powExponent (by positivity) (abs_nonneg _) (abs_nonneg _)).trans (hT.lt hf128).le)
    (fun z r hspec hz => exp_real_tail D.f hf z r (hT.mono (abs_nonneg _) hz) hspec)
    (pow_trace D hv hs hf hint w v hwin hvin (Int.ne_of_gt hw0) he')

theorem pow_accuracy_wide (S D : Layout) (hS : Supp S) (hD : Supp D) (hadm : fromAdmissible S D) (x y : Int)
    (hx : inRange S x) (hy : inRange S y)
    (hsmall : 4 * |val S.f y * Real.log (val S.f x)| + 2 ≤ (D.f : ℝ)) (hY : |val S.f y| * 32 ≤ (2 : ℝ) ^ D.f) :
    ∀ r it dbg, 0 < x → Trans.run (Trans.pow S D x y) = .ok (some r, it) dbg →
      |val D.f r - (val S.f x) ^ (val S.f y)| ≤
        (1 / (2 : ℝ) ^ 18 + |val S.f y * Real.log (val S.f x)| / (2 : ℝ) ^ 22 + 16 * |val S.f y| / (2 : ℝ) ^ D.f) * (val S.f x) ^ (val S.f y)
          + 64 / (2 : ℝ) ^ D.f :=
  have h8 : 8 * |val S.f y| / (2 : ℝ) ^ D.f ≤ 1 / 4 := by
    rw [div_le_iff₀ (by positivity)]; linarith only [hY]
  pow_accuracy S D hS.ctx hD hadm x y hx hy (by linarith only [h8])
    (.pow_wide hD.f_ge hD.ok.f128 (abs_nonneg _) (abs_nonneg _) (by linarith only [h8, hsmall]))

/-! ### the pow clause in the words of `Sfx.C15.C15_statement`, `S = D` -/

theorem C15_pow_wide_gen (D : Layout) (h : Supp D) (x y : Int) (hx : inRange D x) (hy : inRange D y)
    (hA : 8 * |val D.f y| / (2 : ℝ) ^ D.f ≤ 1)
    (hW : 4 * (|val D.f y * Real.log (val D.f x)| + 8 * |val D.f y| / (2 : ℝ) ^ D.f) + 1 ≤ (D.f : ℝ)) :
    ∀ r it dbg, 0 < x → Trans.run (Trans.pow D D x y) = .ok (some r, it) dbg →
      |val D.f r - (val D.f x) ^ (val D.f y)| ≤
        (1 / (2 : ℝ) ^ 18 + |val D.f y * Real.log (val D.f x)| / (2 : ℝ) ^ 22 + 16 * |val D.f y| / (2 : ℝ) ^ D.f) * (val D.f x) ^ (val D.f y)
          + 64 / (2 : ℝ) ^ D.f :=
  pow_accuracy D D h.ctx h (ConvPf.fromAdmissible_refl D) x y hx hy hA
    (.pow_wide h.f_ge h.ok.f128 (abs_nonneg _) (abs_nonneg _) hW)

theorem C15_pow_partial_gen (D : Layout) (h : Supp D) (x y : Int) (hx : inRange D x) (hy : inRange D y)
    (hA : 8 * |val D.f y| / (2 : ℝ) ^ D.f ≤ 1)
    (hW : |val D.f y * Real.log (val D.f x)| + 8 * |val D.f y| / (2 : ℝ) ^ D.f ≤ 31 / 8) :
    ∀ r it dbg, 0 < x → Trans.run (Trans.pow D D x y) = .ok (some r, it) dbg →
      |val D.f r - (val D.f x) ^ (val D.f y)| ≤
        (1 / (2 : ℝ) ^ 18 + |val D.f y * Real.log (val D.f x)| / (2 : ℝ) ^ 22 + 16 * |val D.f y| / (2 : ℝ) ^ D.f) * (val D.f x) ^ (val D.f y)
          + 64 / (2 : ℝ) ^ D.f := by
  have hfr : (23 : ℝ) ≤ (D.f : ℝ) := Nat.ofNat_le_cast.2 h.f_ge
  exact C15_pow_wide_gen D h x y hx hy hA (by linarith only [hW, hfr])

/-- for destinations with `intBits + 4 ≤ f` (e.g. `I9F23`, `I16F48`, `I40F88`) the hypothesis on `|y|` holds for every operand -/
theorem hY_auto (D : Layout) (hs : D.signed = true) (hn : D.f ≤ D.n) (hib : D.intBits + 4 ≤ D.f) (y : Int) (hy : inRange D y) :
    |(y : ℝ) / 2 ^ D.f| * 32 ≤ 2 ^ D.f := by
  have hG : (0 : ℝ) < 2 ^ D.f := by positivity
  unfold Layout.intBits at hib
  unfold inRange at hy
  rw [hs] at hy
  obtain ⟨h1, h2⟩ := (inS_iff _ _).1 hy
  have hyr : |(y : ℝ)| ≤ 2 ^ (D.n - 1) := by
    rw [abs_le]
    have a : ((-(2 : Int) ^ (D.n - 1) : Int) : ℝ) ≤ (y : ℝ) := by exact_mod_cast h1
    have b : (y : ℝ) < (((2 : Int) ^ (D.n - 1) : Int) : ℝ) := by exact_mod_cast h2
    push_cast at a b
    exact ⟨a, b.le⟩
  rw [abs_div, abs_of_pos hG, div_mul_eq_mul_div, div_le_iff₀ hG, ← pow_add]
  calc |(y : ℝ)| * 32 ≤ 2 ^ (D.n - 1) * 2 ^ 5 := mul_le_mul hyr (by norm_num) (by norm_num) (by positivity)
    _ = 2 ^ (D.n - 1 + 5) := (pow_add _ _ _).symm
    _ ≤ 2 ^ (D.f + D.f) := pow_le_pow_right₀ (by norm_num) (by omega)

end Sfx.PowAccPf

namespace Sfx.PairsPf
open Sfx.C15 Sfx.C12 Sfx.ConvPf

/-- `7/2`: `4 · 7/2 + 2 ≤ 23 ≤ D.f` -/
theorem C15_pow_small_pairs (S D : Layout) (hS : Supp S) (hD : Supp D) (hadm : fromAdmissible S D) (x y : Int)
    (hx : inRange S x) (hy : inRange S y)
    (hsmall : |val S.f y * Real.log (val S.f x)| ≤ 7 / 2) (hY : |val S.f y| * 32 ≤ (2 : ℝ) ^ D.f) :
    ∀ r it dbg, 0 < x → Trans.run (Trans.pow S D x y) = .ok (some r, it) dbg →
      |val D.f r - (val S.f x) ^ (val S.f y)| ≤
        (1 / (2 : ℝ) ^ 18 + |val S.f y * Real.log (val S.f x)| / (2 : ℝ) ^ 22 + 16 * |val S.f y| / (2 : ℝ) ^ D.f) * (val S.f x) ^ (val S.f y)
          + 64 / (2 : ℝ) ^ D.f := by
  have hfr : (23 : ℝ) ≤ (D.f : ℝ) := Nat.ofNat_le_cast.2 hD.f_ge
  exact PowAccPf.pow_accuracy_wide S D hS hD hadm x y hx hy (by linarith only [hsmall, hfr]) hY

end Sfx.PairsPf

namespace Sfx.PowBandPf
open Sfx.ExpAccPf Sfx.C15 Sfx.C12

/-- the tail hypothesis in the form "the exact partial sum of the `f` terms at `T = |val y · ln (val x)| + 1` reaches `(1 - 2^-24) e^T`" -/
theorem C15_pow_band_sum (D : Layout) (h : Supp D) (x y : Int) (hx : inRange D x) (hy : inRange D y)
    (hA : 8 * |val D.f y| / (2 : ℝ) ^ D.f ≤ 1)
    (hsum : Real.exp (|val D.f y * Real.log (val D.f x)| + 1) * (1 - 1 / 2 ^ 24) ≤
      Sfx.ExpAccPf.Sm (|val D.f y * Real.log (val D.f x)| + 1) D.f) :
    ∀ r it dbg, 0 < x → Trans.run (Trans.pow D D x y) = .ok (some r, it) dbg →
      |val D.f r - (val D.f x) ^ (val D.f y)| ≤
        (1 / (2 : ℝ) ^ 18 + |val D.f y * Real.log (val D.f x)| / (2 : ℝ) ^ 22 + 16 * |val D.f y| / (2 : ℝ) ^ D.f) * (val D.f x) ^ (val D.f y)
          + 64 / (2 : ℝ) ^ D.f := by
  exact PowAccPf.pow_accuracy D D h.ctx h (ConvPf.fromAdmissible_refl D) x y hx hy hA
    (.pow_band h.f_ge h.ok.f128 (abs_nonneg _) (abs_nonneg _) hA
      (.of_24 ((tail_hyp_iff _ _).2 hsum)))

/-! non-vacuity: `I32F32`, `x = 2.0`, `y = 12.0` (`y ∉ {0, 1}`): `|y ln x| ≈ 8.32`, so `4 |y ln x| + 2 > 32` and `TailOK.pow_wide` does
not apply; every hypothesis holds; the model returns `Ok` there (`pow_2_12_run`, `C15Witness.lean`) -/

theorem witness_val_x : ((8589934592 : Int) : ℝ) / 2 ^ (⟨true, 64, 32⟩ : Layout).f = 2 := by
  show ((8589934592 : Int) : ℝ) / 2 ^ 32 = 2
  push_cast
  norm_num

theorem witness_val_y : ((51539607552 : Int) : ℝ) / 2 ^ (⟨true, 64, 32⟩ : Layout).f = 12 := by
  show ((51539607552 : Int) : ℝ) / 2 ^ 32 = 12
  push_cast
  norm_num

theorem band_witness_hA :
    8 * |((51539607552 : Int) : ℝ) / 2 ^ (⟨true, 64, 32⟩ : Layout).f| / 2 ^ (⟨true, 64, 32⟩ : Layout).f ≤ 1 := by
  rw [witness_val_y]
  show 8 * |(12 : ℝ)| / 2 ^ 32 ≤ 1
  norm_num

theorem band_witness_tail :
    Sfx.ExpAccPf.Rm (|((51539607552 : Int) : ℝ) / 2 ^ (⟨true, 64, 32⟩ : Layout).f *
        Real.log (((8589934592 : Int) : ℝ) / 2 ^ (⟨true, 64, 32⟩ : Layout).f)| + 1) (⟨true, 64, 32⟩ : Layout).f ≤
      Real.exp (|((51539607552 : Int) : ℝ) / 2 ^ (⟨true, 64, 32⟩ : Layout).f *
        Real.log (((8589934592 : Int) : ℝ) / 2 ^ (⟨true, 64, 32⟩ : Layout).f)| + 1) / 2 ^ 24 := by
  rw [witness_val_x, witness_val_y]
  exact tail_witness12

/-- the witness violates the region hypothesis of `pow_accuracy_wide` -/
theorem band_witness_outside :
    ¬ (4 * |((51539607552 : Int) : ℝ) / 2 ^ (⟨true, 64, 32⟩ : Layout).f *
        Real.log (((8589934592 : Int) : ℝ) / 2 ^ (⟨true, 64, 32⟩ : Layout).f)| + 2 ≤ (((⟨true, 64, 32⟩ : Layout).f : ℕ) : ℝ)) := by
  rw [witness_val_x, witness_val_y, not_le]
  show ((32 : ℕ) : ℝ) < _
  push_cast
  exact witness12_outside

/-- the instance at the value the model returns: `|4096.00045 - 2^12| ≤ …` -/
theorem band_witness_result :
    |((17592187964048 : Int) : ℝ) / 2 ^ 32 - (((8589934592 : Int) : ℝ) / 2 ^ 32) ^ (((51539607552 : Int) : ℝ) / 2 ^ 32)| ≤
      (1 / 2 ^ 18 + |((51539607552 : Int) : ℝ) / 2 ^ 32 * Real.log (((8589934592 : Int) : ℝ) / 2 ^ 32)| / 2 ^ 22 +
        16 * |((51539607552 : Int) : ℝ) / 2 ^ 32| / 2 ^ 32) *
          (((8589934592 : Int) : ℝ) / 2 ^ 32) ^ (((51539607552 : Int) : ℝ) / 2 ^ 32) + 64 / 2 ^ 32 :=
  PowAccPf.pow_accuracy ⟨true, 64, 32⟩ _ ⟨by decide, rfl, by decide⟩ ⟨by decide, rfl, by decide, by decide⟩
    (ConvPf.fromAdmissible_refl _) 8589934592 51539607552 (by decide) (by decide) band_witness_hA
    (.pow_band (by decide) (by decide) (abs_nonneg _) (abs_nonneg _) band_witness_hA (.of_24 band_witness_tail)) _ 31 false (by decide)
    pow_2_12_run

end Sfx.PowBandPf

#print axioms Sfx.PowAccPf.hY_auto
#print axioms Sfx.PowAccPf.C15_pow_partial_gen
#print axioms Sfx.PowAccPf.C15_pow_wide_gen
#print axioms Sfx.PowAccPf.pow_accuracy
#print axioms Sfx.PowAccPf.pow_accuracy_wide
#print axioms Sfx.PairsPf.C15_pow_small_pairs
#print axioms Sfx.PowBandPf.band_witness_result
#print axioms Sfx.PowBandPf.band_witness_outside
#print axioms Sfx.PowBandPf.C15_pow_band_sum
