import SfxProofs.Log
/-
  PowAccModel.lean — `pow::<D, D>` never panics and fires no debug-only check, and every `Ok` result on a base `x ≠ 0` is the integer
  trace `PowSpec` (`ExpAccDefs.lean`): one of the two exact early returns, or the trace of `exp` applied to `z = ⌊ln(x) · y / 2^f⌋` with
  `ln(x)` the trace of `ln`.  One walk of the `do` block in the `Tot` calculus, on the specifications of `ln` (`LogPf.ln_spec`) and `exp`
  (`ExpPf.exp_spec`).  `Monoid.toNPow` is erased so that `2 ^ k` is core's `Int.pow`, as in `Exp.lean`.
-/
attribute [-instance] Monoid.toNPow

namespace Sfx.PowAccPf
open Sfx.Trans Sfx.SqrtPf Sfx.ExpPf Sfx.ExpAccPf Sfx.LogPf Sfx.LogAccPf

theorem pow_spec (D : Layout) (hv : D.valid) (hs : D.signed = true) (hf : 23 ≤ D.f) (hint : 9 ≤ D.intBits)
    (x y : Int) (hx : inRange D x) (hy : inRange D y) :
    Tot (Trans.pow D D x y) (fun r => inRange D r ∧ (x ≠ 0 → PowSpec D.f x y r)) := by
  have hc := facts D hv hs hf hint
  unfold PowSpec
  rw [pow2_eq]
  refine .liftO_bind hc.zero <| .ite (fun hx0 => Tot.liftO hc.zero ⟨inI_zero D.signed D.n, fun h => absurd hx0 h⟩) fun hx0 =>
    .liftO_bind hc.zero <| .ite (fun hy0 => Tot.liftO hc.one ⟨hc.oneR, fun _ => Or.inl ⟨hy0, rfl⟩⟩) fun hy0 =>
    .liftO_bind hc.one <| .ite (fun hy1 => Tot.liftO (fromS_same D x) ⟨hx, fun _ => Or.inr (Or.inl ⟨hy1, rfl⟩)⟩) fun hy1 =>
    (ln_spec D hv hs hf hint x hx).bind fun l hl => .liftO_bind (fromS_same D y) <|
    (Tot.liftOpt_chk D _ (checkedMul_eq D hv l y hl.1 hy)).bind fun z hz => ?_
  obtain ⟨rfl, hE⟩ := hz
  refine (exp_spec D hv hs hf hint _ hE).bind fun v hv' => ?_
  show Tot (match Layout.overflowingFromFixed D D v with
    | (result, oflw) => if oflw then (err : TR Int) else pure result) _
  rw [ConvPf.ovf_self D hv v hv'.1]
  exact Tot.pure ⟨hv'.1, fun _ => Or.inr (Or.inr ⟨l, hl.2, hv'.2⟩)⟩

end Sfx.PowAccPf
