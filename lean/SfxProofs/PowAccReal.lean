import SfxProofs.ExpAccReal
import SfxProofs.LogAccReal
import Mathlib.Analysis.SpecialFunctions.Pow.Real
/-
  PowAccReal.lean — real analysis of the integer trace `PowSpec` of `pow = exp(⌊ln(x) · y⌋)` (`ExpAccDefs.lean`; no model definitions
  are involved here): propagation of the error of `ln` (5 ulp, `LogAccPf.ln_real`) and of the truncated product through `exp`.  With `t = Y ln X`, `L ≈ ln X`, `Z = ⌊L Y⌋` the exponent handed to `exp`:
    * `|Z - t| ≤ |t| / 2^23 + 5 |Y| ulp + 1 ulp`; the resulting bound of `|Z|` is what the caller gets to supply the exp clause at `Z`;
    * `e^Z = X^Y · e^(Z - t)`, and `e^s / 2^20 + |e^s - 1| ≤ 2^-18 + 2A` for `|s| ≤ A + 1 ulp ≤ 17/16` (`e^s ≤ 1 + s + s²/2 + s³/3`), with
      `A = |t| / 2^23 + 8 |Y| ulp`: exactly the bound of the property.
-/
namespace Sfx.PowAccPf
open Sfx.ExpAccPf Sfx.LogAccPf Sfx.GridReal

theorem exp_cubic {s : ℝ} (h0 : 0 ≤ s) (h2 : s ≤ 2) : Real.exp s ≤ 1 + s + s ^ 2 / 2 + s ^ 3 / 3 := by
  have h := exp_le_Sm_add h0 3 (by norm_num; linarith only [h2])
  have e1 : Sm s 3 = 1 + s + s ^ 2 / 2 := by
    simp [Sm, Finset.sum_range_succ, Nat.factorial]
  have e2 : Tm s 3 = s ^ 3 / 6 := by
    simp [Tm, Nat.factorial]
  rw [e1, e2] at h
  linarith only [h, pow_nonneg h0 3]

theorem exp_pert (t A u : ℝ) (hu : u ≤ 1 / 2 ^ 23) (hs : A + u ≤ 17 / 16) (ht : |t| ≤ A + u) :
    Real.exp t / 2 ^ 20 + |Real.exp t - 1| ≤ 1 / 2 ^ 18 + 2 * A := by
  obtain ⟨t1, t2⟩ := abs_le.1 ht
  have hs0 : 0 ≤ A + u := (abs_nonneg t).trans ht
  by_cases h0 : 0 ≤ t
  · have h1 : Real.exp t ≤ Real.exp (A + u) := Real.exp_le_exp.2 t2
    have h2 := exp_cubic hs0 (hs.trans (by norm_num))
    have h3 : (A + u) ^ 2 ≤ 17 / 16 * (A + u) := by rw [sq]; exact mul_le_mul_of_nonneg_right hs hs0
    have h4 : (A + u) ^ 3 ≤ 17 / 16 * (A + u) ^ 2 := by
      rw [pow_succ, mul_comm (17 / 16 : ℝ)]; exact mul_le_mul_of_nonneg_left hs (sq_nonneg _)
    rw [abs_of_nonneg (sub_nonneg.2 (Real.one_le_exp h0))]
    linarith only [h1, h2, h3, h4, hu, hs0]
  · have h1 : Real.exp t ≤ 1 := Real.exp_le_one_iff.2 (not_le.1 h0).le
    have h2 : t + 1 ≤ Real.exp t := Real.add_one_le_exp t
    rw [abs_of_nonpos (sub_nonpos.2 h1)]
    linarith only [h1, h2, t1, hu, hs0]

/-- `P·e^t` is the exact exponential of the computed exponent, `R` its computed value -/
theorem pow_core (u A t P R : ℝ) (hu : u ≤ 1 / 2 ^ 23) (hs : A + u ≤ 17 / 16) (ht : |t| ≤ A + u)
    (hP : 0 < P) (hR : |R - P * Real.exp t| ≤ P * Real.exp t / 2 ^ 20 + 64 * u) :
    |R - P| ≤ (1 / 2 ^ 18 + 2 * A) * P + 64 * u := by
  have hp := exp_pert t A u hu hs ht
  have h1 : |R - P| ≤ |R - P * Real.exp t| + |P * Real.exp t - P| := by
    have := abs_add_le (R - P * Real.exp t) (P * Real.exp t - P)
    rwa [show R - P * Real.exp t + (P * Real.exp t - P) = R - P by ring] at this
  have h2 : |P * Real.exp t - P| = P * |Real.exp t - 1| := by
    rw [show P * Real.exp t - P = P * (Real.exp t - 1) by ring, abs_mul, abs_of_pos hP]
  have h3 : P * (Real.exp t / 2 ^ 20 + |Real.exp t - 1|) ≤ P * (1 / 2 ^ 18 + 2 * A) := mul_le_mul_of_nonneg_left hp hP.le
  rw [h2] at h1
  linarith only [h1, h3, hR]

/-- how large the exponent that `pow` hands to `exp` can be, `G = 2^f`, `w = |Y ln X|`, `Y = |Y|`: the computed `ln X` is off by
`|ln X| / 2^23 + 5 ulp` (times `Y`), and the product is truncated (`1 ulp`) -/
noncomputable def powExponent (G w Y : ℝ) : ℝ := w + (w / 2 ^ 23 + 5 * Y / G + 1 / G)

theorem le_powExponent {G w Y : ℝ} (hG : 0 < G) (hw : 0 ≤ w) (hY : 0 ≤ Y) : w ≤ powExponent G w Y :=
  le_add_of_nonneg_right (by positivity)

/-- purely real form, `G = 2^f`: `L ≈ ln X` (to 5 ulp), `LY - 1 ulp < Z ≤ LY` (truncated product), `R ≈ e^Z` (exp clause, which the
caller supplies from what is known of `Z`); `|Y ln X| ≤ 2^16` keeps `|Y ln X| / 2^23` small -/
theorem pow_prop (G X Y L Z R : ℝ) (hG : 2 ^ 23 ≤ G) (hX : 0 < X)
    (hln : |L - Real.log X| ≤ |Real.log X| / 2 ^ 23 + 5 / G)
    (hZ1 : Z ≤ L * Y) (hZ2 : L * Y < Z + 1 / G)
    (hA : 8 * |Y| / G ≤ 1) (hW : |Y * Real.log X| ≤ 2 ^ 16)
    (hexp : |Z| ≤ powExponent G |Y * Real.log X| |Y| →
      |R - Real.exp Z| ≤ Real.exp Z / 2 ^ 20 + 64 / G) :
    |R - X ^ Y| ≤ (1 / 2 ^ 18 + |Y * Real.log X| / 2 ^ 22 + 16 * |Y| / G) * X ^ Y + 64 / G := by
  have hG0 : 0 < G := lt_of_lt_of_le (by positivity) hG
  have hu0 : 0 < 1 / G := one_div_pos.2 hG0
  have hu : 1 / G ≤ 1 / 2 ^ 23 := one_div_le_one_div_of_le (by positivity) hG
  have e : ∀ a : ℝ, a / G = a * (1 / G) := fun a => div_eq_mul_one_div a G
  rw [e 5] at hln
  rw [e (8 * |Y|)] at hA
  unfold powExponent at hexp
  rw [e (5 * |Y|), e 64] at hexp
  rw [e (16 * |Y|), e 64, Real.rpow_def_of_pos hX, mul_comm (Real.log X) Y]
  generalize 1 / G = u at *
  generalize Real.log X = Lx at *
  have hY0 : 0 ≤ |Y| := abs_nonneg Y
  have hW0 : 0 ≤ |Y * Lx| := abs_nonneg _
  have hd : |L * Y - Y * Lx| ≤ |Y * Lx| / 2 ^ 23 + 5 * |Y| * u := by
    rw [show L * Y - Y * Lx = Y * (L - Lx) by ring, abs_mul, abs_mul]
    calc |Y| * |L - Lx| ≤ |Y| * (|Lx| / 2 ^ 23 + 5 * u) := mul_le_mul_of_nonneg_left hln hY0
      _ = |Y| * |Lx| / 2 ^ 23 + 5 * |Y| * u := by ring
  obtain ⟨d1, d2⟩ := abs_le.1 hd
  have hZt := abs_sub_abs_le_abs_sub Z (Y * Lx)
  generalize |Y * Lx| = w at *
  generalize |Y| = ya at *
  have hyu : 0 ≤ ya * u := mul_nonneg hY0 hu0.le
  have ht5 : |Z - Y * Lx| ≤ w / 2 ^ 23 + 5 * ya * u + u :=
    abs_le.2 ⟨by linarith only [d1, hZ2], by linarith only [d2, hZ1, hu0]⟩
  have ht : |Z - Y * Lx| ≤ (w / 2 ^ 23 + 8 * ya * u) + u := ht5.trans (by linarith only [hyu])
  have hs : (w / 2 ^ 23 + 8 * ya * u) + u ≤ 17 / 16 := by
    linarith only [hu, hW, hA]
  have hR := hexp (by linarith only [ht5, hZt])
  rw [show Real.exp Z = Real.exp (Y * Lx) * Real.exp (Z - Y * Lx) by rw [← Real.exp_add]; congr 1; ring] at hR
  have := pow_core u (w / 2 ^ 23 + 8 * ya * u) (Z - Y * Lx) (Real.exp (Y * Lx)) R hu hs ht
    (Real.exp_pos _) hR
  calc |R - Real.exp (Y * Lx)| ≤ (1 / 2 ^ 18 + 2 * (w / 2 ^ 23 + 8 * ya * u)) * Real.exp (Y * Lx) + 64 * u := this
    _ = (1 / 2 ^ 18 + w / 2 ^ 22 + 16 * ya * u) * Real.exp (Y * Lx) + 64 * u := by ring

/-- the pow clause of C15 for bit patterns: base `x`, exponent `y`, result `r`, `f` fractional bits -/
def PowClause (f : ℕ) (x y r : Int) : Prop :=
  |(r : ℝ) / 2 ^ f - ((x : ℝ) / 2 ^ f) ^ ((y : ℝ) / 2 ^ f)| ≤
      (1 / 2 ^ 18 + |(y : ℝ) / 2 ^ f * Real.log ((x : ℝ) / 2 ^ f)| / 2 ^ 22 + 16 * |(y : ℝ) / 2 ^ f| / 2 ^ f) *
        ((x : ℝ) / 2 ^ f) ^ ((y : ℝ) / 2 ^ f) + 64 / 2 ^ f

theorem pow_real (f : ℕ) (hf : 23 ≤ f) (x y r : Int) (hx0 : 0 < x)
    (hA : 8 * |(y : ℝ) / 2 ^ f| / 2 ^ f ≤ 1)
    (hW : |(y : ℝ) / 2 ^ f * Real.log ((x : ℝ) / 2 ^ f)| ≤ 2 ^ 16)
    (hexp : ∀ z r : Int, ExpSpec f z r →
      |(z : ℝ) / 2 ^ f| ≤ powExponent (2 ^ f) |(y : ℝ) / 2 ^ f * Real.log ((x : ℝ) / 2 ^ f)| |(y : ℝ) / 2 ^ f| → ExpClause f z r)
    (h : PowSpec f x y r) : PowClause f x y r := by
  have hG : (0 : ℝ) < 2 ^ f := by positivity
  have hX : 0 < (x : ℝ) / 2 ^ f := div_pos (Int.cast_pos.2 hx0) hG
  rcases h with ⟨hy0, hr⟩ | ⟨hy1, hr⟩ | ⟨l, hl, hspec⟩
  · unfold PowClause
    rw [hr, hy0, pow2_cast, Int.cast_zero, zero_div, Real.rpow_zero, div_self hG.ne', sub_self, abs_zero]
    positivity
  · unfold PowClause
    rw [hr, hy1, pow2_cast, div_self hG.ne', Real.rpow_one, sub_self, abs_zero]
    positivity
  · obtain ⟨g1, g2⟩ := floor_val hG (l * y) (pow2 f) (pow2_pos f)
    rw [pow2_cast, Int.cast_mul, div_div, ← div_mul_div_comm] at g1 g2
    exact pow_prop (2 ^ f) _ _ _ _ _ (pow_le_pow_right₀ (by norm_num) hf) hX (ln_real f hf x l hl).2 g2
      (sub_lt_iff_lt_add.1 g1) hA hW (hexp _ r hspec)

end Sfx.PowAccPf
