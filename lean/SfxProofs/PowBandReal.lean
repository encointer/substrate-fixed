import SfxProofs.ExpAccWideReal
import SfxProofs.PowAccReal
import Mathlib.Analysis.Calculus.Deriv.MeanValue
import Mathlib.Analysis.Calculus.Deriv.Pow
import Mathlib.Analysis.SpecialFunctions.ExpDeriv
/-
  PowBandReal.lean — real analysis for the pow clause of C15 outside the known findings D10 and D16 (no model definitions here).
    * `tail_mono_c`: `T ↦ Sm T n e^-T` is antitone on `T ≥ 0` (derivative `-T^(n-1) e^-T / (n-1)!`), so a hypothesis
      "omitted tail `Rm T n ≤ c e^T`" is inherited by every `0 ≤ S ≤ T`;
    * `TailOK.lt`: such a hypothesis with `c < 1/2` forces `T < 2 n (n + 1)` (`Sm T n ≤ n T^n/n! ≤ n (n+1)/T · e^T`), `< 2^16` for `n ≤ 128`;
    * `TailOK.pow_wide`, `TailOK.pow_band`: the two ways in which the exponent that `pow` hands to `exp` is known to lie outside D10.
-/
namespace Sfx.PowBandPf
open Finset Sfx.ExpAccPf

theorem Sm_zero (X : ℝ) : Sm X 0 = 0 := by simp [Sm]

theorem Tm_hasDerivAt (n : ℕ) (x : ℝ) : HasDerivAt (fun X => Tm X (n + 1)) (Tm x n) x := by
  unfold Tm
  have h := (hasDerivAt_pow (n + 1) x).div_const (((n + 1).factorial : ℕ) : ℝ)
  have e : ((n + 1 : ℕ) : ℝ) * x ^ (n + 1 - 1) / (((n + 1).factorial : ℕ) : ℝ) = x ^ n / (n.factorial : ℝ) := by
    rw [Nat.factorial_succ, Nat.add_sub_cancel]
    have h1 : ((n : ℝ) + 1) ≠ 0 := by positivity
    have h2 : (n.factorial : ℝ) ≠ 0 := by positivity
    push_cast
    field_simp
  rw [e] at h
  exact h

theorem Sm_hasDerivAt (n : ℕ) (x : ℝ) : HasDerivAt (fun X => Sm X (n + 1)) (Sm x n) x := by
  induction n with
  | zero =>
    have e : (fun X : ℝ => Sm X (0 + 1)) = fun _ => (1 : ℝ) := by
      funext X; simp [Sm]
    rw [e, Sm_zero]
    exact hasDerivAt_const x 1
  | succ n ih =>
    have e : (fun X : ℝ => Sm X (n + 1 + 1)) = fun X => Sm X (n + 1) + Tm X (n + 1) := by
      funext X; rw [Sm_succ]
    rw [e, Sm_succ]
    exact ih.add (Tm_hasDerivAt n x)

theorem ratio_hasDerivAt (n : ℕ) (x : ℝ) :
    HasDerivAt (fun X => Sm X (n + 1) * Real.exp (-X)) (-(Tm x n * Real.exp (-x))) x := by
  have h1 := Sm_hasDerivAt n x
  have h2 : HasDerivAt (fun X : ℝ => Real.exp (-X)) (Real.exp (-x) * (-1)) x := (hasDerivAt_neg x).exp
  have h := h1.mul h2
  have e : Sm x n * Real.exp (-x) + Sm x (n + 1) * (Real.exp (-x) * (-1)) = -(Tm x n * Real.exp (-x)) := by
    rw [Sm_succ]; ring
  rw [e] at h
  exact h

theorem ratio_antitone (n : ℕ) : AntitoneOn (fun X => Sm X n * Real.exp (-X)) (Set.Ici 0) := by
  cases n with
  | zero =>
    intro a _ b _ _
    simp [Sm_zero]
  | succ n =>
    apply antitoneOn_of_deriv_nonpos (convex_Ici 0)
    · exact fun x _ => (ratio_hasDerivAt n x).continuousAt.continuousWithinAt
    · exact fun x _ => (ratio_hasDerivAt n x).differentiableAt.differentiableWithinAt
    · intro x hx
      rw [interior_Ici] at hx
      rw [(ratio_hasDerivAt n x).deriv]
      have : 0 ≤ Tm x n * Real.exp (-x) := mul_nonneg (Tm_nonneg (le_of_lt hx) n) (Real.exp_pos _).le
      linarith only [this]

theorem tail_mono_c (n : ℕ) {c S T : ℝ} (hS : 0 ≤ S) (hST : S ≤ T) (h : Rm T n ≤ c * Real.exp T) : Rm S n ≤ c * Real.exp S := by
  have ha : Sm T n * Real.exp (-T) ≤ Sm S n * Real.exp (-S) := ratio_antitone n hS (hS.trans hST) hST
  have eT : Real.exp T * Real.exp (-T) = 1 := by rw [← Real.exp_add, add_neg_cancel, Real.exp_zero]
  have eS : Real.exp (-S) * Real.exp S = 1 := by rw [← Real.exp_add, neg_add_cancel, Real.exp_zero]
  unfold Rm at *
  -- `1 - c ≤ Sm T n e^-T ≤ Sm S n e^-S`
  have h1 := mul_le_mul_of_nonneg_right h (Real.exp_pos (-T)).le
  rw [sub_mul, eT, mul_assoc, eT, mul_one] at h1
  have h3 := mul_le_mul_of_nonneg_right (show 1 - c ≤ Sm S n * Real.exp (-S) by linarith only [h1, ha]) (Real.exp_pos S).le
  rw [mul_assoc (Sm S n), eS, mul_one] at h3
  linarith only [h3]

theorem tail_mono (n : ℕ) {S T : ℝ} (hS : 0 ≤ S) (hST : S ≤ T) (h : Rm T n ≤ Real.exp T / 2 ^ 24) :
    Rm S n ≤ Real.exp S / 2 ^ 24 := by
  rw [div_eq_inv_mul] at *
  exact tail_mono_c n hS hST h

theorem Tm_le_of_le {T : ℝ} (hT : 0 ≤ T) : ∀ (k i : ℕ), ((i + k : ℕ) : ℝ) ≤ T → Tm T i ≤ Tm T (i + k)
  | 0, i, _ => le_refl _
  | k + 1, i, h => by
    push_cast at h
    have h1 : Tm T i ≤ Tm T (i + k) := Tm_le_of_le hT k i (by push_cast; linarith only [h])
    have h2 : Tm T (i + k) ≤ Tm T (i + k + 1) := by
      rw [Tm_succ]
      have h0 := Tm_nonneg hT (i + k)
      have hq : 1 ≤ T / (((i + k : ℕ) : ℝ) + 1) := by
        rw [le_div_iff₀ (by positivity)]
        push_cast
        linarith only [h]
      exact le_mul_of_one_le_right h0 hq
    exact le_trans h1 h2

theorem Tm_le_exp {T : ℝ} (hT : 0 ≤ T) (n : ℕ) : Tm T n ≤ Real.exp T := by
  have h1 := Sm_le_exp hT (n + 1)
  rw [Sm_succ] at h1
  have := Sm_nonneg hT n
  linarith only [h1, this]

theorem Sm_le_half (n : ℕ) {T : ℝ} (hT : 2 * (n : ℝ) * ((n : ℝ) + 1) ≤ T) (hT1 : (n : ℝ) ≤ T) :
    Sm T n ≤ Real.exp T / 2 := by
  have hn0 : (0 : ℝ) ≤ (n : ℝ) := by positivity
  have hT0 : 0 ≤ T := le_trans hn0 hT1
  have h1 : Sm T n ≤ (n : ℝ) * Tm T n := by
    refine sum_le_const _ n _ fun i hi => ?_
    have := Tm_le_of_le hT0 (n - i) i (by rw [Nat.add_sub_cancel' hi.le]; exact hT1)
    rwa [Nat.add_sub_cancel' hi.le] at this
  have h2 := Tm_le_exp hT0 (n + 1)
  rw [Tm_succ] at h2
  have h0 := Tm_nonneg hT0 n
  have hpos : (0 : ℝ) < (n : ℝ) + 1 := by positivity
  -- n Tm ≤ Tm T/(2(n+1)) ≤ e^T / 2
  have h3 : (n : ℝ) * Tm T n ≤ Tm T n * (T / ((n : ℝ) + 1)) / 2 := by
    have : (n : ℝ) ≤ T / ((n : ℝ) + 1) / 2 := by
      rw [le_div_iff₀ (by norm_num), le_div_iff₀ hpos]
      linarith only [hT]
    linarith only [mul_le_mul_of_nonneg_left this h0]
  linarith only [h1, h2, h3]

end Sfx.PowBandPf

namespace Sfx.ExpAccPf
open Sfx.PowBandPf Sfx.PowAccPf

theorem TailOK.mono {f : ℕ} {S T : ℝ} (hS : 0 ≤ S) (hST : S ≤ T) (h : TailOK f T) : TailOK f S := by
  unfold TailOK at *
  rw [div_eq_inv_mul] at *
  exact tail_mono_c f hS hST h

theorem TailOK.lt {f : ℕ} (hf : f ≤ 128) {T : ℝ} (h : TailOK f T) : T < 2 ^ 16 := by
  have hn' : (f : ℝ) ≤ 128 := by exact_mod_cast hf
  have hn0 : (0 : ℝ) ≤ (f : ℝ) := by positivity
  by_contra hcon
  rw [not_lt] at hcon
  have h2 : (f : ℝ) * ((f : ℝ) + 1) ≤ 128 * 129 := mul_le_mul hn' (by linarith only [hn']) (by linarith only [hn0]) (by norm_num)
  have := Sm_le_half f (T := T) (by linarith only [h2, hcon]) (by linarith only [hn', hcon])
  unfold TailOK Rm at h
  linarith only [h, this, Real.exp_pos T]

/-- `pow`: the margin `1/4` in `4 (w + 8 Y ulp) + 1 ≤ f` covers `w / 2^23 + 1 ulp` for `f ≤ 128` -/
theorem TailOK.pow_wide {f : ℕ} (hf : 23 ≤ f) (hf' : f ≤ 128) {w Y : ℝ} (hw : 0 ≤ w) (hY : 0 ≤ Y)
    (hW : 4 * (w + 8 * Y / 2 ^ f) + 1 ≤ (f : ℝ)) : TailOK f (powExponent (2 ^ f) w Y) := by
  have hu : (1 : ℝ) / 2 ^ f ≤ 1 / 2 ^ 23 := one_div_le_one_div_of_le (by positivity) (pow_le_pow_right₀ (by norm_num) hf)
  have hn : (f : ℝ) ≤ 128 := by exact_mod_cast hf'
  have hya : 0 ≤ Y / 2 ^ f := by positivity
  unfold powExponent
  rw [mul_div_assoc] at hW ⊢
  exact .of_wide hf (by positivity) (by linarith only [hW, hn, hu, hya])

/-- `pow`: the tail predicate one unit beyond `w` contains `powExponent` as long as `8 Y ulp ≤ 1` (`w < 2^16` by `TailOK.lt`) -/
theorem TailOK.pow_band {f : ℕ} (hf : 23 ≤ f) (hf' : f ≤ 128) {w Y : ℝ} (hw : 0 ≤ w) (hY : 0 ≤ Y) (hA : 8 * Y / 2 ^ f ≤ 1)
    (h : TailOK f (w + 1)) : TailOK f (powExponent (2 ^ f) w Y) := by
  have hu : (1 : ℝ) / 2 ^ f ≤ 1 / 2 ^ 23 := one_div_le_one_div_of_le (by positivity) (pow_le_pow_right₀ (by norm_num) hf)
  have hW := h.lt hf'
  have hya : 0 ≤ Y / 2 ^ f := by positivity
  unfold powExponent
  refine h.mono (by positivity) ?_
  rw [mul_div_assoc] at hA ⊢
  linarith only [hW, hu, hA]

end Sfx.ExpAccPf

namespace Sfx.PowBandPf
open Sfx.ExpAccPf

/-! ### non-vacuity: `X = 2`, `Y = 12`, `f = 32`: `|Y ln X| ≈ 8.32`, `4 · 8.32 + 2 > 32`; tail at `9.32`: `≤ 2 · 9.32^32 / 32! ≈ 8e-5` -/

theorem tail_witness12 : Rm (|(12 : ℝ) * Real.log 2| + 1) 32 ≤ Real.exp (|(12 : ℝ) * Real.log 2| + 1) / 2 ^ 24 := by
  have h1 := Real.log_two_lt_d9
  have h2 := Real.log_two_gt_d9
  rw [abs_of_nonneg (by linarith only [h2])]
  exact tail32 (by linarith only [h2]) (by linarith only [h1])

/-- the witness is outside the region of `pow_accuracy_wide` (`4 |Y ln X| + 2 ≤ f`) -/
theorem witness12_outside : (32 : ℝ) < 4 * |(12 : ℝ) * Real.log 2| + 2 := by
  have h2 := Real.log_two_gt_d9
  have h0 : 0 ≤ (12 : ℝ) * Real.log 2 := by linarith only [h2]
  rw [abs_of_nonneg h0]
  linarith only [h2]

end Sfx.PowBandPf

#print axioms Sfx.PowBandPf.tail_mono
#print axioms Sfx.PowBandPf.tail_witness12
