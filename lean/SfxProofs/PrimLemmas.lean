import SfxModel.Prim
import SfxModel.Layout
/-
  PrimLemmas.lean — basic facts about the definitions of `SfxModel/Prim.lean`, used by every proof file (core Lean only):
  first plain integers (powers of two, `euclid`, `floor_bracket`, `dvd_far`, truncating division); then
  `wrapU / wrapS / wrapI / inI` (an `n`-bit type is a window of length `2^n`, `window`, and `wrapI` the reduction into it, `wrapI_eq`:
  from these the facts hold for either signedness without a case split), the overflow treatments `ovfI / chkI / clampI` (the checked and
  the saturating result as functions of the overflowing pair; the range as an interval around zero, `inI_between`, and as a union of
  grid cells, `inI_iff_cell`), the bit pattern `toU`, `andI / orI` on masks and disjoint operands,
  `bitLen`, casts of naturals, the `Outcome` monad, the unchecked primitives on arguments for which no check fires, and which values a
  layout with `k` bits above the binary point holds (`inRange_bits_nn`, `inRange_bits`); last, what `L.valid` says of the width (`Layout.valid.pos` …).
  Suffixes: `_of_in` takes `inI s n x`, `_of_lt` the bounds `0 ≤ x`, `x < 2^n`; `f_in` concludes `inI`; `_natCast` reads a primitive at a cast natural.
-/
namespace Sfx

/-! ### Integers: powers of two, division, signs -/

theorem two_pow_pos (k : Nat) : (0 : Int) < 2 ^ k := Int.pow_pos (by decide)

theorem pow_split {n : Nat} (hn : 0 < n) : (2 : Int) ^ n = 2 * 2 ^ (n - 1) := by
  cases n with
  | zero => omega
  | succ k => simp [Int.pow_succ]; omega

theorem pow_add' (a b : Nat) : (2 : Int) ^ (a + b) = 2 ^ a * 2 ^ b := Int.pow_add ..

theorem pow_le_pow {a b : Nat} (h : a ≤ b) : (2 : Int) ^ a ≤ 2 ^ b := by
  have : (2 : Nat) ^ a ≤ 2 ^ b := Nat.pow_le_pow_right (by decide) h
  exact_mod_cast this

theorem pow_lt_pow {a b : Nat} (h : a < b) : (2 : Int) ^ a < 2 ^ b := by
  have : (2 : Nat) ^ a < 2 ^ b := Nat.pow_lt_pow_right (by decide) h
  exact_mod_cast this

theorem pow_half {n : Nat} (heven : n % 2 = 0) : (2 : Int) ^ n = 2 ^ (n / 2) * 2 ^ (n / 2) := by
  rw [← Int.pow_add]; congr 1; omega

theorem pow_double (n : Nat) : (2 : Int) ^ (2 * n) = 2 ^ n * 2 ^ n := by
  rw [← Int.pow_add]; congr 1; omega

theorem pow_double_pred {n : Nat} (hn : 0 < n) : (2 : Int) ^ (2 * n - 1) = 2 ^ (n - 1) * 2 ^ n := by
  rw [← Int.pow_add]; congr 1; omega

theorem pow_sub_mul {n z : Nat} (h : z ≤ n) : (2 : Int) ^ n = 2 ^ (n - z) * 2 ^ z := by
  rw [← Int.pow_add]; congr 1; omega

theorem pow_pred_split {n f : Nat} (hf : f < n) : (2 : Int) ^ (n - 1) = 2 ^ (n - f - 1) * 2 ^ f := by
  rw [← Int.pow_add]; congr 1; omega

theorem mul_pow_ediv {n k : Nat} (hk : k ≤ n) (a : Int) : a * 2 ^ k / 2 ^ n = a / 2 ^ (n - k) := by
  rw [pow_sub_mul hk, Int.mul_ediv_mul_of_pos_left _ _ (two_pow_pos k)]

theorem two_pow_dvd {f n : Nat} (hf : f ≤ n) : (2 : Int) ^ f ∣ 2 ^ n :=
  ⟨2 ^ (n - f), by rw [← Int.pow_add]; congr 1; omega⟩

theorem natCast_two_pow (k : Nat) : ((2 ^ k : Nat) : Int) = (2 : Int) ^ k := by
  simp [Int.natCast_pow]

theorem natCast_mul_pow (a k : Nat) : ((a * 2 ^ k : Nat) : Int) = (a : Int) * 2 ^ k := by
  rw [Int.natCast_mul, natCast_two_pow]

/-- in the orientation `q * D + r` that `div_mod_of_eq` (its converse) takes -/
theorem euclid (a : Int) {D : Int} (hD : 0 < D) : a = a / D * D + a % D ∧ 0 ≤ a % D ∧ a % D < D :=
  ⟨(Int.ediv_mul_add_emod a D).symm, Int.emod_nonneg a (Int.ne_of_gt hD), Int.emod_lt_of_pos a hD⟩

theorem floor_bracket (a : Int) {D : Int} (hD : 0 < D) : a / D * D ≤ a ∧ a < a / D * D + D :=
  (Int.ediv_eq_iff_of_pos hD).1 rfl

theorem div_mod_of_eq {P N hi lo : Int} (hN : 0 < N) (h : P = hi * N + lo) (h0 : 0 ≤ lo) (h1 : lo < N) :
    P / N = hi ∧ P % N = lo := by
  rw [Int.ediv_emod_unique hN]
  refine ⟨?_, h0, h1⟩
  rw [h, Int.mul_comm]; omega

theorem dvd_far {P d : Int} (hP : 0 < P) (h : P ∣ d) (hd : d ≠ 0) : d ≤ -P ∨ P ≤ d := by
  obtain ⟨k, rfl⟩ := h
  have hk : k ≠ 0 := by intro h0; subst h0; simp at hd
  rcases Int.lt_or_gt_of_ne hk with h | h
  · left
    have := Int.mul_le_mul_of_nonneg_left (show k ≤ -1 by omega) (Int.le_of_lt hP)
    rw [Int.mul_neg, Int.mul_one] at this; exact this
  · right
    have := Int.mul_le_mul_of_nonneg_left (show 1 ≤ k by omega) (Int.le_of_lt hP)
    rw [Int.mul_one] at this; exact this

theorem neg_ediv_floor (x : Int) {P : Int} (hP : 0 < P) : (-x) / P = -(x / P) - (if x % P > 0 then 1 else 0) := by
  have hm0 := Int.emod_nonneg x (Int.ne_of_gt hP)
  rw [Int.neg_ediv, Int.sign_eq_one_of_pos hP]
  by_cases hd : P ∣ x
  · rw [if_pos hd, if_neg (by rw [Int.emod_eq_zero_of_dvd hd]; omega)]
  · have : x % P ≠ 0 := fun h => hd (Int.dvd_of_emod_eq_zero h)
    rw [if_neg hd, if_pos (by omega)]

theorem tdiv_nonpos_of_nonpos_of_nonneg {x b : Int} (hx : x ≤ 0) (hb : 0 ≤ b) : Int.tdiv x b ≤ 0 := by
  have := Int.tdiv_nonneg (a := -x) (by omega) hb
  rw [Int.neg_tdiv] at this; omega

theorem tmod_bounds (a b : Int) : (0 ≤ a → 0 ≤ Int.tmod a b ∧ Int.tmod a b ≤ a) ∧
    (a ≤ 0 → a ≤ Int.tmod a b ∧ Int.tmod a b ≤ 0) := by
  have hx : (a.tmod b).natAbs = a.natAbs % b.natAbs := Int.natAbs_tmod a b
  have h1 : a.natAbs % b.natAbs ≤ a.natAbs := Nat.mod_le _ _
  constructor
  · intro h
    have := Int.tmod_nonneg b h
    omega
  · intro h
    have h2 : 0 ≤ Int.tmod (-a) b := Int.tmod_nonneg b (by omega)
    rw [Int.neg_tmod] at h2
    omega

theorem tmod_eq_self {a b : Int} (h : a.natAbs < b.natAbs) : Int.tmod a b = a := by
  have hx : (a.tmod b).natAbs = a.natAbs % b.natAbs := Int.natAbs_tmod a b
  rw [Nat.mod_eq_of_lt h] at hx
  have hb := tmod_bounds a b
  omega

theorem mul_pow_cmp (x : Int) (f : Nat) : (0 ≤ x → x ≤ x * 2 ^ f) ∧ (x ≤ 0 → x * 2 ^ f ≤ x) := by
  have hP := two_pow_pos f
  have e : x * 2 ^ f = x * (2 ^ f - 1) + x := by rw [Int.mul_sub, Int.mul_one]; omega
  constructor
  · intro h
    have : 0 ≤ x * (2 ^ f - 1) := Int.mul_nonneg h (by omega)
    omega
  · intro h
    have : x * (2 ^ f - 1) ≤ 0 := Int.mul_nonpos_of_nonpos_of_nonneg h (by omega)
    omega

theorem sign_xor_true {a k : Int} (h : (decide (a < 0) != decide (k < 0)) = true) : a * k ≤ 0 := by
  by_cases h1 : a < 0 <;> by_cases h2 : k < 0 <;> simp [h1, h2] at h
  · exact Int.mul_nonpos_of_nonpos_of_nonneg (by omega) (by omega)
  · exact Int.mul_nonpos_of_nonneg_of_nonpos (by omega) (by omega)

theorem sign_xor_false {a k : Int} (h : ¬ (decide (a < 0) != decide (k < 0)) = true) : 0 ≤ a * k := by
  by_cases h1 : a < 0 <;> by_cases h2 : k < 0 <;> simp [h1, h2] at h
  · exact Int.mul_nonneg_of_nonpos_of_nonpos (by omega) (by omega)
  · exact Int.mul_nonneg (by omega) (by omega)

theorem lt_two_pow (m : Nat) : (m : Int) < 2 ^ m := by
  induction m with
  | zero => decide
  | succ m ih =>
    have := Int.pow_succ' 2 m
    have := two_pow_pos m
    omega

theorem pow_le_imp {a b : Nat} (h : (2 : Int) ^ a ≤ 2 ^ b) : a ≤ b := by
  apply Nat.le_of_not_lt
  intro hlt
  have := pow_lt_pow (a := b) (b := a) hlt
  omega

theorem pow_lt_two_base {f k : Nat} (h : (2 : Int) ^ (f + k) < 2 * 2 ^ f) : k = 0 := by
  cases k with
  | zero => rfl
  | succ k =>
    have := pow_le_pow (a := f + 1) (b := f + (k + 1)) (by omega)
    rw [Int.pow_succ'] at this
    omega

theorem pow_le_pow_base (a b : Int) (ha : 0 ≤ a) (hab : a ≤ b) : ∀ n : Nat, a ^ n ≤ b ^ n
  | 0 => by rw [Int.pow_zero, Int.pow_zero]; exact Int.le_refl 1
  | n + 1 => by
    rw [Int.pow_succ, Int.pow_succ]
    exact Int.mul_le_mul (pow_le_pow_base a b ha hab n) hab ha (Int.pow_nonneg (Int.le_trans ha hab))

theorem le_mul_of_one_le (a b : Int) (ha : 0 ≤ a) (hb : 1 ≤ b) : a ≤ a * b := by
  have := Int.mul_le_mul_of_nonneg_left hb ha
  rwa [Int.mul_one] at this

theorem sq_eq (a : Int) : a ^ 2 = a * a := by
  rw [Int.pow_succ, Int.pow_succ, Int.pow_zero, Int.one_mul]

/-- truncating division with its remainder named: `|r| < d`, of either sign -/
theorem tdiv_rem (a d : Int) (hd : 0 < d) : ∃ r : Int, a = d * Int.tdiv a d + r ∧ -d < r ∧ r < d :=
  ⟨Int.tmod a d, (Int.mul_tdiv_add_tmod a d).symm, Int.lt_tmod_of_pos a hd, Int.tmod_lt_of_pos a hd⟩

/-! ### The range of an `n`-bit type: a window of length `2^n` -/

/-! The first five facts hold at every `n`, also `n = 0`; `window`, which characterises the range, needs `0 < n`. -/

theorem inU_iff (n : Nat) (x : Int) : inI false n x ↔ 0 ≤ x ∧ x < 2 ^ n := by
  unfold inI minI maxI; simp; omega

theorem inS_iff (n : Nat) (x : Int) : inI true n x ↔ -(2 ^ (n - 1) : Int) ≤ x ∧ x < 2 ^ (n - 1) := by
  unfold inI minI maxI; simp; omega

theorem minI_le_maxI (s : Bool) (n : Nat) : minI s n ≤ maxI s n := by
  have := two_pow_pos (n - 1); have := two_pow_pos n
  cases s <;> simp [minI, maxI] <;> omega

theorem inI_zero (s : Bool) (n : Nat) : inI s n 0 := by
  have := two_pow_pos (n - 1); have := two_pow_pos n
  cases s <;> simp [inI, minI, maxI] <;> omega

theorem not_inI {s : Bool} {n : Nat} {e : Int} (h : ¬ inI s n e) : e < minI s n ∨ maxI s n < e := by
  unfold inI at h; omega

/-- All that linear arithmetic needs to know about the range `[minI s n, maxI s n]` of an `n`-bit type: a window of length `2^n` that
starts at `0` or half a length below.  With it a proof about either signedness is one `omega`. -/
theorem window (s : Bool) {n : Nat} (hn : 0 < n) :
    maxI s n = minI s n + 2 ^ n - 1 ∧ (minI s n = 0 ∨ (s = true ∧ minI s n = -(2 ^ (n - 1)))) ∧
      (2 : Int) ^ n = 2 * 2 ^ (n - 1) ∧ (0 : Int) < 2 ^ (n - 1) := by
  have := pow_split hn
  have := two_pow_pos (n - 1)
  cases s <;> simp [minI, maxI] <;> omega

theorem inI_iff (s : Bool) {n : Nat} (hn : 0 < n) (x : Int) : inI s n x ↔ minI s n ≤ x ∧ x < minI s n + 2 ^ n := by
  unfold inI; rw [(window s hn).1]; omega

theorem minI_add (s : Bool) {n : Nat} (hn : 0 < n) (q : Nat) : minI s (n + q) = minI s n * 2 ^ q := by
  cases s
  · simp [minI]
  · simp only [minI, if_true]
    rw [Int.neg_mul, ← pow_add', show n - 1 + q = n + q - 1 by omega]

theorem inI_minI (s : Bool) (n : Nat) : inI s n (minI s n) :=
  ⟨Int.le_refl _, minI_le_maxI s n⟩

theorem inI_maxI (s : Bool) (n : Nat) : inI s n (maxI s n) :=
  ⟨minI_le_maxI s n, Int.le_refl _⟩

theorem maxI_nonneg (s : Bool) (n : Nat) : 0 ≤ maxI s n := (inI_zero s n).2
theorem minI_nonpos (s : Bool) (n : Nat) : minI s n ≤ 0 := (inI_zero s n).1

theorem unsigned_nonneg {n : Nat} {x : Int} (h : inI false n x) : 0 ≤ x := ((inU_iff n x).1 h).1

theorem inI_mono {s : Bool} {n m : Nat} (h : n ≤ m) {x : Int} (hx : inI s n x) : inI s m x := by
  cases s
  · rw [inU_iff] at *
    have := pow_le_pow (a := n) (b := m) h
    omega
  · rw [inS_iff] at *
    have := pow_le_pow (a := n - 1) (b := m - 1) (by omega)
    omega

theorem natAbs_lt_of_in {s : Bool} {n : Nat} (hn : 0 < n) {x : Int} (h : inI s n x) : x.natAbs < 2 ^ n := by
  obtain ⟨-, hm, hp, hq⟩ := window s hn
  have := (inI_iff s hn x).1 h
  have h2 := natCast_two_pow n
  omega

theorem inI_ediv_pow_iff (s : Bool) {n : Nat} (hn : 0 < n) (y : Int) (q : Nat) :
    inI s n (y / 2 ^ q) ↔ inI s (n + q) y := by
  have hq := two_pow_pos q
  rw [inI_iff s hn, inI_iff s (by omega), Int.ediv_lt_iff_lt_mul hq, Int.le_ediv_iff_mul_le hq, minI_add s hn, pow_add',
    Int.add_mul]

theorem inI_iff_cell (s : Bool) {n f : Nat} (hf : f < n) (a : Int) : inI s n a ↔ inI s (n - f) (a / 2 ^ f) := by
  rw [inI_ediv_pow_iff s (by omega), Nat.sub_add_cancel (by omega)]

theorem inI_cell_add (s : Bool) {n f : Nat} (hf : f < n) (A : Int) {r : Int} (h0 : 0 ≤ r) (h1 : r < 2 ^ f) :
    inI s n (A * 2 ^ f + r) ↔ inI s n (A * 2 ^ f) := by
  have hP := two_pow_pos f
  rw [inI_iff_cell s hf, inI_iff_cell s hf, Int.mul_ediv_cancel _ (Int.ne_of_gt hP), (div_mod_of_eq hP rfl h0 h1).1]

theorem ediv_of_in {s : Bool} {n : Nat} (hn : 0 < n) {w : Int} (h : inI s n w) : w / 2 ^ n = if w < 0 then -1 else 0 := by
  obtain ⟨hM, hm, hp, hq⟩ := window s hn
  unfold inI at h
  split
  · rw [Int.ediv_eq_iff_of_pos (by omega)]; omega
  · exact Int.ediv_eq_zero_of_lt (by omega) (by omega)

theorem inI_between {s : Bool} {n : Nat} {x y : Int} (hx : inI s n x) (hpos : 0 ≤ x → 0 ≤ y ∧ y ≤ x)
    (hneg : x ≤ 0 → x ≤ y ∧ y ≤ 0) : inI s n y := by
  have hz := inI_zero s n
  unfold inI at *
  omega

theorem shr_in {s : Bool} {n : Nat} (k : Nat) {a : Int} (ha : inI s n a) : inI s n (a / 2 ^ k) := by
  have hK := two_pow_pos k
  refine inI_between ha (fun h => ⟨Int.ediv_nonneg h (Int.le_of_lt hK), Int.ediv_le_self _ h⟩) (fun h => ⟨?_, ?_⟩)
  · exact (Int.le_ediv_iff_mul_le hK).2 (by have := Int.mul_le_mul_of_nonpos_left h (show (1 : Int) ≤ 2 ^ k by omega); omega)
  · have := Int.ediv_le_ediv hK h; rwa [Int.zero_ediv] at this

theorem tdiv_in {s : Bool} {n : Nat} {a b : Int} (ha : inI s n a) (hb : inI s n b)
    (hb0 : b ≠ 0) (hm1 : ¬ (s = true ∧ b = -1)) : inI s n (Int.tdiv a b) := by
  cases s
  · rw [inU_iff] at *
    rw [Int.tdiv_eq_ediv_of_nonneg ha.1]
    have h1 : 0 ≤ a / b := Int.ediv_nonneg ha.1 hb.1
    have h2 : a / b ≤ a := Int.ediv_le_self b ha.1
    omega
  · rw [inS_iff] at *
    have hP := two_pow_pos (n - 1)
    by_cases h1 : b = 1
    · subst h1; rw [Int.tdiv_one]; exact ha
    · have hm : b ≠ -1 := fun h => hm1 ⟨rfl, h⟩
      have hx : (a.tdiv b).natAbs = a.natAbs / b.natAbs := Int.natAbs_tdiv a b
      have h2 : a.natAbs / b.natAbs ≤ a.natAbs / 2 := Nat.div_le_div_left (by omega) (by omega)
      omega

theorem tmod_in {s : Bool} {n : Nat} {a : Int} (b : Int) (ha : inI s n a) : inI s n (Int.tmod a b) :=
  inI_between ha (tmod_bounds a b).1 (tmod_bounds a b).2

theorem inI_of_mul_pow {s : Bool} {n f : Nat} {x : Int} (h : inI s n (x * 2 ^ f)) : inI s n x := by
  have hc := mul_pow_cmp x f
  have hP := two_pow_pos f
  exact inI_between h (fun h => have := Int.nonneg_of_mul_nonneg_left h hP; ⟨this, hc.1 this⟩)
    (fun h => have := Int.nonpos_of_mul_nonpos_left h hP; ⟨hc.2 this, this⟩)

theorem emod_in {s : Bool} {n : Nat} {a b : Int} (ha : inI s n a) (hb : inI s n b) (hb0 : b ≠ 0) : inI s n (a % b) := by
  have h1 := Int.emod_nonneg a hb0
  have h2 := Int.emod_lt a hb0
  have hP := two_pow_pos (n - 1)
  cases s
  · rw [inU_iff] at *; omega
  · rw [inS_iff] at *; omega

/-! ### `wrapI`: reduction into the window; its unsigned and signed readings -/

theorem wrapI_eq (s : Bool) (n : Nat) (x : Int) : wrapI s n x = (x - minI s n) % 2 ^ n + minI s n := by
  cases s
  · simp [wrapI, wrapU, minI]
  · simp [wrapI, wrapS, minI]; omega

theorem wrapI_of_in {s : Bool} {n : Nat} (hn : 0 < n) {x : Int} (h : inI s n x) : wrapI s n x = x := by
  rw [inI_iff s hn] at h
  rw [wrapI_eq, Int.emod_eq_of_lt (by omega) (by omega)]; omega

theorem wrapI_in {s : Bool} {n : Nat} (hn : 0 < n) (x : Int) : inI s n (wrapI s n x) := by
  rw [inI_iff s hn, wrapI_eq]
  have h1 := Int.emod_nonneg (x - minI s n) (Int.ne_of_gt (two_pow_pos n))
  have h2 := Int.emod_lt_of_pos (x - minI s n) (two_pow_pos n)
  omega

theorem wrapI_add_mul (s : Bool) (n : Nat) (x k : Int) : wrapI s n (x + k * 2 ^ n) = wrapI s n x := by
  rw [wrapI_eq, wrapI_eq, show x + k * 2 ^ n - minI s n = x - minI s n + k * 2 ^ n by omega, Int.add_mul_emod_self_right]

theorem wrapI_eq_add_mul (s : Bool) (n : Nat) (x : Int) : ∃ k : Int, wrapI s n x = x + k * 2 ^ n := by
  refine ⟨-((x - minI s n) / 2 ^ n), ?_⟩
  have := Int.emod_add_mul_ediv (x - minI s n) (2 ^ n)
  rw [wrapI_eq, Int.neg_mul, Int.mul_comm]; omega

theorem wrapI_congr (s : Bool) (n : Nat) {x y : Int} (k : Int) (h : x = y + k * 2 ^ n) : wrapI s n x = wrapI s n y := by
  rw [h, wrapI_add_mul]

theorem wrapI_unique {s : Bool} {n : Nat} (hn : 0 < n) {x y : Int} (k : Int) (h : x = y + k * 2 ^ n)
    (hy : inI s n y) : wrapI s n x = y := by
  rw [h, wrapI_add_mul, wrapI_of_in hn hy]

theorem wrapI_zero (s : Bool) {n : Nat} (hn : 0 < n) : wrapI s n 0 = 0 :=
  wrapI_of_in hn (inI_zero s n)

theorem wrapI_wrapI_of_le (sd s : Bool) {n m : Nat} (h : n ≤ m) (y : Int) : wrapI sd n (wrapI s m y) = wrapI sd n y := by
  obtain ⟨c, hc⟩ := wrapI_eq_add_mul s m y
  obtain ⟨e, rfl⟩ : ∃ e, m = n + e := ⟨m - n, by omega⟩
  apply wrapI_congr sd n (c * 2 ^ e)
  rw [hc, pow_add', Int.mul_assoc, Int.mul_comm (2 ^ e) (2 ^ n)]

theorem wrapI_wrapI (s t : Bool) (n : Nat) (x : Int) : wrapI s n (wrapI t n x) = wrapI s n x :=
  wrapI_wrapI_of_le s t (Nat.le_refl n) x

theorem wrapI_add_left (s t : Bool) (n : Nat) (x y : Int) : wrapI s n (wrapI t n x + y) = wrapI s n (x + y) := by
  obtain ⟨k, hk⟩ := wrapI_eq_add_mul t n x
  rw [hk, Int.add_right_comm, wrapI_add_mul]

theorem wrapI_mul_left (s t : Bool) (n : Nat) (x y : Int) :
    wrapI s n (wrapI t n x * y) = wrapI s n (x * y) := by
  obtain ⟨k, hk⟩ := wrapI_eq_add_mul t n x
  rw [hk, Int.add_mul, Int.mul_right_comm]
  exact wrapI_add_mul ..

theorem wrapI_neg_sub (s t : Bool) (n : Nat) (x c : Int) :
    wrapI s n (-(wrapI t n x) - c) = wrapI s n (-x - c) := by
  obtain ⟨k, hk⟩ := wrapI_eq_add_mul t n x
  rw [hk]
  apply wrapI_congr s n (-k)
  rw [Int.neg_mul]; omega

theorem wrapI_two_pow_self (s : Bool) {n : Nat} (hn : 0 < n) : wrapI s n (2 ^ n) = 0 :=
  wrapI_unique hn 1 (by omega) (inI_zero s n)

theorem wrapI_neg_two_pow_self (s : Bool) {n : Nat} (hn : 0 < n) : wrapI s n (-(2 ^ n)) = 0 :=
  wrapI_unique hn (-1) (by omega) (inI_zero s n)

theorem wrapI_two_pow_top {n : Nat} (hn : 0 < n) : wrapI true n (2 ^ (n - 1)) = -(2 ^ (n - 1)) := by
  have hp := pow_split hn
  have hP := two_pow_pos (n - 1)
  exact wrapI_unique hn 1 (by omega) (by rw [inS_iff]; omega)

theorem wrapU_of_in {n : Nat} {x : Int} (h : inI false n x) : wrapU n x = x := by
  rw [inU_iff] at h
  exact Int.emod_eq_of_lt h.1 h.2

theorem wrapU_in (n : Nat) (x : Int) : inI false n (wrapU n x) := by
  rw [inU_iff]; unfold wrapU
  exact ⟨Int.emod_nonneg _ (Int.ne_of_gt (two_pow_pos n)), Int.emod_lt_of_pos _ (two_pow_pos n)⟩

theorem wrapU_add_mul (n : Nat) (x k : Int) : wrapU n (x + k * 2 ^ n) = wrapU n x := wrapI_add_mul false n x k

theorem wrapU_of_lt {n : Nat} {x : Int} (h0 : 0 ≤ x) (h1 : x < 2 ^ n) : wrapU n x = x :=
  wrapU_of_in ((inU_iff n x).2 ⟨h0, h1⟩)

theorem wrapU_unique {n : Nat} {x y : Int} (k : Int) (h : x = y + k * 2 ^ n) (h0 : 0 ≤ y) (h1 : y < 2 ^ n) :
    wrapU n x = y := by
  rw [h, wrapU_add_mul, wrapU_of_lt h0 h1]

theorem wrapS_of_in {n : Nat} (hn : 0 < n) {x : Int} (h : inI true n x) : wrapS n x = x := wrapI_of_in (s := true) hn h

theorem wrapS_in {n : Nat} (hn : 0 < n) (x : Int) : inI true n (wrapS n x) := wrapI_in (s := true) hn x

theorem wrapS_add_mul (n : Nat) (x k : Int) : wrapS n (x + k * 2 ^ n) = wrapS n x := wrapI_add_mul true n x k

theorem wrapS_eq_add_mul (n : Nat) (x : Int) : ∃ k : Int, wrapS n x = x + k * 2 ^ n := wrapI_eq_add_mul true n x

theorem wrapS_wrapU (n : Nat) (x : Int) : wrapS n (wrapU n x) = wrapS n x := wrapI_wrapI true false n x
theorem wrapU_wrapS (n : Nat) (x : Int) : wrapU n (wrapS n x) = wrapU n x := wrapI_wrapI false true n x
theorem wrapU_wrapI (s : Bool) (n : Nat) (x : Int) : wrapU n (wrapI s n x) = wrapU n x := wrapI_wrapI false s n x

/-- `|x|` of a signed value as the code computes it (`wrapping_neg` below zero, then `as uN`): the magnitude, for `MIN` too -/
theorem wrapU_abs {n : Nat} (hn : 0 < n) {x : Int} (hx : inI true n x) :
    wrapU n (if x < 0 then wrapI true n (-x) else x) = (x.natAbs : Int) := by
  have hM := two_pow_pos (n - 1)
  have hsp := pow_split hn
  rw [inS_iff] at hx
  by_cases h : x < 0
  · rw [if_pos h, wrapU_wrapI, wrapU_of_lt (by omega) (by omega)]; omega
  · rw [if_neg h, wrapU_of_lt (by omega) (by omega)]; omega

theorem wrapI_emod (s : Bool) (n : Nat) (x : Int) : wrapI s n x % 2 ^ n = x % 2 ^ n := wrapU_wrapI s n x

theorem wrapI_emod_self (s : Bool) (n : Nat) (x : Int) : wrapI s n (x % 2 ^ n) = wrapI s n x :=
  wrapI_wrapI s false n x

theorem wrapI_inj_of_lt {s : Bool} {n : Nat} {x y : Int} (hx0 : 0 ≤ x) (hx : x < 2 ^ n) (hy0 : 0 ≤ y) (hy : y < 2 ^ n)
    (h : wrapI s n x = wrapI s n y) : x = y := by
  have h1 := wrapI_emod s n x
  have h2 := wrapI_emod s n y
  rw [h, h2, Int.emod_eq_of_lt hy0 hy, Int.emod_eq_of_lt hx0 hx] at h1
  exact h1.symm

theorem wrapI_natCast_eq_zero_iff {s : Bool} {n : Nat} (hn : 0 < n) {k : Nat} (hk : k < 2 ^ n) :
    wrapI s n (Int.ofNat k) = 0 ↔ k = 0 := by
  constructor
  · intro h
    rw [← wrapI_zero s hn] at h
    have hk' : (k : Int) < 2 ^ n := by rw [← natCast_two_pow]; exact_mod_cast hk
    have := wrapI_inj_of_lt (Int.natCast_nonneg k) hk' (Int.le_refl 0) (two_pow_pos n) h
    exact_mod_cast this
  · intro h; subst h; exact wrapI_zero s hn

/-! ### The overflow treatments `ovfI`, `chkI`, `clampI` -/

theorem ovfI_of_in {s : Bool} {n : Nat} (hn : 0 < n) {e : Int} (h : inI s n e) : ovfI s n e = (e, false) := by
  rw [ovfI, wrapI_of_in hn h, decide_eq_true h]
  rfl

theorem ovfI_of_not_in {s : Bool} {n : Nat} {e : Int} (h : ¬ inI s n e) : ovfI s n e = (wrapI s n e, true) := by
  rw [ovfI, decide_eq_false h]; rfl

theorem ovfI_lt {n : Nat} {s : Int} (h0 : 0 ≤ s) (h1 : s < 2 ^ n) : ovfI false n s = (s, false) := by
  have hin : inI false n s := (inU_iff _ _).2 ⟨h0, h1⟩
  simp [ovfI, wrapI, hin, wrapU_of_in hin]

theorem ovfI_ge {n : Nat} {s : Int} (h0 : 2 ^ n ≤ s) (h1 : s < 2 * 2 ^ n) : ovfI false n s = (s - 2 ^ n, true) := by
  have hin : ¬ inI false n s := fun h => by have := ((inU_iff _ _).1 h).2; omega
  have hw : wrapU n s = s - 2 ^ n := wrapU_unique 1 (by omega) (by omega) (by omega)
  rw [ovfI_of_not_in hin]
  exact congrArg (·, true) hw

theorem chkI_of_in {s : Bool} {n : Nat} {e : Int} (h : inI s n e) : chkI s n e = some e := if_pos h

theorem chkI_of_not_in {s : Bool} {n : Nat} {e : Int} (h : ¬ inI s n e) : chkI s n e = none := if_neg h

/-- `if o then None else Some(ans)` on the pair of an `overflowing_*` primitive is the `checked_*` result -/
theorem chkI_of_ovfI {s : Bool} {n : Nat} (hn : 0 < n) (e : Int) :
    (if (ovfI s n e).2 = true then none else some (ovfI s n e).1) = chkI s n e := by
  by_cases h : inI s n e
  · rw [ovfI_of_in hn h, chkI_of_in h]; rfl
  · rw [chkI_of_not_in h, ovfI, decide_eq_false h]; rfl

theorem clampI_of_in {s : Bool} {n : Nat} {e : Int} (h : inI s n e) : clampI s n e = e := by
  unfold inI at h; unfold clampI
  rw [if_neg (by omega), if_neg (by omega)]

theorem clampI_of_lt {s : Bool} {n : Nat} {e : Int} (h : e < minI s n) : clampI s n e = minI s n := by
  unfold clampI; rw [if_pos h]

theorem clampI_of_gt {s : Bool} {n : Nat} {e : Int} (h : maxI s n < e) : clampI s n e = maxI s n := by
  unfold clampI; have := minI_le_maxI s n; rw [if_neg (by omega), if_pos h]

theorem clampI_of_nonpos {s : Bool} {n : Nat} {e : Int} (h : ¬ inI s n e) (he : e ≤ 0) : clampI s n e = minI s n := by
  have := maxI_nonneg s n
  rcases not_inI h with h | h
  · exact clampI_of_lt h
  · omega

theorem clampI_of_nonneg {s : Bool} {n : Nat} {e : Int} (h : ¬ inI s n e) (he : 0 ≤ e) : clampI s n e = maxI s n := by
  have := minI_nonpos s n
  rcases not_inI h with h | h
  · omega
  · exact clampI_of_gt h

theorem clampI_of_side {s : Bool} {n : Nat} {E : Int} (hE : ¬ inI s n E) :
    (E ≤ maxI s n → clampI s n E = minI s n) ∧ (minI s n ≤ E → clampI s n E = maxI s n) :=
  ⟨fun h => clampI_of_lt ((not_inI hE).resolve_right (Int.not_lt.2 h)),
   fun h => clampI_of_gt ((not_inI hE).resolve_left (Int.not_lt.2 h))⟩

/-- selecting `alt` on the flag of an `overflowing_*` pair is the `saturating_*` result as soon as `alt` is the clamp whenever the exact
result does not fit -/
theorem clampI_of_ovfI {s : Bool} {n : Nat} (hn : 0 < n) (E alt : Int) (h : ¬ inI s n E → alt = clampI s n E) :
    (if (ovfI s n E).2 = true then alt else (ovfI s n E).1) = clampI s n E := by
  by_cases hE : inI s n E
  · rw [ovfI_of_in hn hE, clampI_of_in hE]; rfl
  · rw [ovfI_of_not_in hE, ← h hE]; rfl

/-! ### The bit pattern `toU`, shifts and bitwise operations -/

theorem toU_of_lt {n : Nat} {x : Int} (h0 : 0 ≤ x) (h1 : x < 2 ^ n) : toU n x = x.toNat := by
  unfold toU; rw [Int.emod_eq_of_lt h0 h1]

theorem toU_emod (n : Nat) (x : Int) : ((toU n x : Nat) : Int) = x % 2 ^ n := by
  unfold toU
  exact Int.toNat_of_nonneg (Int.emod_nonneg _ (Int.ne_of_gt (two_pow_pos n)))

theorem toU_wrapI (s : Bool) (n : Nat) (x : Int) : toU n (wrapI s n x) = toU n x := by
  obtain ⟨k, hk⟩ := wrapI_eq_add_mul s n x
  unfold toU
  rw [hk, Int.add_mul_emod_self_right]

theorem wrapI_toU (s : Bool) (n : Nat) (x : Int) : wrapI s n (Int.ofNat (toU n x)) = wrapI s n x := by
  show wrapI s n ((toU n x : Nat) : Int) = _
  rw [toU_emod]
  exact wrapI_wrapI s false n x

theorem toU_lt (n : Nat) (x : Int) : toU n x < 2 ^ n := by
  have h := toU_emod n x
  have h2 := (inU_iff n _).1 (wrapU_in n x)
  have h3 : ((2 ^ n : Nat) : Int) = 2 ^ n := Int.natCast_pow 2 n
  unfold wrapU at h2
  omega

theorem toU_zero (n : Nat) : toU n 0 = 0 := by
  unfold toU; simp

theorem toU_eq_of_cast {n : Nat} {x : Int} {k : Nat} (h : x % 2 ^ n = (k : Int)) : toU n x = k := by
  rw [← toU_emod] at h; exact_mod_cast h

theorem toU_neg_two_pow {n f : Nat} (hf : f ≤ n) : toU n (-(2 ^ f)) = 2 ^ n - 2 ^ f := by
  apply toU_eq_of_cast
  have hle : (2 : Nat) ^ f ≤ 2 ^ n := Nat.pow_le_pow_right (by decide) hf
  rw [Int.ofNat_sub hle, natCast_two_pow, natCast_two_pow]
  have hF := two_pow_pos f
  have hle' := pow_le_pow (a := f) (b := n) hf
  rw [← Int.add_mul_emod_self_right (-(2 ^ f)) 1 (2 ^ n), Int.one_mul]
  rcases Int.lt_or_eq_of_le hle' with h | h
  · rw [Int.emod_eq_of_lt (by omega) (by omega)]; omega
  · rw [h]; simp

theorem toU_neg_one (n : Nat) : toU n (-1) = 2 ^ n - 1 := toU_neg_two_pow (Nat.zero_le n)

theorem toU_two_pow_sub_one {n f : Nat} (hf : f ≤ n) : toU n (2 ^ f - 1) = 2 ^ f - 1 := by
  apply toU_eq_of_cast
  have hF := two_pow_pos f
  have hle' := pow_le_pow (a := f) (b := n) hf
  rw [Int.ofNat_sub (Nat.two_pow_pos f), natCast_two_pow]
  rw [Int.emod_eq_of_lt (by omega) (by omega)]; rfl

theorem toU_two_pow {n k : Nat} (hk : k < n) : toU n (2 ^ k) = 2 ^ k := by
  apply toU_eq_of_cast
  rw [natCast_two_pow]
  exact Int.emod_eq_of_lt (Int.le_of_lt (two_pow_pos k)) (pow_lt_pow hk)

theorem shrI_eq (x : Int) (k : Nat) : shrI x k = x / 2 ^ k := rfl

theorem shlI_eq (s : Bool) (n : Nat) (x : Int) (k : Nat) : shlI s n x k = wrapI s n (x * 2 ^ k) := rfl

theorem shlU_of_lt {n : Nat} {x : Int} {k : Nat} (h0 : 0 ≤ x) (h1 : x * 2 ^ k < 2 ^ n) : shlI false n x k = x * 2 ^ k := by
  rw [shlI_eq]
  exact wrapU_of_lt (Int.mul_nonneg h0 (Int.le_of_lt (two_pow_pos k))) h1

theorem shl_shr_bne {n : Nat} (x : Int) (k : Nat) (h0 : 0 ≤ x) (h1 : x < 2 ^ n) :
    (shlI false n (shrI x k) k != x) = !decide (x % 2 ^ k = 0) := by
  have hT := two_pow_pos k
  obtain ⟨hdm, hr0, _⟩ := euclid x hT
  have hq0 := Int.ediv_nonneg h0 (Int.le_of_lt hT)
  unfold shrI
  rw [shlU_of_lt hq0 (by omega)]
  generalize x / 2 ^ k * 2 ^ k = y at *
  by_cases hz : x % 2 ^ k = 0
  · simp only [hz, decide_true, Bool.not_true, bne_eq_false_iff_eq]; omega
  · simp only [hz, decide_false, Bool.not_false, bne_iff_ne, ne_eq]; omega

/-! The bitwise operations read their operands through `toU`, so only residues modulo `2^n` matter; on the shapes the code uses they
are arithmetic: `x & (2^k - 1)` is `x mod 2^k`, and `x | y` is `x + y` when the bits of `x` and `y` do not meet. -/

theorem orI_comm (s : Bool) (n : Nat) (a b : Int) : orI s n a b = orI s n b a := by
  unfold orI; rw [Nat.or_comm]

theorem orI_wrapI_right (s t : Bool) (n : Nat) (x y : Int) : orI s n x (wrapI t n y) = orI s n x y := by
  unfold orI; rw [toU_wrapI]

theorem andI_low_mask (s : Bool) {n k : Nat} (hk : k ≤ n) (x m : Int) (hm : toU n m = 2 ^ k - 1) :
    andI s n x m = wrapI s n (x % 2 ^ k) := by
  unfold andI
  rw [hm, Nat.and_two_pow_sub_one_eq_mod]
  have hc : Int.ofNat (toU n x % 2 ^ k) = (x % 2 ^ n) % 2 ^ k := by
    rw [Int.ofNat_eq_natCast, Int.natCast_emod, natCast_two_pow, toU_emod]
  rw [hc, Int.emod_emod_of_dvd x (two_pow_dvd hk)]

theorem and_two_pow_eq (x k : Nat) : x &&& 2 ^ k = x / 2 ^ k % 2 * 2 ^ k := by
  have hp : 0 < 2 ^ k := Nat.two_pow_pos k
  have h1 : (x &&& 2 ^ k) % 2 ^ k = 0 := by
    rw [Nat.and_mod_two_pow, Nat.mod_self, Nat.and_zero]
  have h2 : (x &&& 2 ^ k) / 2 ^ k = x / 2 ^ k % 2 := by
    rw [Nat.and_div_two_pow, Nat.div_self hp, Nat.and_one_is_mod]
  have h3 := Nat.div_add_mod (x &&& 2 ^ k) (2 ^ k)
  rw [h1, h2, Nat.add_zero, Nat.mul_comm] at h3
  exact h3.symm

theorem and_two_pow_eq_zero_iff (x k : Nat) : x &&& 2 ^ k = 0 ↔ x / 2 ^ k % 2 = 0 := by
  have := Nat.two_pow_pos k
  rw [and_two_pow_eq, Nat.mul_eq_zero]; omega

theorem orI_add (s : Bool) {n f : Nat} {x y : Int} (hx : (2 : Int) ^ f ∣ x) (hy0 : 0 ≤ y) (hy1 : y < 2 ^ f) :
    orI s n x y = wrapI s n (x + y) := by
  have hP := two_pow_pos f
  have hN := two_pow_pos n
  by_cases hf : f ≤ n
  · have hle : (2 : Int) ^ f ≤ 2 ^ n := pow_le_pow hf
    -- the unsigned pattern of `x` is a multiple `q * 2^f`
    have hu0 : 0 ≤ x % 2 ^ n := Int.emod_nonneg _ (Int.ne_of_gt hN)
    have hum : (x % 2 ^ n) % 2 ^ f = 0 := by
      rw [Int.emod_emod_of_dvd x (two_pow_dvd hf)]; exact Int.emod_eq_zero_of_dvd hx
    have hu : x % 2 ^ n = (x % 2 ^ n) / 2 ^ f * 2 ^ f := by
      have := Int.emod_add_mul_ediv (x % 2 ^ n) (2 ^ f)
      rw [hum, Int.mul_comm] at this; omega
    have hq0 : 0 ≤ (x % 2 ^ n) / 2 ^ f := Int.ediv_nonneg hu0 (Int.le_of_lt hP)
    have hx' : toU n x = ((x % 2 ^ n) / 2 ^ f).toNat <<< f := by
      apply Int.ofNat.inj
      show ((toU n x : Nat) : Int) = ((((x % 2 ^ n) / 2 ^ f).toNat <<< f : Nat) : Int)
      rw [toU_emod, Nat.shiftLeft_eq, Int.natCast_mul, Int.toNat_of_nonneg hq0, Int.natCast_pow]
      exact hu
    have hylt : y.toNat < 2 ^ f := by
      have : ((y.toNat : Nat) : Int) < ((2 ^ f : Nat) : Int) := by
        rw [Int.toNat_of_nonneg hy0, Int.natCast_pow]; exact hy1
      exact Int.ofNat_lt.mp this
    unfold orI
    rw [hx', toU_of_lt hy0 (by omega), ← Nat.shiftLeft_add_eq_or_of_lt hylt]
    have hc : Int.ofNat (((x % 2 ^ n) / 2 ^ f).toNat <<< f + y.toNat) = x % 2 ^ n + y := by
      show ((((x % 2 ^ n) / 2 ^ f).toNat <<< f + y.toNat : Nat) : Int) = x % 2 ^ n + y
      rw [Int.natCast_add, Nat.shiftLeft_eq, Int.natCast_mul, Int.toNat_of_nonneg hq0, Int.natCast_pow,
        Int.toNat_of_nonneg hy0, show ((2 : Nat) : Int) = 2 from rfl]
      omega
    rw [hc]
    apply wrapI_congr s n (-(x / 2 ^ n))
    have := Int.emod_add_mul_ediv x (2 ^ n)
    rw [Int.neg_mul, Int.mul_comm]; omega
  · -- all of `x` lies above the `n` bits
    obtain ⟨c, rfl⟩ := Int.dvd_trans (two_pow_dvd (Nat.le_of_lt (Nat.lt_of_not_le hf))) hx
    have h0 : toU n (2 ^ n * c) = 0 := by
      unfold toU; rw [Int.mul_emod_right]; rfl
    unfold orI
    rw [h0, Nat.zero_or, wrapI_toU, Int.add_comm, Int.mul_comm]
    exact (wrapI_add_mul s n y c).symm

theorem orI_mul_add {n k : Nat} {x y : Int} (hx : 0 ≤ x) (hy0 : 0 ≤ y) (hy : y < 2 ^ k)
    (hlt : x * 2 ^ k + y < 2 ^ n) : orI false n (x * 2 ^ k) y = x * 2 ^ k + y := by
  rw [orI_add false ⟨x, Int.mul_comm _ _⟩ hy0 hy]
  exact wrapU_of_lt (Int.add_nonneg (Int.mul_nonneg hx (Int.le_of_lt (two_pow_pos k))) hy0) hlt

theorem orI_eq_add (s : Bool) (n k : Nat) (x z : Int) (hx0 : 0 ≤ x) (hxk : x < 2 ^ k) :
    orI s n x (wrapI s n (z * 2 ^ k)) = wrapI s n (x + z * 2 ^ k) := by
  rw [orI_wrapI_right, orI_comm, orI_add s ⟨z, Int.mul_comm _ _⟩ hx0 hxk, Int.add_comm]

theorem andI_zero_right (s : Bool) {n : Nat} (hn : 0 < n) (x : Int) : andI s n x 0 = 0 := by
  rw [andI_low_mask s (Nat.zero_le n) x 0 (toU_zero n), Int.pow_zero, Int.emod_one]
  exact wrapI_zero s hn

theorem andI_ones_right (s : Bool) {n : Nat} (hn : 0 < n) {x : Int} (hx : inI s n x) :
    andI s n x (wrapI s n (-1)) = x := by
  rw [andI_low_mask s (Nat.le_refl n) x _ (by rw [toU_wrapI, toU_neg_one])]
  exact (wrapI_wrapI s false n x).trans (wrapI_of_in hn hx)

theorem orI_zero_right (s : Bool) {n : Nat} (hn : 0 < n) {x : Int} (hx : inI s n x) : orI s n x 0 = x := by
  unfold orI
  rw [toU_zero, Nat.or_zero, wrapI_toU]
  exact wrapI_of_in hn hx

theorem orI_zero_left (s : Bool) {n : Nat} (hn : 0 < n) {x : Int} (hx : inI s n x) : orI s n 0 x = x :=
  (orI_comm s n 0 x).trans (orI_zero_right s hn hx)

theorem notI_zero (s : Bool) (n : Nat) : notI s n 0 = wrapI s n (-1) := by
  unfold notI; simp

theorem notI_ones (s : Bool) {n : Nat} (hn : 0 < n) : notI s n (wrapI s n (-1)) = 0 := by
  unfold notI
  obtain ⟨k, hk⟩ := wrapI_eq_add_mul s n (-1)
  exact wrapI_unique hn (-k) (by rw [hk, Int.neg_mul]; omega) (inI_zero s n)

theorem andI_one (s : Bool) (n : Nat) (hn : 2 ≤ n) (x : Int) : andI s n x 1 = x % 2 := by
  have hN : (2 : Int) ≤ 2 ^ (n - 1) := pow_le_pow (a := 1) (b := n - 1) (by omega)
  have hN2 := pow_split (n := n) (by omega)
  rw [andI_low_mask s (k := 1) (by omega) x 1 (toU_of_lt (by omega) (by omega))]
  apply wrapI_of_in (by omega)
  rw [inI_iff s (by omega)]
  obtain ⟨_, hm, _⟩ := window s (n := n) (by omega)
  have : 0 ≤ x % 2 ^ 1 ∧ x % 2 ^ 1 < 2 := by omega
  omega

/-! ### `bitLen` and `leadingZeros` -/

theorem bitLen_zero : bitLen 0 = 0 := rfl

theorem bitLen_pos {a : Nat} (ha : 0 < a) : 0 < bitLen a := by
  unfold bitLen; rw [if_neg (by omega)]; omega

theorem bitLen_lb {a : Nat} (ha : 0 < a) : 2 ^ (bitLen a - 1) ≤ a := by
  unfold bitLen; rw [if_neg (by omega)]
  exact Nat.log2_self_le (by omega)

theorem bitLen_ub (a : Nat) : a < 2 ^ bitLen a := by
  unfold bitLen; split
  · subst_vars; decide
  · exact Nat.lt_log2_self

theorem bitLen_le_iff {v m : Nat} : bitLen v ≤ m ↔ v < 2 ^ m := by
  unfold bitLen
  by_cases h0 : v = 0
  · simp [h0, Nat.two_pow_pos]
  · rw [if_neg h0]; exact Nat.log2_lt h0

theorem bitLen_le {a N : Nat} (h : a < 2 ^ N) : bitLen a ≤ N := bitLen_le_iff.2 h

theorem bitLen_eq {a b : Nat} (hb : 0 < b) (h1 : 2 ^ (b - 1) ≤ a) (h2 : a < 2 ^ b) : bitLen a = b := by
  apply Nat.le_antisymm (bitLen_le h2)
  apply Nat.le_of_not_lt; intro hlt
  have h3 : 2 ^ bitLen a ≤ 2 ^ (b - 1) := Nat.pow_le_pow_right (by decide) (by omega)
  have h4 := bitLen_ub a
  omega

/-- `2^(L-1) ≤ a < 2^L` with `L = bitLen a`, scaled by `2^(p-L)`: shifted up to `p` bits, `a` has its top bit set and loses nothing -/
theorem shifted_normal {a p : Nat} (ha : 0 < a) (hlen : bitLen a ≤ p) :
    2 ^ (p - 1) ≤ a * 2 ^ (p - bitLen a) ∧ a * 2 ^ (p - bitLen a) < 2 ^ p := by
  have hbp := bitLen_pos ha
  have e1 : p - 1 = (bitLen a - 1) + (p - bitLen a) := by omega
  have e2 : p = bitLen a + (p - bitLen a) := by omega
  constructor
  · rw [e1, Nat.pow_add]; exact Nat.mul_le_mul_right _ (bitLen_lb ha)
  · conv => rhs; rw [e2, Nat.pow_add]
    exact Nat.mul_lt_mul_of_pos_right (bitLen_ub a) (Nat.two_pow_pos _)

theorem leadingZeros_of_lt {n : Nat} {x : Int} (h0 : 0 ≤ x) (h1 : x < 2 ^ n) : leadingZeros n x = n - bitLen x.toNat := by
  unfold leadingZeros; rw [toU_of_lt h0 h1]

/-- the normalising shift: `d << leading_zeros(d)` has its top bit set and loses nothing -/
theorem leadingZeros_spec {n : Nat} {d : Int} (hd0 : 0 < d) (hd : d < 2 ^ n) :
    leadingZeros n d < n ∧ (2 : Int) ^ (n - 1) ≤ d * 2 ^ leadingZeros n d ∧ d * 2 ^ leadingZeros n d < 2 ^ n := by
  obtain ⟨D, rfl⟩ := Int.eq_ofNat_of_zero_le (Int.le_of_lt hd0)
  have hD0 : 0 < D := by omega
  have hDn : D < 2 ^ n := by
    have : ((D : Nat) : Int) < ((2 ^ n : Nat) : Int) := by rw [natCast_two_pow]; exact hd
    exact_mod_cast this
  have hpos := bitLen_pos hD0
  have hle : bitLen D ≤ n := bitLen_le_iff.2 hDn
  have hz : leadingZeros n (D : Int) = n - bitLen D := by
    unfold leadingZeros
    rw [toU_of_lt (Int.le_of_lt hd0) hd, Int.toNat_natCast]
  obtain ⟨h1, h2⟩ := shifted_normal hD0 hle
  rw [hz, ← natCast_two_pow, ← natCast_two_pow, ← natCast_two_pow, ← Int.natCast_mul]
  exact ⟨by omega, Int.ofNat_le.2 h1, Int.ofNat_lt.2 h2⟩

/-- `trailingZerosNat` of a non-zero number that fits the fuel: the exponent of two in it -/
theorem trailingZerosNat_spec : ∀ (fuel x : Nat), x ≠ 0 → x < 2 ^ fuel →
    trailingZerosNat fuel x < fuel ∧ 2 ^ trailingZerosNat fuel x ∣ x ∧ ¬ 2 ^ (trailingZerosNat fuel x + 1) ∣ x := by
  intro fuel
  induction fuel with
  | zero => intro x h0 h1; simp at h1; omega
  | succ fuel ih =>
    intro x h0 h1
    by_cases hodd : x % 2 = 1
    · simp only [trailingZerosNat, if_pos hodd]
      refine ⟨by omega, by simp, ?_⟩
      simp only [Nat.zero_add, Nat.pow_one]; omega
    · simp only [trailingZerosNat, if_neg hodd]
      have hx : x = 2 * (x / 2) := by omega
      obtain ⟨h2, h3, h4⟩ := ih (x / 2) (by omega) (by rw [Nat.pow_succ] at h1; omega)
      refine ⟨by omega, ?_, ?_⟩
      · rw [hx, Nat.add_comm, Nat.pow_succ, Nat.mul_comm]
        have : 2 * (x / 2) / 2 = x / 2 := by omega
        rw [this]
        exact Nat.mul_dvd_mul_left 2 h3
      · intro hd
        apply h4
        have e : 2 ^ (1 + trailingZerosNat fuel (x / 2) + 1) = 2 * 2 ^ (trailingZerosNat fuel (x / 2) + 1) := by
          rw [Nat.add_comm 1, Nat.pow_succ _ (_ + 1), Nat.mul_comm]
        rw [e] at hd
        rw [hx] at hd
        have : 2 * (x / 2) / 2 = x / 2 := by omega
        rw [this] at hd
        exact Nat.dvd_of_mul_dvd_mul_left (by decide) hd

/-! ### Casts of naturals -/

theorem wrapU_natCast (n a : Nat) : wrapU n (a : Int) = ((a % 2 ^ n : Nat) : Int) := by
  simp [wrapU]

theorem toU_natCast (n a : Nat) : toU n (a : Int) = a % 2 ^ n := by
  apply Int.ofNat.inj
  show ((toU n (a : Int) : Nat) : Int) = ((a % 2 ^ n : Nat) : Int)
  rw [toU_emod, ← wrapU_natCast]; rfl

theorem orI_natCast (n a b : Nat) (ha : a < 2 ^ n) (hb : b < 2 ^ n) :
    orI false n (a : Int) (b : Int) = ((a ||| b : Nat) : Int) := by
  unfold orI
  rw [toU_natCast, toU_natCast, Nat.mod_eq_of_lt ha, Nat.mod_eq_of_lt hb]
  show wrapU n ((a ||| b : Nat) : Int) = _
  rw [wrapU_natCast, Nat.mod_eq_of_lt (Nat.or_lt_two_pow ha hb)]

theorem shlI_natCast (n a k : Nat) : shlI false n (a : Int) k = ((a * 2 ^ k % 2 ^ n : Nat) : Int) := by
  simp [shlI, wrapI, wrapU]

theorem shrI_natCast (a k : Nat) : shrI (a : Int) k = ((a / 2 ^ k : Nat) : Int) := by
  simp [shrI]

theorem inU_natCast (n x : Nat) : inI false n (x : Int) ↔ x < 2 ^ n := by
  rw [inU_iff]
  exact ⟨fun h => by exact_mod_cast h.2, fun h => ⟨Int.natCast_nonneg x, by exact_mod_cast h⟩⟩

theorem ovfI_natCast (n x : Nat) : ovfI false n (x : Int) = (((x % 2 ^ n : Nat) : Int), decide (2 ^ n ≤ x)) := by
  have h1 : wrapI false n (x : Int) = ((x % 2 ^ n : Nat) : Int) := by simp [wrapI, wrapU]
  have h2 : (!decide (inI false n (x : Int))) = decide (2 ^ n ≤ x) := by
    rw [Bool.eq_iff_iff]; simp [inU_natCast]
  rw [ovfI, h1, h2]

theorem shlI_one {n k : Nat} (hk : k < n) : shlI false n 1 k = ((2 ^ k : Nat) : Int) := by
  rw [show (1 : Int) = ((1 : Nat) : Int) from rfl, shlI_natCast, Nat.one_mul, Nat.mod_eq_of_lt (Nat.pow_lt_pow_right (by decide) hk)]

theorem natCast_mod_pow (a n : Nat) : ((a % 2 ^ n : Nat) : Int) = (a : Int) % 2 ^ n := by
  push_cast; rfl

/-! ### `Outcome`, and the unchecked primitives where no check fires -/

/-! `u*_of_in`: at either signedness, given that the exact result fits; `uadd_ok`, `usub_ok`, `umul_ok`: the unsigned instance, which needs
no `0 < n`; `uwdiv_ok`: the wrapping division checks nothing but the divisor. -/

theorem ok_false_bind {α β : Type} (v : α) (f : α → Outcome β) : (Outcome.ok v false >>= f) = f v := by
  show Outcome.bind (.ok v false) f = f v
  cases h : f v with
  | panic => simp only [Outcome.bind, h]
  | ok w d => simp only [Outcome.bind, h, Bool.false_or]

/-- a call whose result is known and carries no debug flag, then its continuation: how `checked_*(…).expect(…)` and the forms built on an
`overflowing_*` call are run -/
theorem bind_of_ok {α β : Type} {X : Outcome α} {v : α} (h : X = .ok v false) (F : α → Outcome β) : (X >>= F) = F v := by
  rw [h, ok_false_bind]

theorem panic_bind {α β : Type} (f : α → Outcome β) : (Outcome.panic >>= f) = .panic := rfl

theorem Outcome.panic_bind {α β : Type} (f : α → Outcome β) : (Outcome.panic >>= f) = .panic := rfl

theorem bind_eq_panic {α β : Type} (x : Outcome α) (f : α → Outcome β) (h : ∀ v, f v = .panic) :
    (x >>= f) = .panic := by
  show Outcome.bind x f = .panic
  cases x with
  | panic => rfl
  | ok v d => simp only [Outcome.bind, h v]

theorem Outcome.bind_ok_congr {α β : Type} (v : α) (d : Bool) {F G : α → Outcome β} (h : F v = G v) :
    (Outcome.ok v d >>= F) = (Outcome.ok v d >>= G) := by
  show Outcome.bind (.ok v d) F = Outcome.bind (.ok v d) G
  simp only [Outcome.bind, h]

theorem Outcome.chk_bind_true {α β : Type} (w : α) (F : α → Outcome β) : (Outcome.ok w true >>= F).chk = none := by
  change (Outcome.bind (.ok w true) F).chk = none
  cases hF : F w with
  | panic => simp only [Outcome.bind, hF]; rfl
  | ok u d => simp only [Outcome.bind, hF, Bool.true_or]; rfl

theorem pure_eq_ok {α : Type} (v : α) : (pure v : Outcome α) = .ok v false := rfl

/-- the shape of every unchecked primitive, at an exact result that fits: the value, and no check fires -/
theorem ok_wrap_of_in {s : Bool} {n : Nat} (hn : 0 < n) {E : Int} (h : inI s n E) :
    (Outcome.ok (wrapI s n E) (!decide (inI s n E)) : Outcome Int) = .ok E false := by
  rw [wrapI_of_in hn h, decide_eq_true h]
  rfl

theorem uadd_of_in {s : Bool} {n : Nat} (hn : 0 < n) {x y : Int} (h : inI s n (x + y)) :
    uadd s n x y = .ok (x + y) false := ok_wrap_of_in hn h

theorem usub_of_in {s : Bool} {n : Nat} (hn : 0 < n) {x y : Int} (h : inI s n (x - y)) :
    usub s n x y = .ok (x - y) false := ok_wrap_of_in hn h

theorem umul_of_in {s : Bool} {n : Nat} (hn : 0 < n) {x y : Int} (h : inI s n (x * y)) :
    umul s n x y = .ok (x * y) false := ok_wrap_of_in hn h

theorem uneg_of_in {s : Bool} {n : Nat} (hn : 0 < n) {x : Int} (h : inI s n (-x)) :
    uneg s n x = .ok (-x) false := ok_wrap_of_in hn h

theorem uadd_ok {n : Nat} {a b : Int} (h : inI false n (a + b)) : uadd false n a b = .ok (a + b) false := by
  unfold uadd; simp [h, wrapI, wrapU_of_in h]

theorem usub_ok {n : Nat} {a b : Int} (h : inI false n (a - b)) : usub false n a b = .ok (a - b) false := by
  unfold usub; simp [h, wrapI, wrapU_of_in h]

/-- the `u32` subtraction `NBITS - frac_nbits` -/
theorem usub_nbits (n f : Nat) (hn32 : n < 2 ^ 31) (hf : f ≤ n) :
    usub false 32 (n : Int) (f : Int) = .ok ((n - f : Nat) : Int) false := by
  rw [usub_ok ((inU_iff _ _).2 (by omega))]
  congr 1; omega

theorem umul_ok {n : Nat} {a b : Int} (h : inI false n (a * b)) : umul false n a b = .ok (a * b) false := by
  unfold umul; simp [h, wrapI, wrapU_of_in h]

theorem udiv_of_in {s : Bool} {n : Nat} {a b : Int} (hb : b ≠ 0) (h : inI s n (Int.tdiv a b)) :
    udiv s n a b = .ok (Int.tdiv a b) false := by
  unfold udiv; simp [hb, h]

theorem uwdiv_ok (s : Bool) (n : Nat) (a : Int) {b : Int} (hb : b ≠ 0) :
    uwdiv s n a b = .ok (wrapI s n (Int.tdiv a b)) false := by
  unfold uwdiv; rw [if_neg hb]

theorem udiv_of_not_in {s : Bool} {n : Nat} {a b : Int} (hb : b ≠ 0) (h : ¬ inI s n (Int.tdiv a b)) :
    udiv s n a b = .panic := by
  unfold udiv; rw [if_neg hb, if_pos h]

theorem urem_of_in {s : Bool} {n : Nat} {a b : Int} (hb : b ≠ 0) (h : inI s n (Int.tdiv a b)) :
    urem s n a b = .ok (Int.tmod a b) false := by
  unfold urem; simp [hb, h]

theorem ushl_of_lt (s : Bool) {n k : Nat} (hk : k < n) (a : Int) : ushl s n a k = .ok (shlI s n a k) false := by
  unfold ushl; rw [Nat.mod_eq_of_lt hk, decide_eq_false (Nat.not_le.2 hk)]

theorem ushl_of_in {s : Bool} {n k : Nat} {x : Int} (hk : k < n) (hin : inI s n (x * 2 ^ k)) :
    ushl s n x k = .ok (x * 2 ^ k) false := by
  rw [ushl_of_lt s hk, shlI, wrapI_of_in (by omega) hin]

theorem ushr_of_lt {n k : Nat} (hk : k < n) (a : Int) : ushr n a k = .ok (shrI a k) false := by
  unfold ushr; rw [Nat.mod_eq_of_lt hk, decide_eq_false (Nat.not_le.2 hk)]

/-! ### Readings at a layout -/

theorem Layout.ovf_add_period (L : Layout) (hn : 0 < L.n) {r : Int} (hr : inRange L r) {K : Int} (hK : K ≠ 0) :
    L.ovf (r + K * 2 ^ L.n) = (r, true) := by
  obtain ⟨hM, _, _, _⟩ := window L.signed hn
  have hN := two_pow_pos L.n
  have hfar := dvd_far hN (Int.dvd_mul_left K _) (Int.mul_ne_zero hK (Int.ne_of_gt hN))
  have hout : ¬ inI L.signed L.n (r + K * 2 ^ L.n) := by unfold inRange inI at *; omega
  exact (ovfI_of_not_in hout).trans (by rw [wrapI_add_mul, wrapI_of_in hn hr])

/-! `L.wrap`, `L.ovf`, `L.chk`, `L.clamp`, `L.min`, `L.max`, `inRange L` are `wrapI`, `ovfI`, `chkI`, `clampI`, `minI`, `maxI`, `inI` at
`L.signed`, `L.n`; each lemma here is the fact of `PrimLemmas.lean` read at a layout. -/

namespace Layout

theorem inRange_min (L : Layout) : inRange L L.min := inI_minI L.signed L.n
theorem inRange_max (L : Layout) : inRange L L.max := inI_maxI L.signed L.n
theorem inRange_zero (L : Layout) : inRange L 0 := inI_zero L.signed L.n

theorem ovf_of_in (L : Layout) (hn : 0 < L.n) {e : Int} (h : inRange L e) : L.ovf e = (e, false) := ovfI_of_in hn h

theorem chk_of_in (L : Layout) {e : Int} (h : inRange L e) : L.chk e = some e := chkI_of_in h

theorem chk_of_not_in (L : Layout) {e : Int} (h : ¬ inRange L e) : L.chk e = none := chkI_of_not_in h

theorem clamp_of_in (L : Layout) {e : Int} (h : inRange L e) : L.clamp e = e := clampI_of_in h

theorem chk_of_ovf (L : Layout) (hn : 0 < L.n) (e : Int) :
    (if (L.ovf e).2 = true then none else some (L.ovf e).1) = L.chk e :=
  chkI_of_ovfI hn e

theorem ovf_fst (L : Layout) (e : Int) : (L.ovf e).1 = L.wrap e := rfl
theorem ovf_snd (L : Layout) (e : Int) : (L.ovf e).2 = !decide (inRange L e) := rfl

theorem wrap_of_in (L : Layout) (hn : 0 < L.n) {v : Int} (h : inRange L v) : L.wrap v = v := wrapI_of_in hn h
theorem wrap_in (L : Layout) (hn : 0 < L.n) (e : Int) : inRange L (L.wrap e) := wrapI_in hn e
theorem wrap_add_left (L : Layout) (u y : Int) : L.wrap (L.wrap u + y) = L.wrap (u + y) := wrapI_add_left _ _ _ u y

end Layout

theorem WrapPf.wrap_wrap (L : Layout) (e : Int) : L.wrap (L.wrap e) = L.wrap e := wrapI_wrapI _ _ _ _

/-! which values a layout with `k` bits above the binary point holds (in the namespace of the transcendental proofs, which ask this) -/
namespace SqrtPf

theorem inRange_nn (D : Layout) {v : Int} (h0 : 0 ≤ v) (h : v ≤ D.max) : inRange D v :=
  ⟨Int.le_trans (minI_nonpos D.signed D.n) h0, h⟩

theorem pow_le_max_succ (D : Layout) (hfn : D.f ≤ D.n) (k : Nat) (hint : (if D.signed then k + 1 else k) ≤ D.intBits) :
    2 ^ (k + D.f) ≤ D.max + 1 := by
  show 2 ^ (k + D.f) ≤ maxI D.signed D.n + 1
  unfold Layout.intBits at hint
  cases hs : D.signed
  · rw [hs] at hint
    have := pow_le_pow (a := k + D.f) (b := D.n) (by simp at hint; omega)
    simp [maxI]; omega
  · rw [hs] at hint
    have := pow_le_pow (a := k + D.f) (b := D.n - 1) (by simp at hint; omega)
    simp [maxI]; omega

theorem inRange_bits_nn (D : Layout) (hfn : D.f ≤ D.n) (k : Nat) (hint : (if D.signed then k + 1 else k) ≤ D.intBits) {v : Int}
    (h0 : 0 ≤ v) (h1 : v < 2 ^ (k + D.f)) : inRange D v :=
  inRange_nn D h0 (by have := pow_le_max_succ D hfn k hint; omega)

theorem inRange_bits (D : Layout) (hs : D.signed = true) (k : Nat) (hint : k + 1 ≤ D.intBits) {v : Int}
    (h0 : -(2 ^ (k + D.f)) ≤ v) (h1 : v < 2 ^ (k + D.f)) : inRange D v := by
  unfold Layout.intBits at hint
  have hp : (2 : Int) ^ (k + D.f) ≤ 2 ^ (D.n - 1) := pow_le_pow (by omega)
  unfold inRange
  rw [hs, inS_iff]
  omega

end SqrtPf

namespace Layout

/-! what `L.valid` (one of the five widths, `f ≤ n`; the latter is `h.2`) says about the width -/

theorem valid.pos {L : Layout} (h : L.valid) : 0 < L.n := by have := h.1; omega
theorem valid.two_le {L : Layout} (h : L.valid) : 2 ≤ L.n := by have := h.1; omega
theorem valid.eight_le {L : Layout} (h : L.valid) : 8 ≤ L.n := by have := h.1; omega
theorem valid.le128 {L : Layout} (h : L.valid) : L.n ≤ 128 := by have := h.1; omega

end Layout

end Sfx
