import SfxModel.Rem
import SfxProofs.Forms
import SfxProofs.RoundMasks
import SfxProofs.RemLemmas
/-
  Rem.lean — remainder / Euclidean-division property of the model in `SfxModel/Rem.lean` (core Lean only).

  A primitive-integer divisor `k` stands for the unbounded bits `k·2^f`: `% k` and `div_euclid_int` work on `floorInt a / k = a / (k·2^f)`,
  `rem_euclid_int` on the unsigned tail `remEuclidIntTail` and an `orI` recombination.
-/
namespace Sfx
open Layout

theorem remEuclid_spec (L : Layout) (a b : Int) (hb0 : b ≠ 0) :
    L.remEuclid a b = .ok (a % b) false ∧ L.checkedRemEuclid a b = .ok (some (a % b)) false := by
  have h : L.checkedRemEuclid a b = .ok (some (a % b)) false := by
    unfold checkedRemEuclid
    rw [if_neg hb0]
    by_cases h : (L.signed && decide (b = -1)) = true
    · rw [if_pos h]
      simp only [Bool.and_eq_true, decide_eq_true_eq] at h
      rw [h.2]; simp [pure]
    · rw [if_neg h]; rfl
  exact ⟨(bind_of_ok h _).trans rfl, h⟩

theorem rem_zero (L : Layout) (a : Int) :
    L.checkedRem a 0 = .ok none false ∧ L.remOp a 0 = .panic ∧
    L.checkedRemEuclid a 0 = .ok none false ∧ L.remEuclid a 0 = .panic := by
  have h1 : L.checkedRem a 0 = .ok none false := by simp [checkedRem, pure]
  have h2 : L.checkedRemEuclid a 0 = .ok none false := by simp [checkedRemEuclid, pure]
  exact ⟨h1, (bind_of_ok h1 _).trans rfl, h2, (bind_of_ok h2 _).trans rfl⟩

theorem remOp_zero (L : Layout) (a : Int) : L.remOp a 0 = .panic := (rem_zero L a).2.1
theorem remEuclid_zero (L : Layout) (a : Int) : L.remEuclid a 0 = .panic := (rem_zero L a).2.2.2

theorem overflowingDivEuclid_ok (L : Layout) (hn : 0 < L.n) (a b : Int) (hb0 : b ≠ 0) :
    L.overflowingDivEuclid a b = .ok (L.ovf ((a / b) * 2 ^ L.f)) false := by
  unfold overflowingDivEuclid
  rw [if_neg hb0, ← ovf_fromInt L hn]
  rfl

/-- sign of the out-of-range Euclidean quotient, as used by `saturating_div_euclid` -/
theorem clamp_divEuclid (L : Layout) (a b : Int) (h : ¬ inRange L ((a / b) * 2 ^ L.f)) :
    (if (decide (a > 0) == decide (b > 0)) = true then L.max else L.min) = L.clamp ((a / b) * 2 ^ L.f) := by
  have hP := Int.le_of_lt (two_pow_pos L.f)
  by_cases hs : (decide (a > 0) == decide (b > 0)) = true
  · rw [if_pos hs]
    have hq : 0 ≤ a / b := by
      by_cases ha : a > 0
      · have hb : b > 0 := by simpa [ha] using hs
        exact Int.ediv_nonneg (by omega) (by omega)
      · have hb : ¬ b > 0 := by simpa [ha] using hs
        exact Int.ediv_nonneg_of_nonpos_of_nonpos (by omega) (by omega)
    exact (clampI_of_nonneg h (Int.mul_nonneg hq hP)).symm
  · rw [if_neg hs]
    have hq : a / b ≤ 0 := by
      by_cases ha : a > 0
      · have hb : ¬ b > 0 := by simpa [ha] using hs
        exact Int.ediv_nonpos_of_nonneg_of_nonpos (by omega) (by omega)
      · have hb : b > 0 := by simpa [ha] using hs
        exact Int.ediv_nonpos_of_nonpos_of_neg (by omega) hb
    exact (clampI_of_nonpos h (Int.mul_nonpos_of_nonpos_of_nonneg hq hP)).symm

theorem divEuclid_forms (L : Layout) (hn : 0 < L.n) (a b : Int) (hb0 : b ≠ 0) :
    L.overflowingDivEuclid a b = .ok (L.ovf ((a / b) * 2 ^ L.f)) false ∧
    L.checkedDivEuclid a b = .ok (L.chk ((a / b) * 2 ^ L.f)) false ∧
    L.wrappingDivEuclid a b = .ok (L.wrap ((a / b) * 2 ^ L.f)) false ∧
    L.saturatingDivEuclid a b = .ok (L.clamp ((a / b) * 2 ^ L.f)) false ∧
    L.divEuclid a b = .ok (L.wrap ((a / b) * 2 ^ L.f)) (!decide (inRange L ((a / b) * 2 ^ L.f))) := by
  have h := overflowingDivEuclid_ok L hn a b hb0
  obtain ⟨hc', hw, hp⟩ := ovf_forms L hn h
  have hc : L.checkedDivEuclid a b = .ok (L.chk ((a / b) * 2 ^ L.f)) false := by
    unfold checkedDivEuclid; rw [if_neg hb0]; exact hc'
  refine ⟨h, hc, hw, ?_, hp⟩
  unfold saturatingDivEuclid
  rw [if_neg hb0, hc]
  by_cases hin : inRange L ((a / b) * 2 ^ L.f)
  · rw [chk_of_in L hin, clamp_of_in L hin]; rfl
  · rw [chk_of_not_in L hin, ← clamp_divEuclid L a b hin]; rfl

theorem divEuclid_zero (L : Layout) (a : Int) :
    L.checkedDivEuclid a 0 = .ok none false ∧ L.overflowingDivEuclid a 0 = .panic ∧
    L.wrappingDivEuclid a 0 = .panic ∧ L.saturatingDivEuclid a 0 = .panic ∧ L.divEuclid a 0 = .panic := by
  have h : L.overflowingDivEuclid a 0 = .panic := by simp [overflowingDivEuclid]
  refine ⟨by simp [checkedDivEuclid, pure], h, ?_, by simp [saturatingDivEuclid], ?_⟩
  · simp [wrappingDivEuclid, h, bind, Outcome.bind]
  · simp [divEuclid, h, bind, Outcome.bind]

theorem wrappingDivEuclid_zero (L : Layout) (a : Int) : L.wrappingDivEuclid a 0 = .panic := (divEuclid_zero L a).2.2.1

theorem floorInt_eq (L : Layout) (hn : 0 < L.n) (hf : L.f ≤ L.n) (a : Int) (ha : inRange L a) :
    L.floorInt a = a / 2 ^ L.f := by
  unfold floorInt
  by_cases h0 : L.intBits = 0
  · rw [if_pos h0, show L.f = L.n by unfold intBits at h0; omega, ediv_of_in hn ha]
  · rw [if_neg h0]; rfl

theorem overflowingDivEuclidInt_ok (L : Layout) (hn : 0 < L.n) (hf : L.f ≤ L.n) (a k : Int)
    (ha : inRange L a) (hk0 : k ≠ 0) :
    L.overflowingDivEuclidInt a k = .ok (L.ovf ((a / (k * 2 ^ L.f)) * 2 ^ L.f)) false := by
  unfold overflowingDivEuclidInt
  have hq : L.floorInt a / k = a / (k * 2 ^ L.f) := by
    rw [floorInt_eq L hn hf a ha, Int.ediv_ediv_of_nonneg (Int.le_of_lt (two_pow_pos L.f)), Int.mul_comm]
  rw [if_neg hk0, ← ovf_fromInt L hn, hq]
  rfl

theorem divEuclidInt_forms (L : Layout) (hn : 0 < L.n) (hf : L.f ≤ L.n) (a k : Int) (ha : inRange L a) (hk0 : k ≠ 0) :
    L.overflowingDivEuclidInt a k = .ok (L.ovf ((a / (k * 2 ^ L.f)) * 2 ^ L.f)) false ∧
    L.checkedDivEuclidInt a k = .ok (L.chk ((a / (k * 2 ^ L.f)) * 2 ^ L.f)) false ∧
    L.wrappingDivEuclidInt a k = .ok (L.wrap ((a / (k * 2 ^ L.f)) * 2 ^ L.f)) false ∧
    L.divEuclidInt a k = .ok (L.wrap ((a / (k * 2 ^ L.f)) * 2 ^ L.f))
      (!decide (inRange L ((a / (k * 2 ^ L.f)) * 2 ^ L.f))) := by
  have h := overflowingDivEuclidInt_ok L hn hf a k ha hk0
  obtain ⟨hc, hw, hp⟩ := ovf_forms L hn h
  refine ⟨h, ?_, hw, hp⟩
  unfold checkedDivEuclidInt; rw [if_neg hk0]; exact hc

theorem tmod_far {a B M : Int} (ha : -M ≤ a ∧ a < M) (hB : ¬ (-M ≤ B ∧ B < M)) :
    Int.tmod a B = if a = -M ∧ B = M then 0 else a := by
  by_cases hc : a = -M ∧ B = M
  · rw [if_pos hc, hc.1, hc.2, Int.neg_tmod_self]
  · rw [if_neg hc]; exact tmod_eq_self (by omega)

/-- the `None` branch of `checked_rem_int` for a signed type: `|k·2^f| ≥ 2^(n-1)` -/
theorem remInt_none_signed (n f : Nat) (hn : 0 < n) (hf : f ≤ n) (a k : Int)
    (ha : inI true n a) (hk : inI true n k) (hB : ¬ inI true n (k * 2 ^ f)) :
    (if a = minI true n ∧ (n - f > 0 ∧ k = shlI true n 1 (n - f - 1)) then 0 else a)
      = Int.tmod a (k * 2 ^ f) := by
  have hM := two_pow_pos (n - 1)
  have hP := two_pow_pos f
  have hf0 : f ≠ 0 := by
    intro h; subst h; apply hB; simpa using hk
  rw [inS_iff] at ha hk hB
  rw [tmod_far ha hB]
  have hmin : minI true n = -(2 ^ (n - 1)) := by simp [minI]
  have hiff : (n - f > 0 ∧ k = shlI true n 1 (n - f - 1)) ↔ k * 2 ^ f = 2 ^ (n - 1) := by
    by_cases hfn : f < n
    · have hshl : shlI true n 1 (n - f - 1) = 2 ^ (n - f - 1) := by
        unfold shlI wrapI
        rw [Int.one_mul]
        apply wrapS_of_in (by omega)
        rw [inS_iff]
        have := two_pow_pos (n - f - 1)
        have : (2 : Int) ^ (n - f - 1) < 2 ^ (n - 1) := pow_lt_pow (by omega)
        omega
      rw [hshl, pow_pred_split hfn]
      exact ⟨fun h => by rw [h.2], fun h => ⟨Nat.sub_pos_of_lt hfn, Int.eq_of_mul_eq_mul_right (Int.ne_of_gt hP) h⟩⟩
    · have hfe : f = n := by omega
      refine ⟨fun h => by omega, fun h => ?_⟩
      exfalso
      rw [hfe, pow_split (n := n) (by omega)] at h
      have h1 : 0 < k := Int.pos_of_mul_pos_left (b := 2 * 2 ^ (n - 1)) (by omega) (by omega)
      have : 1 * (2 * 2 ^ (n - 1)) ≤ k * (2 * 2 ^ (n - 1)) := Int.mul_le_mul_of_nonneg_right (by omega) (by omega)
      omega
  simp only [hmin, hiff]

theorem checkedRemInt_ok (L : Layout) (hn : 0 < L.n) (hf : L.f ≤ L.n) (a k : Int)
    (ha : inRange L a) (hk : inRange L k) (hk0 : k ≠ 0) :
    L.checkedRemInt a k = .ok (some (Int.tmod a (k * 2 ^ L.f))) false := by
  have hP := two_pow_pos L.f
  have hB0 : k * 2 ^ L.f ≠ 0 := Int.mul_ne_zero hk0 (Int.ne_of_gt hP)
  unfold checkedRemInt checkedFromInt
  by_cases hin : inRange L (k * 2 ^ L.f)
  · rw [chk_of_in L hin]
    exact checkedRem_ok L a _ ha hin hB0
  · rw [chk_of_not_in L hin]
    simp only
    unfold inRange at ha hk hin
    cases hs : L.signed
    · rw [hs] at ha hk hin
      simp only [Bool.false_eq_true, if_false, pure]
      rw [inU_iff] at ha hk hin
      have h1 : 1 * 2 ^ L.f ≤ k * 2 ^ L.f := Int.mul_le_mul_of_nonneg_right (by omega) (Int.le_of_lt hP)
      rw [Int.tmod_eq_of_lt ha.1 (by omega)]
    · rw [hs] at ha hk hin
      simp only [if_true, pure]
      have := remInt_none_signed L.n L.f hn hf a k ha hk hin
      unfold Layout.min intBits
      rw [hs, this]

theorem remInt_spec (L : Layout) (hn : 0 < L.n) (hf : L.f ≤ L.n) (a k : Int)
    (ha : inRange L a) (hk : inRange L k) (hk0 : k ≠ 0) :
    L.remIntOp a k = .ok (Int.tmod a (k * 2 ^ L.f)) false ∧
    L.checkedRemInt a k = .ok (some (Int.tmod a (k * 2 ^ L.f))) false := by
  have h := checkedRemInt_ok L hn hf a k ha hk hk0
  exact ⟨(bind_of_ok h _).trans rfl, h⟩

theorem emod_of_tmod_nonneg {a B : Int} (h : 0 ≤ Int.tmod a B) : a % B = Int.tmod a B := by
  rw [Int.emod_eq_tmod]
  by_cases hc : 0 ≤ a ∨ B ∣ a
  · rw [if_pos hc]; omega
  · exfalso; apply hc; right
    have hb := (tmod_bounds a B).2 (by omega)
    exact Int.dvd_of_tmod_eq_zero (by omega)

theorem emod_of_tmod_neg {a k P : Int} (hP : 0 < P) (hk0 : k ≠ 0) (h : Int.tmod a (k * P) < 0) :
    a % (k * P) = Int.tmod a (k * P) + (k.natAbs : Int) * P ∧
    -Int.tmod a (k * P) < (k.natAbs : Int) * P := by
  have hB0 : k * P ≠ 0 := Int.mul_ne_zero hk0 (Int.ne_of_gt hP)
  have hab : ((k * P).natAbs : Int) = (k.natAbs : Int) * P := by
    rw [Int.natAbs_mul, Int.natCast_mul, Int.natAbs_of_nonneg (Int.le_of_lt hP)]
  constructor
  · rw [Int.emod_eq_tmod, ← hab]
    by_cases hc : 0 ≤ a ∨ (k * P) ∣ a
    · exfalso
      rcases hc with hc | hc
      · have := Int.tmod_nonneg (k * P) hc; omega
      · have := Int.tmod_eq_zero_of_dvd hc; omega
    · rw [if_neg hc]
  · rw [← hab]
    have hx : (a.tmod (k * P)).natAbs = a.natAbs % (k * P).natAbs := Int.natAbs_tmod a _
    have : a.natAbs % (k * P).natAbs < (k * P).natAbs := Nat.mod_lt _ (by omega)
    omega

/-- the fraction stays inside the grid cell of `A·2^f`, and the range is a union of cells -/
theorem tail_combine (L : Layout) (hfn : L.f < L.n) (A rf : Int) (h0 : 0 ≤ rf) (h1 : rf < 2 ^ L.f) :
    (orI L.signed L.n (L.ovf (A * 2 ^ L.f)).1 rf, (L.ovf (A * 2 ^ L.f)).2) = L.ovf (A * 2 ^ L.f + rf) := by
  have hor : orI L.signed L.n (L.wrap (A * 2 ^ L.f)) rf = L.wrap (A * 2 ^ L.f + rf) := by
    unfold wrap
    rw [orI_comm, orI_eq_add _ _ _ _ _ h0 h1, Int.add_comm]
  have hiff : inRange L (A * 2 ^ L.f + rf) ↔ inRange L (A * 2 ^ L.f) := inI_cell_add _ hfn A h0 h1
  show (orI L.signed L.n (L.wrap _) rf, !decide (inRange L _)) = (L.wrap _, !decide (inRange L _))
  rw [hor, decide_eq_decide.mpr hiff]

/-- the unsigned tail divides `rem + |k|·2^f` by `2^f`: integer part from the magnitudes, fraction from the mask -/
theorem remEuclidIntTail_eq (L : Layout) (hs : L.signed = true) (hn : 0 < L.n) (hfn : L.f < L.n) (rem k : Int)
    (hrem : inRange L rem) (hk : inRange L k) (hneg : rem < 0) (hlt : -rem < (k.natAbs : Int) * 2 ^ L.f) :
    L.remEuclidIntTail rem k =
      .ok ((rem + (k.natAbs : Int) * 2 ^ L.f) / 2 ^ L.f, (rem + (k.natAbs : Int) * 2 ^ L.f) % 2 ^ L.f) false := by
  have hP := two_pow_pos L.f
  have hM := two_pow_pos (L.n - 1)
  have hsp := pow_split (n := L.n) (by omega)
  unfold inRange at hrem hk
  rw [hs] at hrem hk
  have hrem' := (inS_iff _ _).1 hrem
  have hKabs := wrapU_abs (by omega) hk
  have hKle : (k.natAbs : Int) ≤ 2 ^ (L.n - 1) := by rw [inS_iff] at hk; omega
  clear hk
  generalize (k.natAbs : Int) = K at *
  have hri0 : 0 ≤ (-rem) / 2 ^ L.f := Int.ediv_nonneg (by omega) (Int.le_of_lt hP)
  have hri1 : (-rem) / 2 ^ L.f < K := Int.ediv_lt_of_lt_mul hP hlt
  have hri := neg_ediv_floor rem hP
  rw [Int.add_mul_ediv_right _ _ (Int.ne_of_gt hP), Int.add_mul_emod_self_right]
  unfold remEuclidIntTail
  simp only []
  have hRabs := wrapU_abs (by omega) hrem
  rw [if_pos hneg, show (rem.natAbs : Int) = -rem by omega] at hRabs
  rw [hs, hKabs, hRabs, fracPart_of_lt L hfn]
  unfold shrI
  rw [usub_of_in (by omega) (by rw [inU_iff]; omega), ok_false_bind,
    usub_of_in (by omega) (by rw [inU_iff]; split <;> omega), ok_false_bind]
  show Outcome.ok _ false = _
  congr 2
  omega

theorem overflowingRemEuclidInt_ok (L : Layout) (hn : 0 < L.n) (hf : L.f ≤ L.n) (a k : Int)
    (ha : inRange L a) (hk : inRange L k) (hk0 : k ≠ 0) :
    L.overflowingRemEuclidInt a k = .ok (L.ovf (a % (k * 2 ^ L.f))) false := by
  have hremin : inRange L (Int.tmod a (k * 2 ^ L.f)) := tmod_in _ ha
  unfold overflowingRemEuclidInt
  rw [(remInt_spec L hn hf a k ha hk hk0).1]
  by_cases hs : L.signed = true
  · rw [if_pos hs, ok_false_bind]
    by_cases h0 : Int.tmod a (k * 2 ^ L.f) ≥ 0
    · rw [if_pos h0, emod_of_tmod_nonneg h0, ovf_of_in L hn hremin]; rfl
    · rw [if_neg h0]
      have hneg : Int.tmod a (k * 2 ^ L.f) < 0 := by omega
      obtain ⟨hE, hlt⟩ := emod_of_tmod_neg (two_pow_pos L.f) hk0 hneg
      rw [hE]
      by_cases hi : L.intBits = 0
      · have ho := ovf_add_period L hn hremin (K := (k.natAbs : Int)) (by omega)
        rw [← show L.f = L.n by unfold intBits at hi; omega] at ho
        rw [if_pos hi, ho]
        rfl
      · have hfn : L.f < L.n := by unfold intBits at hi; omega
        have hP := two_pow_pos L.f
        rw [if_neg hi, remEuclidIntTail_eq L hs hn hfn _ k hremin hk hneg hlt, ok_false_bind]
        refine congrArg (Outcome.ok · false) ((tail_combine L hfn _ _ (Int.emod_nonneg _ (Int.ne_of_gt hP))
          (Int.emod_lt_of_pos _ hP)).trans ?_)
        rw [Int.mul_comm, Int.add_comm, Int.emod_add_mul_ediv]
  · have hs' : L.signed = false := by simpa using hs
    rw [if_neg hs, ok_false_bind]
    unfold inRange at ha
    rw [hs', inU_iff] at ha
    rw [emod_of_tmod_nonneg (Int.tmod_nonneg _ ha.1), ovf_of_in L hn hremin]; rfl

/-- `checked_rem_euclid_int` and `overflowing_rem_euclid_int` run the same steps on the remainder `rem` -/
theorem checkedRemEuclidInt_eq (L : Layout) (hn : 0 < L.n) (a k rem : Int)
    (hc : L.checkedRemInt a k = .ok (some rem) false) (hr : L.remIntOp a k = .ok rem false) :
    L.checkedRemEuclidInt a k =
      (do let (ans, o) ← L.overflowingRemEuclidInt a k; pure (if o then none else some ans)) := by
  unfold checkedRemEuclidInt overflowingRemEuclidInt
  rw [hc, hr]
  cases L.signed
  · rfl
  · simp only [if_true, ok_false_bind]
    by_cases h0 : rem ≥ 0
    · rw [if_pos h0, if_pos h0]; rfl
    · rw [if_neg h0, if_neg h0]
      by_cases hi : L.intBits = 0
      · rw [if_pos hi, if_pos hi]; rfl
      · rw [if_neg hi, if_neg hi]
        cases L.remEuclidIntTail rem k with
        | panic => rfl
        | ok v d =>
          obtain ⟨A, rf⟩ := v
          simp only [bind, Outcome.bind, pure, Bool.or_false]
          rw [← chk_of_ovf L hn]
          cases (L.ovf (A * 2 ^ L.f)).2 <;> rfl

theorem checkedRemEuclidInt_ok (L : Layout) (hn : 0 < L.n) (hf : L.f ≤ L.n) (a k : Int)
    (ha : inRange L a) (hk : inRange L k) (hk0 : k ≠ 0) :
    L.checkedRemEuclidInt a k = .ok (L.chk (a % (k * 2 ^ L.f))) false := by
  rw [checkedRemEuclidInt_eq L (by omega) a k _ (checkedRemInt_ok L hn hf a k ha hk hk0) (remInt_spec L hn hf a k ha hk hk0).1]
  exact (ovf_forms L (by omega) (overflowingRemEuclidInt_ok L hn hf a k ha hk hk0)).1

theorem remEuclidInt_forms (L : Layout) (hn : 0 < L.n) (hf : L.f ≤ L.n) (a k : Int)
    (ha : inRange L a) (hk : inRange L k) (hk0 : k ≠ 0) :
    L.overflowingRemEuclidInt a k = .ok (L.ovf (a % (k * 2 ^ L.f))) false ∧
    L.checkedRemEuclidInt a k = .ok (L.chk (a % (k * 2 ^ L.f))) false ∧
    L.wrappingRemEuclidInt a k = .ok (L.wrap (a % (k * 2 ^ L.f))) false ∧
    L.remEuclidInt a k = .ok (L.wrap (a % (k * 2 ^ L.f))) (!decide (inRange L (a % (k * 2 ^ L.f)))) := by
  have h := overflowingRemEuclidInt_ok L hn hf a k ha hk hk0
  obtain ⟨_, hw, hp⟩ := ovf_forms L (by omega) h
  exact ⟨h, checkedRemEuclidInt_ok L hn hf a k ha hk hk0, hw, hp⟩

theorem int_zero (L : Layout) (a : Int) :
    L.checkedRemInt a 0 = .ok none false ∧ L.remIntOp a 0 = .panic ∧
    L.checkedRemEuclidInt a 0 = .ok none false ∧ L.overflowingRemEuclidInt a 0 = .panic ∧
    L.checkedDivEuclidInt a 0 = .ok none false ∧ L.overflowingDivEuclidInt a 0 = .panic := by
  have h1 : L.checkedRemInt a 0 = .ok none false := by
    unfold checkedRemInt checkedFromInt
    rw [Int.zero_mul, chk_of_in L (inI_zero L.signed L.n)]
    simp [checkedRem, pure]
  have h2 : L.remIntOp a 0 = .panic := (bind_of_ok h1 _).trans rfl
  refine ⟨h1, h2, ?_, ?_, by simp [checkedDivEuclidInt, pure], by simp [overflowingDivEuclidInt]⟩
  · unfold checkedRemEuclidInt
    rw [h1]
    cases L.signed <;> simp [bind, Outcome.bind, pure]
  · unfold overflowingRemEuclidInt
    rw [h2]
    cases L.signed <;> simp [bind, Outcome.bind]

theorem remIntOp_zero (L : Layout) (a : Int) : L.remIntOp a 0 = .panic := (int_zero L a).2.1

theorem wrappingRemEuclidInt_zero (L : Layout) (a : Int) : L.wrappingRemEuclidInt a 0 = .panic := by
  unfold wrappingRemEuclidInt; rw [(int_zero L a).2.2.2.1]; rfl

theorem wrappingDivEuclidInt_zero (L : Layout) (a : Int) : L.wrappingDivEuclidInt a 0 = .panic := by
  unfold wrappingDivEuclidInt; rw [(int_zero L a).2.2.2.2.2]; rfl

end Sfx

#print axioms Sfx.remEuclid_spec
#print axioms Sfx.rem_zero
#print axioms Sfx.divEuclid_forms
#print axioms Sfx.divEuclid_zero
#print axioms Sfx.divEuclidInt_forms
#print axioms Sfx.remInt_spec
#print axioms Sfx.remEuclidInt_forms
#print axioms Sfx.int_zero
