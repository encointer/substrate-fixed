import SfxModel.Rem
import SfxProofs.PrimLemmas
/-
  RemLemmas.lean — core Lean only: the `%` operator on fixed-point operands (`rem_spec`, which `TrigModel` needs without the
  rest of `Rem.lean`), and the flag combination of `overflowing_div_euclid` (`ovf_fromInt`).
-/
namespace Sfx

open Layout in
theorem checkedRem_ok (L : Layout) (a b : Int) (ha : inRange L a) (hb : inRange L b) (hb0 : b ≠ 0) :
    L.checkedRem a b = .ok (some (Int.tmod a b)) false := by
  unfold checkedRem
  rw [if_neg hb0]
  by_cases h : (L.signed && decide (b = -1)) = true
  · rw [if_pos h]
    simp only [Bool.and_eq_true, decide_eq_true_eq] at h
    rw [h.2]; simp [pure]
  · rw [if_neg h]
    have hin : inI L.signed L.n (Int.tdiv a b) := by
      apply tdiv_in ha hb hb0
      intro hh; apply h; simp [hh.1, hh.2]
    rw [urem_of_in hb0 hin]
    rfl

open Layout in
theorem rem_spec (L : Layout) (a b : Int)
    (ha : inRange L a) (hb : inRange L b) (hb0 : b ≠ 0) :
    L.remOp a b = .ok (Int.tmod a b) false ∧ L.checkedRem a b = .ok (some (Int.tmod a b)) false := by
  have h := checkedRem_ok L a b ha hb hb0
  exact ⟨(bind_of_ok h _).trans rfl, h⟩

namespace Layout

/-- `let (q', o) := ovf q; let (ans, o2) := overflowing_from_num(q'); (ans, o || o2)` is `ovf (q * 2^f)` -/
theorem ovf_fromInt (L : Layout) (hn : 0 < L.n) (q : Int) :
    ((L.overflowingFromInt (L.ovf q).1).1, ((L.ovf q).2 || (L.overflowingFromInt (L.ovf q).1).2))
      = L.ovf (q * 2 ^ L.f) := by
  unfold overflowingFromInt ovf
  by_cases h : inI L.signed L.n q
  · rw [ovfI_of_in hn h, Bool.false_or]
  · rw [ovfI_of_not_in h, ovfI_of_not_in fun h' => h (inI_of_mul_pow h'), Bool.true_or]
    exact congrArg (·, true) (wrapI_mul_left ..)

end Layout

end Sfx

#print axioms Sfx.rem_spec
