import SfxModel.Prim
import SfxProofs.PrimLemmas
/-
  Returns.lean — `o.Returns v`: the `Outcome` program `o` returns `v` without panic and without a debug-only check, with rules that are
  applied to a model function's own `do` text (core Lean only).  Where `do` shares a tail between branches (`let x ← if c then a else b;
  rest`), a rule stated for an arbitrary continuation `k` unifies `k` with the join point, so only the short head is restated.
-/
namespace Sfx

/-- `o` returns `v`: no panic, no debug-only check -/
def Outcome.Returns {α : Type} (o : Outcome α) (v : α) : Prop := o = .ok v false

namespace Outcome.Returns
variable {α β : Type} {v : α} {w : β}

theorem pure : Returns (Pure.pure v : Outcome α) v := rfl

theorem of_eq {o : Outcome α} (h : o = .ok v false) : Returns o v := h

theorem eq {o : Outcome α} (h : Returns o v) : o = .ok v false := h

theorem bind {m : Outcome α} {k : α → Outcome β} (hm : Returns m v) (hk : Returns (k v) w) : Returns (m >>= k) w := by
  unfold Returns at hm; rw [hm, ok_false_bind]; exact hk

theorem ite_pos {c : Prop} [Decidable c] {a b : Outcome β} (hc : c) (h : Returns a w) : Returns (if c then a else b) w := by
  rw [if_pos hc]; exact h

theorem ite_neg {c : Prop} [Decidable c] {a b : Outcome β} (hc : ¬ c) (h : Returns b w) : Returns (if c then a else b) w := by
  rw [if_neg hc]; exact h

end Outcome.Returns
end Sfx
