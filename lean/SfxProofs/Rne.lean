import SfxProofs.FloatBits
import SfxProofs.RoundHalfEven
/-
  Rne.lean — round-to-nearest-even on integers (`rneShift`, `rneScaled` of `SfxModel/ConvSpec.lean`) for the float conversions: both satisfy
  the sentence `IsRne` (RoundHalfEven.lean), which has one solution; so the value is read off any decomposition `num = q·2^k + r`
  (`rneShift_of_decomp`, in the forms the two pieces of code compute it: `rneShift_natCast`, `rneShift_nat`), and sign, symmetry,
  scaling, nearest / ties-to-even are those of the sentence.  (core Lean only)
-/
namespace Sfx.ToFloatPf

theorem rneShift_of_decomp {num q r : Int} {k : Nat} (h : num = q * 2 ^ k + r) (h0 : 0 ≤ r) (h1 : r < 2 ^ k) :
    rneShift num k = q + if 2 * r < 2 ^ k ∨ 2 * r = 2 ^ k ∧ q % 2 = 0 then 0 else 1 :=
  (rneShift_isRne num k).unique (two_pow_pos k) (isRne_of_decomp h h0 h1)

theorem rneShift_bounds (num : Int) (k : Nat) : num / 2 ^ k ≤ rneShift num k ∧ rneShift num k ≤ num / 2 ^ k + 1 := by
  have hD := two_pow_pos k
  obtain ⟨h, h0, h1⟩ := euclid num hD
  rw [rneShift_of_decomp h h0 h1]
  split <;> omega

theorem rneShift_le (M : Int) (k : Nat) (hM : 0 ≤ M) : rneShift M k ≤ M + 1 := by
  have := (rneShift_bounds M k).2
  have := Int.ediv_le_self (2 ^ k) hM
  omega

theorem rneShift_small (M : Int) (k : Nat) (hk : 0 < k) (h0 : 0 ≤ M) (h1 : M < 2 ^ (k - 1)) : rneShift M k = 0 := by
  have := pow_split hk
  exact (rneShift_isRne M k).unique (two_pow_pos k) (isRne_of_strict (by omega) (by omega))

theorem rneShift_natCast (M k : Nat) :
    rneShift M k = ((M / 2 ^ k + if 2 * (M % 2 ^ k) < 2 ^ k ∨ 2 * (M % 2 ^ k) = 2 ^ k ∧ M / 2 ^ k % 2 = 0 then 0 else 1 : Nat) : Int) := by
  have hP := Nat.two_pow_pos k
  rw [rneShift_of_decomp (num := M) (q := (M / 2 ^ k : Nat)) (r := (M % 2 ^ k : Nat))
    (by rw [← natCast_two_pow, Int.mul_comm]; exact_mod_cast (Nat.div_add_mod M (2 ^ k)).symm)
    (Int.natCast_nonneg _) (by rw [← natCast_two_pow]; exact_mod_cast Nat.mod_lt M hP), ← natCast_two_pow]
  generalize M / 2 ^ k = q
  generalize M % 2 ^ k = r
  generalize 2 ^ k = P
  by_cases c : 2 * r < P ∨ 2 * r = P ∧ q % 2 = 0
  · rw [if_pos c, if_pos (by omega)]; rfl
  · rw [if_neg c, if_neg (by omega)]; rfl

/-- `rneShift` on a natural number, by bits, the way `from_to_float_helper` decides -/
theorem rneShift_nat (a k : Nat) :
    rneShift (a : Int) (k + 1) =
      ((a / 2 ^ (k + 1) + (if (if a / 2 ^ k % 2 = 0 then false else if a % 2 ^ k ≠ 0 then true
          else decide (a / 2 ^ (k + 1) % 2 = 1)) then 1 else 0) : Nat) : Int) := by
  have hsplit : a % 2 ^ (k + 1) = a % 2 ^ k + 2 ^ k * (a / 2 ^ k % 2) := Nat.mod_pow_succ
  have hlow : a % 2 ^ k < 2 ^ k := Nat.mod_lt _ (Nat.two_pow_pos _)
  have hbit : a / 2 ^ k % 2 = 0 ∨ a / 2 ^ k % 2 = 1 := by omega
  rw [rneShift_natCast, hsplit]
  generalize a / 2 ^ (k + 1) = q
  rw [Nat.pow_succ]
  generalize a % 2 ^ k = low at *
  generalize a / 2 ^ k % 2 = bit at *
  generalize 2 ^ k = half at *
  congr 2
  rcases hbit with hb | hb <;> subst hb
  · rw [if_pos rfl, if_pos (Or.inl (by omega))]; rfl
  · rw [if_neg (show ¬ (1 = 0) by decide)]
    by_cases hl : low ≠ 0
    · rw [if_pos hl, if_neg (by omega)]; rfl
    · rw [if_neg hl]
      by_cases hq : q % 2 = 1
      · rw [decide_eq_true hq, if_neg (by omega)]; rfl
      · rw [decide_eq_false hq, if_pos (Or.inr ⟨by omega, by omega⟩)]; rfl

theorem rneShift_mul_eq_scaled (num : Int) (g d : Nat) : rneShift (num * 2 ^ g) d = rneScaled num ((g : Int) - d) := by
  have h := rneScaled_isRne num ((g : Int) - d) d (by omega)
  rw [show ((g : Int) - d + d).toNat = g by omega] at h
  exact (rneShift_isRne _ d).unique (two_pow_pos d) h

theorem rneScaled_nonneg_exp (num k : Int) (hk : 0 ≤ k) : rneScaled num k = num * 2 ^ k.toNat := by
  unfold rneScaled; rw [if_pos hk]

theorem rneScaled_neg_exp (num k : Int) (hk : k < 0) : rneScaled num k = rneShift num (-k).toNat := by
  unfold rneScaled; rw [if_neg (by omega)]

theorem rneScaled_neg (num e : Int) : rneScaled (-num) e = -(rneScaled num e) := by
  have h := rneScaled_isRne (-num) e (-e).toNat (by omega)
  rw [Int.neg_mul] at h
  exact h.unique (two_pow_pos _) (rneScaled_isRne num e (-e).toNat (by omega)).neg

theorem rneScaled_sgnI (neg : Bool) (x k : Int) : rneScaled (sgnI neg x) k = sgnI neg (rneScaled x k) := by
  cases neg
  · rfl
  · exact rneScaled_neg x k

theorem rneScaled_nonneg (num k : Int) (h : 0 ≤ num) : 0 ≤ rneScaled num k :=
  ((rneScaled_isRne num k (-k).toNat (by omega)).sign (two_pow_pos _)).1 (Int.mul_nonneg h (Int.le_of_lt (two_pow_pos _)))

theorem rneScaled_nonpos (num k : Int) (h : num ≤ 0) : rneScaled num k ≤ 0 := by
  have := rneScaled_nonneg (-num) k (by omega)
  rw [rneScaled_neg] at this
  omega

theorem rneScaled_zero (k : Int) : rneScaled 0 k = 0 := by
  have a := rneScaled_nonneg 0 k (by omega)
  have b := rneScaled_nonpos 0 k (by omega)
  omega

end Sfx.ToFloatPf

-- the two halves of `IsRne.sign` for `rneShift`
namespace Sfx.FromFloatPf

theorem rneShift_nonneg (M : Int) (k : Nat) (h0 : 0 ≤ M) : 0 ≤ rneShift M k :=
  ((rneShift_isRne M k).sign (two_pow_pos k)).1 h0

end Sfx.FromFloatPf

namespace Sfx.CmpPf

theorem rneShift_nonpos (num : Int) (k : Nat) (h : num ≤ 0) : rneShift num k ≤ 0 :=
  ((rneShift_isRne num k).sign (two_pow_pos k)).2 h

end Sfx.CmpPf
