import SfxProofs.RoundCore
/-
  Round.lean — the rounding property for the model of `src/macros_round.rs`
  (and of the mask constants of `src/macros_frac.rs:55-64`): the forms built on `overflowing_*` (`overflowingR_spec`,
  `RoundCore.lean`), `round_to_zero`, and the integer / fractional part.
-/
namespace Sfx
open Layout

theorem plainR_spec (L : Layout) (hn : 2 ≤ L.n) (hf : L.f ≤ L.n) (m : Layout.RMode) (a : Int) (ha : inRange L a) :
    L.plainR m a = .ok (L.wrap (Layout.exactR L.f m a)) (!decide (inRange L (Layout.exactR L.f m a))) := by
  unfold plainR
  rw [overflowingR_spec L (by omega) hf m a ha]
  rfl

theorem wrappingR_spec (L : Layout) (hn : 2 ≤ L.n) (hf : L.f ≤ L.n) (m : Layout.RMode) (a : Int) (ha : inRange L a) :
    L.wrappingR m a = .ok (L.wrap (Layout.exactR L.f m a)) false := by
  unfold wrappingR
  rw [overflowingR_spec L (by omega) hf m a ha]
  rfl

theorem checkedR_spec (L : Layout) (hn : 2 ≤ L.n) (hf : L.f ≤ L.n) (m : Layout.RMode) (a : Int) (ha : inRange L a) :
    L.checkedR m a = .ok (L.chk (Layout.exactR L.f m a)) false := by
  unfold checkedR
  rw [overflowingR_spec L (by omega) hf m a ha]
  exact congrArg (Outcome.ok · false) (chk_of_ovf L (by omega) _)

/-- on which side the exact rounding stays inside the range: what `saturating_*` selects on overflow is the other bound -/
theorem exactR_side (L : Layout) (m : Layout.RMode) (a : Int) (ha : inRange L a) :
    match m with
    | .ceil => L.min ≤ exactR L.f m a
    | .floor => exactR L.f m a ≤ L.max
    | _ => (a > 0 → L.min ≤ exactR L.f m a) ∧ (¬ a > 0 → exactR L.f m a ≤ L.max) := by
  obtain ⟨h1, h2, h3, h4, h5⟩ := floor_facts L.f a
  have hz := inI_zero L.signed L.n
  unfold inRange inI at *
  unfold Layout.min Layout.max
  cases m
  · show _ ≤ ceilE L.f a
    rw [ceilE_cases]; split <;> omega
  · show floorE L.f a ≤ _
    unfold floorE; omega
  · show (_ → _ ≤ roundE L.f a) ∧ (_ → roundE L.f a ≤ _)
    rw [roundE_cases]; split <;> omega
  · show (_ → _ ≤ roundEvenE L.f a) ∧ (_ → roundEvenE L.f a ≤ _)
    rw [roundEvenE_cases]; split <;> omega

theorem saturatingR_spec (L : Layout) (hn : 2 ≤ L.n) (hf : L.f ≤ L.n) (m : Layout.RMode) (a : Int) (ha : inRange L a) :
    L.saturatingR m a = .ok (L.clamp (Layout.exactR L.f m a)) false := by
  have hside := exactR_side L m a ha
  unfold saturatingR
  rw [overflowingR_spec L (by omega) hf m a ha]
  cases m <;> refine congrArg (Outcome.ok · false) (clampI_of_ovfI (by omega) _ _ fun hE => ?_) <;>
    obtain ⟨hlo, hhi⟩ := clampI_of_side hE <;> simp only at hside
  · exact (hhi hside).symm
  · exact (hlo hside).symm
  · split
    · exact (hhi (hside.1 ‹_›)).symm
    · exact (hlo (hside.2 ‹_›)).symm
  · split
    · exact (hhi (hside.1 ‹_›)).symm
    · exact (hlo (hside.2 ‹_›)).symm

theorem int_frac_spec (L : Layout) (hn : 2 ≤ L.n) (a : Int) (ha : inRange L a) :
    (L.f < L.n → L.intPart a = Layout.floorE L.f a ∧ 0 ≤ L.fracPart a ∧ L.fracPart a < 2 ^ L.f ∧ L.intPart a + L.fracPart a = a)
    ∧ (L.f = L.n → L.intPart a = 0 ∧ L.fracPart a = a) := by
  constructor
  · intro h
    obtain ⟨h1, h2⟩ := L.parts_of_lt h a ha
    obtain ⟨f1, f2, f3, _, _⟩ := floor_facts L.f a
    rw [h1, h2]
    exact ⟨rfl, f2, f3, f1.symm⟩
  · intro h
    obtain ⟨h1, h2, _, _⟩ := L.parts_of_eq (by omega) h a ha
    exact ⟨h1, h2⟩

theorem roundToZero_neg (L : Layout) (hn : 0 < L.n) (hf : L.f ≤ L.n) (a : Int)
    (hs : L.signed = true) (hneg : a < 0) (hfr : L.fracPart a ≠ 0) :
    L.roundToZero a = .ok (L.overflowingCeil a).1 (L.overflowingCeil a).2 := by
  unfold roundToZero overflowingCeil
  simp only [hs, hneg, hfr, ne_eq, not_false_eq_true, decide_true, Bool.and_self, if_true, if_false, Bool.true_and]
  by_cases h0 : L.intBits = 0
  · have hlsb : L.intLsb = 0 := by rw [intLsb_eq L hn hf, if_neg (by unfold intBits at h0; omega)]
    have hin : inI true L.n (L.intPart a + 0) := by rw [Int.add_zero, ← hs]; exact wrapI_in hn _
    rw [if_pos h0, if_neg (by omega), hlsb, uadd_of_in hn hin, Int.add_zero]
    simp [Int.le_of_lt hneg]
  · rw [if_neg h0]
    by_cases h1 : L.intBits = 1
    · rw [if_pos h1, if_pos (decide_eq_true h1)]; unfold ovf; rw [hs]; rfl
    · rw [if_neg h1, if_neg (by simpa using h1)]; unfold ovf; rw [hs]; rfl

/-- `round_to_zero` is `ceil` below zero and `floor` from zero on; neither overflows there -/
theorem roundToZero_spec (L : Layout) (hn : 2 ≤ L.n) (hf : L.f ≤ L.n) (a : Int) (ha : inRange L a) :
    L.roundToZero a = .ok (Layout.truncE L.f a) false := by
  have hn0 : 0 < L.n := by omega
  obtain ⟨f1, f2, f3, f4, f5⟩ := floor_facts L.f a
  have hz := inI_zero L.signed L.n
  have hfz := L.fracPart_eq_zero_iff hn0 hf a
  rw [truncE_cases]
  by_cases hc : 0 ≤ a ∨ a % 2 ^ L.f = 0
  · have hin : inRange L (floorE L.f a) := by
      unfold floorE inRange inI at *; omega
    have hint : L.intPart a = (L.overflowingFloor a).1 := by unfold overflowingFloor; split <;> rfl
    have hcond : ¬ (L.signed && decide (a < 0) && decide (L.fracPart a ≠ 0)) = true := by
      simp only [Bool.and_eq_true, decide_eq_true_eq, ne_eq, hfz]; omega
    unfold roundToZero
    rw [if_neg hcond, if_pos hc, hint, show L.overflowingFloor a = _ from overflowingR_spec L hn0 hf .floor a ha,
      show exactR L.f .floor a = floorE L.f a from rfl, ovf_of_in L hn0 hin]
    rfl
  · have hs : L.signed = true := by
      cases hs : L.signed
      · exact absurd (unsigned_nonneg (n := L.n) (x := a) (hs ▸ ha)) (by omega)
      · rfl
    have hin : inRange L (a / 2 ^ L.f * 2 ^ L.f + 2 ^ L.f) := by
      have := f5 (by omega)
      unfold inRange inI at *; omega
    rw [roundToZero_neg L hn0 hf a hs (by omega) (fun h => hc (Or.inr (hfz.1 h))), if_neg hc,
      show L.overflowingCeil a = _ from overflowingR_spec L hn0 hf .ceil a ha,
      show exactR L.f .ceil a = ceilE L.f a from rfl, ceilE_cases, if_neg (fun h => hc (Or.inr h)), ovf_of_in L hn0 hin]

#print axioms checkedR_spec
#print axioms wrappingR_spec
#print axioms saturatingR_spec
#print axioms plainR_spec
#print axioms roundToZero_spec
#print axioms int_frac_spec

end Sfx
