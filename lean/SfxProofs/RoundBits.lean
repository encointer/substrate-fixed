import SfxModel.Round
import SfxProofs.PrimLemmas
/-
  RoundBits.lean — bit-level facts (on `Nat` patterns) needed for the masks of `macros_frac.rs`.
-/
namespace Sfx

theorem testBit_of_lt_le {u a b : Nat} (h : u < 2 ^ a) (hab : a ≤ b) : u.testBit b = false :=
  Nat.testBit_lt_two_pow (Nat.lt_of_lt_of_le h (Nat.pow_le_pow_right (by decide) hab))

theorem nat_testBit_hi {n f : Nat} (hf : f ≤ n) (i : Nat) :
    (2 ^ n - 2 ^ f).testBit i = (decide (f ≤ i) && decide (i < n)) := by
  have h : 2 ^ n - 2 ^ f = (2 ^ (n - f) - 1) * 2 ^ f := by
    rw [Nat.sub_mul, ← Nat.pow_add, Nat.sub_add_cancel hf, Nat.one_mul]
  rw [h, Nat.testBit_mul_two_pow, Nat.testBit_two_pow_sub_one]
  by_cases h1 : f ≤ i <;> simp [h1]
  omega

theorem nat_and_hi {x n f : Nat} (hf : f ≤ n) (hx : x < 2 ^ n) :
    x &&& (2 ^ n - 2 ^ f) = x / 2 ^ f * 2 ^ f := by
  apply Nat.eq_of_testBit_eq
  intro i
  rw [Nat.testBit_and, nat_testBit_hi hf, Nat.testBit_mul_two_pow, Nat.testBit_div_two_pow]
  by_cases h1 : f ≤ i
  · by_cases h2 : i < n
    · simp [h1, h2, Nat.sub_add_cancel h1]
    · have : x.testBit i = false := testBit_of_lt_le hx (by omega)
      simp [h1, h2, Nat.sub_add_cancel h1, this]
  · simp [h1]

theorem nat_xor_hi {n f : Nat} (hf : f < n) : (2 ^ n - 2 ^ f) ^^^ (2 ^ n - 2 ^ (f + 1)) = 2 ^ f := by
  apply Nat.eq_of_testBit_eq
  intro i
  rw [Nat.testBit_xor, nat_testBit_hi (Nat.le_of_lt hf), nat_testBit_hi hf, Nat.testBit_two_pow]
  by_cases h1 : f ≤ i <;>
    by_cases h2 : i < n <;>
    by_cases h3 : f + 1 ≤ i <;>
    simp [h1, h2, h3] <;>
    omega

theorem nat_xor_lo {f : Nat} (hf : 0 < f) : (2 ^ f - 1) ^^^ (2 ^ (f - 1) - 1) = 2 ^ (f - 1) := by
  apply Nat.eq_of_testBit_eq
  intro i
  rw [Nat.testBit_xor, Nat.testBit_two_pow_sub_one, Nat.testBit_two_pow_sub_one, Nat.testBit_two_pow]
  by_cases h1 : i < f <;> by_cases h2 : i < f - 1 <;> simp [h1, h2] <;> omega

theorem nat_and_two_pow_eq_zero_iff_lt (x k : Nat) : x &&& 2 ^ k = 0 ↔ x % 2 ^ (k + 1) < 2 ^ k := by
  rw [and_two_pow_eq_zero_iff, ← Nat.mod_mul_right_div_self, ← Nat.pow_succ,
    Nat.div_eq_zero_iff_lt (Nat.two_pow_pos k)]

end Sfx
