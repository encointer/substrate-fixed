import SfxProofs.Forms
import SfxProofs.RoundMasks
import SfxProofs.RoundExact
/-
  RoundCore.lean — `overflowing_{ceil,floor,round,round_ties_to_even}` against the exact roundings.
-/
namespace Sfx
namespace Layout
variable (L : Layout)

theorem floor_inRange (hf : L.f < L.n) (a : Int) (ha : inRange L a) : inRange L (a / 2 ^ L.f * 2 ^ L.f) := by
  refine (inI_iff_cell L.signed hf _).2 ?_
  rw [Int.mul_ediv_cancel _ (Int.ne_of_gt (two_pow_pos L.f))]
  exact (inI_iff_cell L.signed hf a).1 ha

theorem parts_of_lt (hf : L.f < L.n) (a : Int) (ha : inRange L a) :
    L.intPart a = a / 2 ^ L.f * 2 ^ L.f ∧ L.fracPart a = a % 2 ^ L.f := by
  have hn : 0 < L.n := by omega
  constructor
  · rw [intPart_eq L (by omega)]
    exact wrapI_of_in hn (floor_inRange L hf a ha)
  · exact fracPart_of_lt L hf a

theorem intLsb_of_lt (hf : L.f < L.n) :
    L.intLsb = if L.signed = true ∧ L.intBits = 1 then -(2 ^ L.f) else 2 ^ L.f := by
  have hn : 0 < L.n := by omega
  rw [intLsb_eq L hn (by omega), if_pos hf]
  unfold wrap intBits
  by_cases h : L.signed = true ∧ L.n - L.f = 1
  · rw [if_pos h, h.1]
    have hf1 : L.f = L.n - 1 := by omega
    rw [hf1]
    exact wrapI_two_pow_top hn
  · rw [if_neg h]
    apply wrapI_of_in hn
    have hP := two_pow_pos L.f
    cases hs : L.signed
    · rw [inU_iff]; exact ⟨Int.le_of_lt hP, pow_lt_pow hf⟩
    · rw [inS_iff]
      have : L.f < L.n - 1 := by
        rw [hs] at h; simp at h; omega
      have := pow_lt_pow this
      omega

/-- the "one unit up" step of the code in a signed type: `- INT_LSB` when the only integer bit is the sign -/
theorem up_signed (hf : L.f < L.n) (hs : L.signed = true) (t : Int) :
    (if L.intBits = 1 then L.ovf (t - L.intLsb) else L.ovf (t + L.intLsb)) = L.ovf (t + 2 ^ L.f) := by
  rw [intLsb_of_lt L hf]
  by_cases h : L.intBits = 1
  · rw [if_pos h, if_pos ⟨hs, h⟩, Int.sub_neg]
  · rw [if_neg h, if_neg (fun h' => h h'.2)]

theorem up_unsigned (hf : L.f < L.n) (hs : L.signed = false) (t : Int) : L.ovf (t + L.intLsb) = L.ovf (t + 2 ^ L.f) := by
  rw [intLsb_of_lt L hf, if_neg (by rw [hs]; exact fun h => Bool.false_ne_true h.1)]

theorem overflowingCeil_of_lt (hf : L.f < L.n) (a : Int) (ha : inRange L a) :
    L.overflowingCeil a = L.ovf (ceilE L.f a) := by
  have hn : 0 < L.n := by omega
  obtain ⟨hint, hfrac⟩ := parts_of_lt L hf a ha
  have hin := floor_inRange L hf a ha
  have hib0 : L.intBits ≠ 0 := by unfold intBits; omega
  rw [ceilE_cases]
  unfold overflowingCeil
  simp only [hint, hfrac]
  by_cases h1 : a % 2 ^ L.f = 0
  · rw [if_pos h1, if_pos h1, ovf_of_in L hn hin]
  · rw [if_neg h1, if_neg h1, if_neg hib0]
    cases hs : L.signed
    · exact up_unsigned L hf hs _
    · simp only [Bool.true_and, decide_eq_true_eq]
      exact up_signed L hf hs _

theorem overflowingFloor_of_lt (hf : L.f < L.n) (a : Int) (ha : inRange L a) :
    L.overflowingFloor a = L.ovf (floorE L.f a) := by
  have hn : 0 < L.n := by omega
  obtain ⟨hint, hfrac⟩ := parts_of_lt L hf a ha
  have hin := floor_inRange L hf a ha
  have hib0 : L.intBits ≠ 0 := by unfold intBits; omega
  unfold overflowingFloor floorE
  simp only [hint, hib0, decide_false, Bool.and_false, Bool.false_eq_true, if_false]
  rw [ovf_of_in L hn hin]

theorem overflowingRound_of_lt (hf : L.f < L.n) (a : Int) (ha : inRange L a) :
    L.overflowingRound a = L.ovf (roundE L.f a) := by
  have hn : 0 < L.n := by omega
  obtain ⟨hint, hfrac⟩ := parts_of_lt L hf a ha
  have hib0 : L.intBits ≠ 0 := by unfold intBits; omega
  have hmsb := and_fracMsb_eq_zero_iff L hn (Nat.le_of_lt hf) a
  rw [roundE_cases, apply_ite L.ovf, ovf_of_in L hn (floor_inRange L hf a ha)]
  unfold overflowingRound
  simp only [hint, hmsb, hib0, if_false]
  by_cases h1 : 2 * (a % 2 ^ L.f) < 2 ^ L.f
  · rw [if_pos h1, if_pos (Or.inl h1)]
  · have htie := fracPart_eq_fracMsb_of_not_lt L hn (Nat.le_of_lt hf) a h1
    rw [if_neg h1]
    cases hs : L.signed
    · have : ¬ a < 0 := Int.not_lt.2 (unsigned_nonneg (n := L.n) (hs ▸ ha))
      simp only [Bool.false_eq_true, if_false, up_unsigned L hf hs, h1, this, and_false, or_self]
    · simp only [if_true, up_signed L hf hs, htie, h1, false_or, Bool.and_eq_true, decide_eq_true_eq]

theorem overflowingRoundTiesToEven_of_lt (hf : L.f < L.n) (a : Int) (ha : inRange L a) :
    L.overflowingRoundTiesToEven a = L.ovf (roundEvenE L.f a) := by
  have hn : 0 < L.n := by omega
  obtain ⟨hint, hfrac⟩ := parts_of_lt L hf a ha
  have hib0 : L.intBits ≠ 0 := by unfold intBits; omega
  have hmsb := and_fracMsb_eq_zero_iff L hn (Nat.le_of_lt hf) a
  have heven := and_intPart_intLsb_eq_zero_iff L hf a
  rw [hint] at heven
  rw [roundEvenE_cases, apply_ite L.ovf, ovf_of_in L hn (floor_inRange L hf a ha)]
  unfold overflowingRoundTiesToEven
  simp only [hint, hmsb, heven, hib0, if_false]
  by_cases h1 : 2 * (a % 2 ^ L.f) < 2 ^ L.f
  · rw [if_pos h1, if_pos (Or.inl h1)]
  · have htie := fracPart_eq_fracMsb_of_not_lt L hn (Nat.le_of_lt hf) a h1
    rw [if_neg h1]
    cases hs : L.signed
    · simp only [Bool.false_eq_true, if_false, up_unsigned L hf hs, htie, h1, false_or, Bool.and_eq_true, decide_eq_true_eq]
    · simp only [if_true, up_signed L hf hs, htie, h1, false_or, Bool.and_eq_true, decide_eq_true_eq]

theorem parts_of_eq (hn : 0 < L.n) (hfn : L.f = L.n) (a : Int) (ha : inRange L a) :
    L.intPart a = 0 ∧ L.fracPart a = a ∧ L.intLsb = 0 ∧ L.intBits = 0 := by
  refine ⟨?_, ?_, ?_, ?_⟩
  · rw [intPart_eq L (by omega), hfn]; unfold wrap
    have := wrapI_add_mul L.signed L.n 0 (a / 2 ^ L.n)
    rw [Int.zero_add] at this
    rw [this, wrapI_zero _ hn]
  · rw [fracPart_eq L (by omega), hfn]; unfold wrap
    rw [wrapI_emod_self]
    exact wrapI_of_in hn ha
  · rw [intLsb_eq L hn (by omega), if_neg (by omega)]
  · unfold intBits; omega

theorem ovf_zero (hn : 0 < L.n) : L.ovf 0 = (0, false) := ovf_of_in L hn (inI_zero _ _)

theorem ovf_two_pow (hn : 0 < L.n) : L.ovf (2 ^ L.n) = (0, true) := by
  simpa using ovf_add_period L hn (inI_zero _ _) (K := 1) (by decide)

theorem ovf_neg_two_pow (hn : 0 < L.n) : L.ovf (-(2 ^ L.n)) = (0, true) := by
  simpa using ovf_add_period L hn (inI_zero _ _) (K := -1) (by decide)

theorem noIntBits_cases (hn : 0 < L.n) (hfn : L.f = L.n) (a : Int) (ha : inRange L a) :
    (a < 0 ∧ L.signed = true ∧ -(2 ^ L.f) ≤ 2 * a ∧ a / 2 ^ L.f = -1 ∧ a % 2 ^ L.f = a + 2 ^ L.f ∧
      L.ovf (a / 2 ^ L.f * 2 ^ L.f) = (0, true) ∧ L.ovf (a / 2 ^ L.f * 2 ^ L.f + 2 ^ L.f) = (0, false)) ∨
    (0 ≤ a ∧ a < 2 ^ L.f ∧ (L.signed = true → 2 * a < 2 ^ L.f) ∧ a / 2 ^ L.f = 0 ∧ a % 2 ^ L.f = a ∧
      L.ovf (a / 2 ^ L.f * 2 ^ L.f) = (0, false) ∧ L.ovf (a / 2 ^ L.f * 2 ^ L.f + 2 ^ L.f) = (0, true)) := by
  have hP := two_pow_pos L.n
  have hsp := pow_split hn
  have hr : (L.signed = false → 0 ≤ a ∧ a < 2 ^ L.n) ∧ (L.signed = true → -(2 ^ L.n) ≤ 2 * a ∧ 2 * a < 2 ^ L.n) := by
    unfold inRange at ha
    constructor
    · intro hs; rw [hs, inU_iff] at ha; exact ha
    · intro hs; rw [hs, inS_iff] at ha; omega
  rw [hfn]
  by_cases h : a < 0
  · left
    have hs : L.signed = true := by
      cases hs : L.signed
      · have := hr.1 hs; omega
      · rfl
    have hb := hr.2 hs
    have hqr : a / 2 ^ L.n = -1 ∧ a % 2 ^ L.n = a + 2 ^ L.n := by rw [Int.ediv_emod_unique hP]; omega
    have e : (-1 : Int) * 2 ^ L.n + 2 ^ L.n = 0 := by omega
    rw [hqr.1, e, ovf_zero L hn, Int.neg_mul, Int.one_mul, ovf_neg_two_pow L hn]
    exact ⟨h, hs, hb.1, rfl, hqr.2, rfl, rfl⟩
  · right
    have hlt : a < 2 ^ L.n := by
      cases hs : L.signed
      · exact (hr.1 hs).2
      · have := hr.2 hs; omega
    have hqr : a / 2 ^ L.n = 0 ∧ a % 2 ^ L.n = a := by rw [Int.ediv_emod_unique hP]; omega
    rw [hqr.1, Int.zero_mul, Int.zero_add, ovf_zero L hn, ovf_two_pow L hn]
    exact ⟨by omega, hlt, fun hs => (hr.2 hs).2, rfl, hqr.2, rfl, rfl⟩

theorem overflowingCeil_of_eq (hn : 0 < L.n) (hfn : L.f = L.n) (a : Int) (ha : inRange L a) :
    L.overflowingCeil a = L.ovf (ceilE L.f a) := by
  obtain ⟨hint, hfrac, hlsb, hib⟩ := parts_of_eq L hn hfn a ha
  have hP := two_pow_pos L.f
  rw [ceilE_cases, apply_ite L.ovf]
  unfold overflowingCeil
  simp only [hint, hfrac, hib, if_true]
  rcases noIntBits_cases L hn hfn a ha with ⟨h, hs, hb, q, r, o1, o2⟩ | ⟨h, hb, hb', q, r, o1, o2⟩
  · rw [r, o1, o2, if_neg (by omega), if_neg (by omega)]
    simp; omega
  · rw [r, o1, o2]
    by_cases h0 : a = 0
    · simp [h0]
    · simp [h0]; omega

theorem overflowingFloor_of_eq (hn : 0 < L.n) (hfn : L.f = L.n) (a : Int) (ha : inRange L a) :
    L.overflowingFloor a = L.ovf (floorE L.f a) := by
  obtain ⟨hint, hfrac, hlsb, hib⟩ := parts_of_eq L hn hfn a ha
  unfold overflowingFloor floorE
  simp only [hint, hib]
  rcases noIntBits_cases L hn hfn a ha with ⟨h, hs, hb, q, r, o1, o2⟩ | ⟨h, hb, hb', q, r, o1, o2⟩
  · rw [o1]; simp [hs, h]
  · rw [o1]; simp; omega

theorem overflowingRound_of_eq (hn : 0 < L.n) (hfn : L.f = L.n) (a : Int) (ha : inRange L a) :
    L.overflowingRound a = L.ovf (roundE L.f a) := by
  obtain ⟨hint, hfrac, hlsb, hib⟩ := parts_of_eq L hn hfn a ha
  have hP := two_pow_pos L.f
  have hmsb := and_fracMsb_eq_zero_iff L hn (Nat.le_of_eq hfn) a
  have htie := fracPart_eq_fracMsb_iff L hn (by omega) (Nat.le_of_eq hfn) a
  rw [roundE_cases, apply_ite L.ovf]
  unfold overflowingRound
  simp only [hint, hib, if_true, hmsb, htie]
  rcases noIntBits_cases L hn hfn a ha with ⟨h, hs, hb, q, r, o1, o2⟩ | ⟨h, hb, hb', q, r, o1, o2⟩
  · rw [r, o1, o2, if_neg (by omega), if_pos hs]
    by_cases ht : 2 * (a + 2 ^ L.f) = 2 ^ L.f
    · simp [ht, h]
    · rw [if_neg (by omega)]; simp [ht]
  · rw [r, o1, o2]
    by_cases h1 : 2 * a < 2 ^ L.f
    · simp [h1]
    · have hs : L.signed = false := by
        cases hs : L.signed
        · rfl
        · exact absurd (hb' hs) h1
      rw [if_neg h1, if_neg (by simp [hs]), if_neg (by omega)]

theorem overflowingRoundTiesToEven_of_eq (hn : 0 < L.n) (hfn : L.f = L.n) (a : Int) (ha : inRange L a) :
    L.overflowingRoundTiesToEven a = L.ovf (roundEvenE L.f a) := by
  obtain ⟨hint, hfrac, hlsb, hib⟩ := parts_of_eq L hn hfn a ha
  have hP := two_pow_pos L.f
  have hmsb := and_fracMsb_eq_zero_iff L hn (Nat.le_of_eq hfn) a
  have htie := fracPart_eq_fracMsb_iff L hn (by omega) (Nat.le_of_eq hfn) a
  rw [roundEvenE_cases, apply_ite L.ovf]
  unfold overflowingRoundTiesToEven
  simp only [hint, hib, hlsb, andI_zero_right _ hn, decide_true, Bool.and_true, Int.add_zero, Int.sub_zero, hmsb, htie]
  rcases noIntBits_cases L hn hfn a ha with ⟨h, hs, hb, q, r, o1, o2⟩ | ⟨h, hb, hb', q, r, o1, o2⟩
  · clear hmsb htie
    rw [o1, o2, q, r, if_neg (by omega), if_pos hs, ovf_zero L hn]
    simp; omega
  · rw [o1, o2, q, r]
    by_cases h1 : 2 * a < 2 ^ L.f
    · simp [h1]
    · have hs : L.signed = false := by
        cases hs : L.signed
        · rfl
        · exact absurd (hb' hs) h1
      by_cases ht : 2 * a = 2 ^ L.f
      · simp [ht]
      · simp [h1, ht, hs]

theorem _root_.Sfx.overflowingR_spec (hn : 0 < L.n) (hf : L.f ≤ L.n) (m : RMode) (a : Int) (ha : inRange L a) :
    L.overflowingR m a = L.ovf (exactR L.f m a) := by
  rcases Nat.lt_or_eq_of_le hf with h | h
  · cases m
    · exact overflowingCeil_of_lt L h a ha
    · exact overflowingFloor_of_lt L h a ha
    · exact overflowingRound_of_lt L h a ha
    · exact overflowingRoundTiesToEven_of_lt L h a ha
  · cases m
    · exact overflowingCeil_of_eq L hn h a ha
    · exact overflowingFloor_of_eq L hn h a ha
    · exact overflowingRound_of_eq L hn h a ha
    · exact overflowingRoundTiesToEven_of_eq L hn h a ha

end Layout

#print axioms overflowingR_spec

end Sfx
