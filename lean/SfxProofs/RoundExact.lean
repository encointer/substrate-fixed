import SfxModel.Round
import SfxProofs.PrimLemmas
/-
  RoundExact.lean — the exact roundings `ceilE/floorE/roundE/roundEvenE/truncE` in the shape
  "floor, or floor plus one unit".
-/
namespace Sfx

theorem add_one_mul_eq (q P : Int) : (q + 1) * P = q * P + P := by rw [Int.add_mul, Int.one_mul]

theorem floor_facts (f : Nat) (a : Int) :
    a = a / 2 ^ f * 2 ^ f + a % 2 ^ f ∧ 0 ≤ a % 2 ^ f ∧ a % 2 ^ f < 2 ^ f ∧
    (0 ≤ a → 0 ≤ a / 2 ^ f * 2 ^ f) ∧ (a < 0 → a / 2 ^ f * 2 ^ f + 2 ^ f ≤ 0) := by
  have hP := two_pow_pos f
  obtain ⟨e, h0, h1⟩ := euclid a hP
  refine ⟨e, h0, h1, ?_, ?_⟩
  · intro h
    exact Int.mul_nonneg (Int.ediv_nonneg h (Int.le_of_lt hP)) (Int.le_of_lt hP)
  · intro h
    have hq : a / 2 ^ f < 0 := Int.ediv_neg_of_neg_of_pos h hP
    rw [← add_one_mul_eq]
    exact Int.mul_nonpos_of_nonpos_of_nonneg (by omega) (Int.le_of_lt hP)

namespace Layout

theorem ceilE_cases (f : Nat) (a : Int) :
    ceilE f a = if a % 2 ^ f = 0 then a / 2 ^ f * 2 ^ f else a / 2 ^ f * 2 ^ f + 2 ^ f := by
  unfold ceilE
  have hP := two_pow_pos f
  rw [Int.neg_ediv, Int.sign_eq_one_of_pos hP]
  simp only [Int.dvd_iff_emod_eq_zero]
  split
  · simp
  · rw [← add_one_mul_eq]; congr 1; omega

theorem roundE_cases (f : Nat) (a : Int) :
    roundE f a = if 2 * (a % 2 ^ f) < 2 ^ f ∨ (2 * (a % 2 ^ f) = 2 ^ f ∧ a < 0) then a / 2 ^ f * 2 ^ f
      else a / 2 ^ f * 2 ^ f + 2 ^ f := by
  unfold roundE
  simp only []
  rw [← add_one_mul_eq]
  by_cases h1 : 2 * (a % 2 ^ f) < 2 ^ f
  · simp [h1]
  · by_cases h2 : 2 * (a % 2 ^ f) = 2 ^ f
    · by_cases h3 : a < 0
      · have : ¬ 0 ≤ a := by omega
        simp [h2, h3, this]
      · have : a ≥ 0 := by omega
        simp [h2, h3, this]
    · have : 2 * (a % 2 ^ f) > 2 ^ f := by omega
      simp [h1, h2, this]

theorem roundEvenE_cases (f : Nat) (a : Int) :
    roundEvenE f a = if 2 * (a % 2 ^ f) < 2 ^ f ∨ (2 * (a % 2 ^ f) = 2 ^ f ∧ (a / 2 ^ f) % 2 = 0) then a / 2 ^ f * 2 ^ f
      else a / 2 ^ f * 2 ^ f + 2 ^ f := by
  unfold roundEvenE
  simp only []
  rw [← add_one_mul_eq]
  by_cases h1 : 2 * (a % 2 ^ f) < 2 ^ f
  · simp [h1]
  · by_cases h2 : 2 * (a % 2 ^ f) = 2 ^ f
    · by_cases h3 : (a / 2 ^ f) % 2 = 0
      · simp [h2, h3]
      · simp [h2, h3]
    · have : 2 * (a % 2 ^ f) > 2 ^ f := by omega
      simp [h1, h2, this]

theorem truncE_cases (f : Nat) (a : Int) :
    truncE f a = if 0 ≤ a ∨ a % 2 ^ f = 0 then a / 2 ^ f * 2 ^ f else a / 2 ^ f * 2 ^ f + 2 ^ f := by
  unfold truncE
  have hP := two_pow_pos f
  rw [Int.tdiv_eq_ediv, Int.sign_eq_one_of_pos hP]
  simp only [Int.dvd_iff_emod_eq_zero]
  split
  · simp
  · rw [← add_one_mul_eq]

theorem truncE_inI {s : Bool} {n : Nat} (f : Nat) {a : Int} (ha : inI s n a) : inI s n (truncE f a) := by
  have h := tmod_bounds a (2 ^ f)
  have e := Int.mul_tdiv_add_tmod a (2 ^ f)
  rw [Int.mul_comm] at e
  unfold truncE
  exact inI_between ha (fun h0 => by omega) (fun h0 => by omega)

end Layout
end Sfx
