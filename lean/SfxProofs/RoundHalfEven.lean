import SfxModel.TextSpec
import SfxProofs.PrimLemmas
/-
  RoundHalfEven.lean — round-half-even as ONE sentence about integers, for any positive divisor: `IsRne N D q`.  The sentence has exactly
  one solution (`isRne_of_decomp`, `IsRne.unique`), speaks of the fraction `N / D` only (`scale`), is symmetric in sign (`neg`), and says
  "nearest, the even one on a tie" against every multiple of `D` (`nearest`, `tie_even`).  The formulas of the specifications
  (`rneShift`, `rneScaled` of `SfxModel/ConvSpec.lean`, `TextSpec.rneDiv`) satisfy it: one lemma each, the only places where their
  `/` and `%` are looked at.  (core Lean only)
-/
namespace Sfx

/-- `q` is `N / D` rounded to the nearest integer, the even one on a tie; cross-multiplied and doubled, so that neither a division nor a
half occurs: `|q·D − N| ≤ D/2`, and `q` is even when the distance is exactly `D/2` -/
def IsRne (N D q : Int) : Prop :=
  2 * (q * D) ≤ 2 * N + D ∧ 2 * N ≤ 2 * (q * D) + D ∧ (2 * (q * D) = 2 * N + D ∨ 2 * N = 2 * (q * D) + D → q % 2 = 0)

theorem IsRne.unique {N D q q' : Int} (hD : 0 < D) (h : IsRne N D q) (h' : IsRne N D q') : q = q' := by
  obtain ⟨s1, s2, s3⟩ := h
  obtain ⟨h1, h2, h3⟩ := h'
  -- two solutions differ by at most one unit; one unit apart both sit on a tie, and both would be even
  have hj : q' = q ∨ q' = q + 1 ∨ q + 2 ≤ q' ∨ q' = q - 1 ∨ q' ≤ q - 2 := by omega
  rcases hj with e | e | e | e | e
  · exact e.symm
  · rw [e, Int.add_mul, Int.one_mul] at h1 h3; omega
  · have := Int.mul_le_mul_of_nonneg_right e (Int.le_of_lt hD)
    rw [Int.add_mul] at this; omega
  · rw [e, Int.sub_mul, Int.one_mul] at h2 h3; omega
  · have := Int.mul_le_mul_of_nonneg_right e (Int.le_of_lt hD)
    rw [Int.sub_mul] at this; omega

theorem isRne_of_decomp {N D q r : Int} (h : N = q * D + r) (h0 : 0 ≤ r) (h1 : r < D) :
    IsRne N D (q + if 2 * r < D ∨ 2 * r = D ∧ q % 2 = 0 then 0 else 1) := by
  unfold IsRne
  split
  · rw [Int.add_zero]; omega
  · rw [Int.add_mul, Int.one_mul]; omega

theorem isRne_exact (q : Int) {D : Int} (hD : 0 < D) : IsRne (q * D) D q :=
  ⟨by omega, by omega, fun t => by omega⟩

theorem isRne_of_strict {N D q : Int} (h1 : 2 * (q * D) < 2 * N + D) (h2 : 2 * N < 2 * (q * D) + D) : IsRne N D q :=
  ⟨by omega, by omega, fun t => by omega⟩

theorem IsRne.neg {N D q : Int} (h : IsRne N D q) : IsRne (-N) D (-q) := by
  unfold IsRne at *
  rw [Int.neg_mul]; omega

theorem IsRne.scale {N D q c : Int} (hc : 0 < c) (h : IsRne N D q) : IsRne (N * c) (D * c) q := by
  obtain ⟨s1, s2, s3⟩ := h
  have e : ∀ x y : Int, 2 * (x * c) + y * c = (2 * x + y) * c := fun x y => by rw [Int.add_mul, Int.mul_assoc]
  have e2 : ∀ x : Int, 2 * (q * (x * c)) = 2 * (q * x) * c := fun x => by rw [← Int.mul_assoc q, Int.mul_assoc 2]
  refine ⟨?_, ?_, fun ht => s3 ?_⟩
  · rw [e, e2]; exact Int.mul_le_mul_of_nonneg_right s1 (Int.le_of_lt hc)
  · rw [e2, ← Int.add_mul, ← Int.mul_assoc]; exact Int.mul_le_mul_of_nonneg_right s2 (Int.le_of_lt hc)
  · rw [e, e2, ← Int.add_mul, ← Int.mul_assoc 2 N] at ht
    rcases ht with ht | ht
    · exact Or.inl (Int.eq_of_mul_eq_mul_right (Int.ne_of_gt hc) ht)
    · exact Or.inr (Int.eq_of_mul_eq_mul_right (Int.ne_of_gt hc) ht)

theorem IsRne.nearest {N D q : Int} (hD : 0 < D) (h : IsRne N D q) (j : Int) : (N - q * D).natAbs ≤ (N - j * D).natAbs := by
  obtain ⟨h1, h2, -⟩ := h
  have hj : j = q ∨ q + 1 ≤ j ∨ j ≤ q - 1 := by omega
  rcases hj with e | e | e
  · rw [e]; omega
  · have := Int.mul_le_mul_of_nonneg_right e (Int.le_of_lt hD)
    rw [Int.add_mul] at this; omega
  · have := Int.mul_le_mul_of_nonneg_right e (Int.le_of_lt hD)
    rw [Int.sub_mul] at this; omega

theorem IsRne.tie_even {N D q : Int} (hD : 0 < D) (h : IsRne N D q) (j : Int) (hne : j ≠ q)
    (htie : (N - q * D).natAbs = (N - j * D).natAbs) : q % 2 = 0 := by
  obtain ⟨h1, h2, h3⟩ := h
  apply h3
  have hj : q + 1 ≤ j ∨ j ≤ q - 1 := by omega
  rcases hj with e | e
  · have := Int.mul_le_mul_of_nonneg_right e (Int.le_of_lt hD)
    rw [Int.add_mul] at this; omega
  · have := Int.mul_le_mul_of_nonneg_right e (Int.le_of_lt hD)
    rw [Int.sub_mul] at this; omega

theorem IsRne.sign {N D q : Int} (hD : 0 < D) (h : IsRne N D q) : (0 ≤ N → 0 ≤ q) ∧ (N ≤ 0 → q ≤ 0) := by
  obtain ⟨h1, h2, -⟩ := h
  constructor
  · intro hN
    refine Int.not_lt.1 fun hq => ?_
    have := Int.mul_le_mul_of_nonneg_right (show q ≤ -1 by omega) (Int.le_of_lt hD)
    omega
  · intro hN
    refine Int.not_lt.1 fun hq => ?_
    have := Int.mul_le_mul_of_nonneg_right (show 1 ≤ q by omega) (Int.le_of_lt hD)
    omega

theorem IsRne.beats_small {N D q l w : Int} (hD : 0 < D) (h : IsRne N D q) (hlN : l * D ≤ N ∨ N ≤ -(l * D))
    (hw : -(l * D) < w ∧ w < l * D) : (N - q * D).natAbs < (N - w).natAbs := by
  rcases hlN with hN | hN
  · have := h.nearest hD l; omega
  · have := h.nearest hD (-l); rw [Int.neg_mul] at this; omega

theorem rneShift_isRne (num : Int) (k : Nat) : IsRne num (2 ^ k) (rneShift num k) := by
  by_cases hk : k = 0
  · subst hk
    have := isRne_exact num (D := 1) (by omega)
    rw [Int.mul_one] at this
    unfold rneShift; rw [if_pos rfl]; exact this
  · have hD := two_pow_pos k
    have hh : (2 : Int) ^ k = 2 * 2 ^ (k - 1) := pow_split (by omega)
    obtain ⟨h, h0, h1⟩ := euclid num hD
    have h := isRne_of_decomp h h0 h1
    have e : rneShift num k = num / 2 ^ k +
        (if 2 * (num % 2 ^ k) < 2 ^ k ∨ 2 * (num % 2 ^ k) = 2 ^ k ∧ num / 2 ^ k % 2 = 0 then 0 else 1) := by
      unfold rneShift
      rw [if_neg hk]
      simp only []
      generalize num / 2 ^ k = q
      generalize num % 2 ^ k = r
      generalize (2 : Int) ^ (k - 1) = H at hh ⊢
      rw [hh]
      by_cases c1 : r < H
      · rw [if_pos c1, if_pos (Or.inl (by omega)), Int.add_zero]
      · rw [if_neg c1]
        by_cases c2 : r > H
        · rw [if_pos c2, if_neg (by omega)]
        · rw [if_neg c2]
          by_cases c3 : q % 2 = 0
          · rw [if_pos c3, if_pos (Or.inr ⟨by omega, c3⟩), Int.add_zero]
          · rw [if_neg c3, if_neg (by omega)]
    rw [e]; exact h

/-- `rneScaled num e` is the rounding of the rational `num·2^e`: on ANY common scale `2^K` with `0 ≤ e + K` -/
theorem rneScaled_isRne (num e : Int) (K : Nat) (hK : 0 ≤ e + K) :
    IsRne (num * 2 ^ (e + K).toNat) (2 ^ K) (rneScaled num e) := by
  unfold rneScaled
  split
  · rename_i he
    have : (e + K).toNat = e.toNat + K := by omega
    rw [this, pow_add', ← Int.mul_assoc]
    exact isRne_exact _ (two_pow_pos K)
  · rename_i he
    have : K = (-e).toNat + (e + K).toNat := by omega
    have h := (rneShift_isRne num (-e).toNat).scale (two_pow_pos (e + K).toNat)
    rw [← pow_add'] at h
    generalize (e + K).toNat = K' at this h ⊢
    rw [this]; exact h

theorem rneDiv_isRne (N D : Nat) (hD : 0 < D) : IsRne N D (TextSpec.rneDiv N D : Nat) := by
  have h := isRne_of_decomp (N := (N : Int)) (D := D) (q := (N / D : Nat)) (r := (N % D : Nat))
    (by have := Nat.div_add_mod N D; rw [Nat.mul_comm] at this; exact_mod_cast this.symm)
    (Int.natCast_nonneg _) (by exact_mod_cast Nat.mod_lt N hD)
  have e : ((TextSpec.rneDiv N D : Nat) : Int) = ((N / D : Nat) : Int) +
      (if 2 * ((N % D : Nat) : Int) < D ∨ 2 * ((N % D : Nat) : Int) = D ∧ ((N / D : Nat) : Int) % 2 = 0 then 0 else 1) := by
    unfold TextSpec.rneDiv
    simp only []
    generalize N / D = q
    generalize N % D = r
    by_cases c1 : 2 * r < D
    · rw [if_pos c1, if_pos (Or.inl (by omega)), Int.add_zero]
    · rw [if_neg c1]
      by_cases c2 : 2 * r > D
      · rw [if_pos c2, if_neg (by omega)]; rfl
      · rw [if_neg c2]
        by_cases c3 : q % 2 = 0
        · rw [if_pos c3, if_pos (Or.inr ⟨by omega, by omega⟩), Int.add_zero]
        · rw [if_neg c3, if_neg (by omega)]; rfl
  rw [e]; exact h

/-- the sentence read on natural numbers (what `C08.IsNearestEven` spells out) -/
theorem isRne_natCast (N D q : Nat) : IsRne N D q ↔
    (2 * q * D ≤ 2 * N + D ∧ 2 * N ≤ 2 * q * D + D) ∧ (2 * N + D = 2 * q * D ∨ 2 * N = 2 * q * D + D → q % 2 = 0) := by
  unfold IsRne
  rw [Nat.mul_assoc, show (q : Int) * (D : Int) = ((q * D : Nat) : Int) from (Int.natCast_mul q D).symm]
  generalize q * D = p
  omega

theorem rneDiv_eq {N D q : Nat} (hD : 0 < D) (h : IsRne N D q) : TextSpec.rneDiv N D = q :=
  Int.ofNat.inj ((rneDiv_isRne N D hD).unique (Int.ofNat_lt.2 hD) h)

end Sfx
