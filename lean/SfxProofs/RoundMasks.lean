import SfxModel.Round
import SfxProofs.RoundBits
/-
  RoundMasks.lean — the mask constants `INT_MASK, FRAC_MASK, INT_LSB, FRAC_MSB` as canonical integers,
  and `intPart / fracPart` as floor / remainder.
-/
namespace Sfx

namespace Layout
variable (L : Layout)

theorem _root_.Sfx.intMask_eq : L.intMask = L.wrap (-(2 ^ L.f)) := by
  unfold intMask shlI notI wrap
  rw [wrapI_mul_left, Int.mul_assoc, wrapI_mul_left]
  congr 1
  rw [← Int.pow_add]
  have : L.f / 2 + (L.f - L.f / 2) = L.f := by omega
  rw [this]; omega

theorem _root_.Sfx.fracMask_eq : L.fracMask = L.wrap (2 ^ L.f - 1) := by
  unfold fracMask notI
  rw [intMask_eq]; unfold wrap
  rw [wrapI_neg_sub]
  congr 1; omega

theorem toU_intMask (hf : L.f ≤ L.n) : toU L.n L.intMask = 2 ^ L.n - 2 ^ L.f := by
  rw [intMask_eq]; unfold wrap; rw [toU_wrapI, toU_neg_two_pow hf]

theorem toU_fracMask (hf : L.f ≤ L.n) : toU L.n L.fracMask = 2 ^ L.f - 1 := by
  rw [fracMask_eq]; unfold wrap; rw [toU_wrapI, toU_two_pow_sub_one hf]

theorem _root_.Sfx.intLsb_eq (hn : 0 < L.n) (hf : L.f ≤ L.n) : L.intLsb = (if L.f < L.n then L.wrap (2 ^ L.f) else 0) := by
  unfold intLsb xorI shlI
  by_cases h : L.f < L.n
  · rw [if_pos h, toU_wrapI, toU_intMask L hf]
    have : L.intMask * 2 ^ 1 = L.wrap (-(2 ^ L.f)) * 2 ^ 1 := by rw [intMask_eq]
    rw [this]; unfold wrap
    have h2 : toU L.n (wrapI L.signed L.n (-(2 ^ L.f)) * 2 ^ 1) = toU L.n (-(2 ^ (L.f + 1))) := by
      rw [← toU_wrapI L.signed, wrapI_mul_left, toU_wrapI]
      congr 1; rw [Int.pow_succ]; omega
    rw [h2, toU_neg_two_pow (by omega), nat_xor_hi h]
    congr 1
  · rw [if_neg h]
    have hfn : L.f = L.n := by omega
    have h0 : L.intMask = 0 := by rw [intMask_eq, hfn]; exact wrapI_neg_two_pow_self _ hn
    rw [h0]; simp [toU_zero, wrapI_zero _ hn]

theorem _root_.Sfx.fracMsb_eq (hn : 0 < L.n) (hf : L.f ≤ L.n) : L.fracMsb = (if 0 < L.f then L.wrap (2 ^ (L.f - 1)) else 0) := by
  unfold fracMsb xorI shrI
  have hU : wrapU L.n L.fracMask = 2 ^ L.f - 1 := by
    have := toU_emod L.n L.fracMask
    rw [toU_fracMask L hf, Int.ofNat_sub (Nat.two_pow_pos _), natCast_two_pow] at this
    unfold wrapU; rw [← this]; rfl
  rw [hU, toU_wrapI, toU_fracMask L hf]
  by_cases h : 0 < L.f
  · rw [if_pos h]
    have hs := pow_split h
    have h2 : ((2 : Int) ^ L.f - 1) / 2 ^ 1 = 2 ^ (L.f - 1) - 1 := by
      rw [hs]; omega
    rw [h2, toU_two_pow_sub_one (by omega), nat_xor_lo h]
    unfold wrap; congr 1
  · rw [if_neg h]
    have h0 : L.f = 0 := by omega
    rw [h0]; simp [toU_zero, wrapI_zero _ hn]

theorem _root_.Sfx.intPart_eq (hf : L.f ≤ L.n) (a : Int) : L.intPart a = L.wrap ((a / 2 ^ L.f) * 2 ^ L.f) := by
  unfold intPart andI wrap
  rw [toU_intMask L hf, nat_and_hi hf (toU_lt _ _)]
  have hc : Int.ofNat (toU L.n a / 2 ^ L.f * 2 ^ L.f) = (a % 2 ^ L.n) / 2 ^ L.f * 2 ^ L.f := by
    rw [Int.ofNat_eq_natCast, Int.natCast_mul, Int.natCast_ediv, natCast_two_pow, toU_emod]
  rw [hc]
  apply wrapI_congr _ _ (-(a / 2 ^ L.n))
  have h1 := Int.emod_add_mul_ediv (a % 2 ^ L.n) (2 ^ L.f)
  have h2 := Int.emod_add_mul_ediv a (2 ^ L.f)
  have h3 := Int.emod_add_mul_ediv a (2 ^ L.n)
  rw [Int.emod_emod_of_dvd a (two_pow_dvd hf)] at h1
  rw [Int.neg_mul, Int.mul_comm (a % 2 ^ L.n / 2 ^ L.f), Int.mul_comm (a / 2 ^ L.f), Int.mul_comm (a / 2 ^ L.n)]
  omega

theorem _root_.Sfx.fracPart_eq (hf : L.f ≤ L.n) (a : Int) : L.fracPart a = L.wrap (a % 2 ^ L.f) :=
  andI_low_mask _ hf a _ (toU_fracMask L hf)

theorem fracPart_of_lt (hf : L.f < L.n) (a : Int) : L.fracPart a = a % 2 ^ L.f := by
  have hP := two_pow_pos L.f
  rw [fracPart_eq L (by omega)]
  exact wrapI_of_in (by omega) (SqrtPf.inRange_bits_nn L (by omega) 0 (by unfold intBits; split <;> omega)
    (Int.emod_nonneg _ (Int.ne_of_gt hP)) (by rw [Nat.zero_add]; exact Int.emod_lt_of_pos _ hP))

theorem fracPart_eq_zero_iff (hn : 0 < L.n) (hf : L.f ≤ L.n) (a : Int) : L.fracPart a = 0 ↔ a % 2 ^ L.f = 0 := by
  rw [fracPart_eq L hf]; unfold wrap
  have hr0 := Int.emod_nonneg a (Int.ne_of_gt (two_pow_pos L.f))
  have hr1 := Int.emod_lt_of_pos a (two_pow_pos L.f)
  have hle := pow_le_pow (a := L.f) (b := L.n) hf
  constructor
  · intro h
    rw [← wrapI_zero L.signed hn] at h
    exact wrapI_inj_of_lt hr0 (by omega) (Int.le_refl 0) (two_pow_pos L.n) h
  · intro h; rw [h, wrapI_zero _ hn]

theorem toU_fracMsb (hn : 0 < L.n) (hf0 : 0 < L.f) (hf : L.f ≤ L.n) : toU L.n L.fracMsb = 2 ^ (L.f - 1) := by
  rw [fracMsb_eq L hn hf, if_pos hf0]; unfold wrap
  rw [toU_wrapI, toU_two_pow (by omega)]

theorem toU_intLsb (hf : L.f < L.n) : toU L.n L.intLsb = 2 ^ L.f := by
  rw [intLsb_eq L (by omega) (by omega), if_pos hf]; unfold wrap
  rw [toU_wrapI, toU_two_pow hf]

theorem and_fracMsb_eq_zero_iff (hn : 0 < L.n) (hf : L.f ≤ L.n) (a : Int) :
    andI L.signed L.n a L.fracMsb = 0 ↔ 2 * (a % 2 ^ L.f) < 2 ^ L.f := by
  by_cases hf0 : 0 < L.f
  · unfold andI
    rw [toU_fracMsb L hn hf0 hf]
    have hlt : toU L.n a &&& 2 ^ (L.f - 1) < 2 ^ L.n :=
      Nat.lt_of_le_of_lt Nat.and_le_right (Nat.pow_lt_pow_right (by decide) (by omega))
    rw [wrapI_natCast_eq_zero_iff hn hlt, nat_and_two_pow_eq_zero_iff_lt]
    have hf1 : L.f - 1 + 1 = L.f := by omega
    rw [hf1]
    have hc : ((toU L.n a % 2 ^ L.f : Nat) : Int) = a % 2 ^ L.f := by
      rw [Int.natCast_emod, natCast_two_pow, toU_emod, Int.emod_emod_of_dvd a (two_pow_dvd hf)]
    have hs := pow_split hf0
    rw [← hc, hs, ← natCast_two_pow]
    constructor
    · intro h
      have : ((toU L.n a % 2 ^ L.f : Nat) : Int) < ((2 ^ (L.f - 1) : Nat) : Int) := by exact_mod_cast h
      omega
    · intro h
      have : ((toU L.n a % 2 ^ L.f : Nat) : Int) < ((2 ^ (L.f - 1) : Nat) : Int) := by omega
      exact_mod_cast this
  · have h0 : L.f = 0 := by omega
    have hm : L.fracMsb = 0 := by rw [fracMsb_eq L hn hf, if_neg hf0]
    rw [hm, h0]
    unfold andI
    simp [toU_zero, wrapI_zero _ hn]

theorem fracPart_eq_fracMsb_iff (hn : 0 < L.n) (hf0 : 0 < L.f) (hf : L.f ≤ L.n) (a : Int) :
    L.fracPart a = L.fracMsb ↔ 2 * (a % 2 ^ L.f) = 2 ^ L.f := by
  rw [fracPart_eq L hf, fracMsb_eq L hn hf, if_pos hf0]; unfold wrap
  have hs := pow_split hf0
  have hF := two_pow_pos (L.f - 1)
  have hr0 := Int.emod_nonneg a (Int.ne_of_gt (two_pow_pos L.f))
  have hr1 := Int.emod_lt_of_pos a (two_pow_pos L.f)
  have hle := pow_le_pow (a := L.f) (b := L.n) hf
  constructor
  · intro h
    have := wrapI_inj_of_lt hr0 (by omega) (Int.le_of_lt hF) (by omega) h
    omega
  · intro h
    have : a % 2 ^ L.f = 2 ^ (L.f - 1) := by omega
    rw [this]

/-- past the first test (`a & FRAC_MSB != 0`) there is a fractional bit, and the tie test reads as it should -/
theorem fracPart_eq_fracMsb_of_not_lt (hn : 0 < L.n) (hf : L.f ≤ L.n) (a : Int) (h : ¬ 2 * (a % 2 ^ L.f) < 2 ^ L.f) :
    L.fracPart a = L.fracMsb ↔ 2 * (a % 2 ^ L.f) = 2 ^ L.f := by
  refine fracPart_eq_fracMsb_iff L hn (Nat.pos_of_ne_zero fun h0 => ?_) hf a
  rw [h0] at h; omega

theorem and_intPart_intLsb_eq_zero_iff (hf : L.f < L.n) (a : Int) :
    andI L.signed L.n (L.intPart a) L.intLsb = 0 ↔ (a / 2 ^ L.f) % 2 = 0 := by
  have hn : 0 < L.n := by omega
  unfold andI
  rw [toU_intLsb L hf]
  have hlt : toU L.n (L.intPart a) &&& 2 ^ L.f < 2 ^ L.n :=
    Nat.lt_of_le_of_lt Nat.and_le_right (Nat.pow_lt_pow_right (by decide) hf)
  rw [wrapI_natCast_eq_zero_iff hn hlt, and_two_pow_eq_zero_iff]
  have hc : ((toU L.n (L.intPart a) / 2 ^ L.f % 2 : Nat) : Int) = (a / 2 ^ L.f) % 2 := by
    rw [Int.natCast_emod, Int.natCast_ediv, natCast_two_pow, toU_emod, intPart_eq L (by omega)]
    unfold wrap
    rw [wrapI_emod]
    have hsp : (2 : Int) ^ L.n = 2 ^ L.f * 2 ^ (L.n - L.f) := by rw [← Int.pow_add]; congr 1; omega
    rw [hsp, Int.mul_comm (a / 2 ^ L.f), Int.mul_emod_mul_of_pos _ _ (two_pow_pos _),
      Int.mul_ediv_cancel_left _ (Int.ne_of_gt (two_pow_pos _))]
    have hd : (2 : Int) ∣ 2 ^ (L.n - L.f) := ⟨2 ^ (L.n - L.f - 1), by rw [← pow_split (by omega)]⟩
    exact Int.emod_emod_of_dvd _ hd
  rw [← hc]
  constructor
  · intro h; rw [h]; rfl
  · intro h; exact_mod_cast h

end Layout

#print axioms intMask_eq
#print axioms fracMask_eq
#print axioms intLsb_eq
#print axioms fracMsb_eq
#print axioms intPart_eq
#print axioms fracPart_eq

end Sfx
