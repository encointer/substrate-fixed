import SfxProofs.TRRules
import SfxProofs.SqrtIter
/-
  Sqrt.lean — property C13 for `transcendental::sqrt` (model `Trans.sqrt`): the result is within 4 ulp of the true square
  root (in fact within 1 ulp on the direct path), exact at 0 and 1, `Err` only for negative operands and for operands
  whose reciprocal is not representable, no panic and no debug-only check fires.
  Source and destination are the same type here (`C13.sqrt_widen_fun` reduces `sqrt::<S, D>` to that); the evaluation theorems are
  `Runs (Trans.sqrt D D x) …` (TRRules.lean), proved by walking the model's own `do` block.
  `Monoid.toNPow` is erased locally so that `(2 : Int) ^ k` in the statements is core's `Int.pow`, as in the Mathlib-free files.
-/
attribute [-instance] Monoid.toNPow

namespace Sfx.SqrtPf
open Sfx.Trans

/-- `v / D::from_num(2)` -/
theorem half_eq (D : Layout) (hv : D.valid) (hF2 : 2 * 2 ^ D.f ≤ D.max) (v : Int) (hvr : inRange D v) (hv0 : 0 ≤ v) :
    D.divOp v (2 * 2 ^ D.f) = .ok (v / 2) false := by
  have hP := two_pow_pos D.f
  have hvm : v ≤ D.max := hvr.2
  have hdiv : v * 2 ^ D.f / (2 * 2 ^ D.f) = v / 2 := Int.mul_ediv_mul_of_pos_left _ _ hP
  rw [← hdiv]
  exact divOp_nn D hv v _ hvr (inRange_nn D (by omega) hF2) hv0 (by omega)
    (by rw [hdiv]; exact inRange_nn D (by omega) (by omega))

theorem loop_runs (D : Layout) (hv : D.valid) (hc : ConvFacts D) (hF2 : 2 * 2 ^ D.f ≤ D.max) (x X s L : Int)
    (hx : inRange D x) (hx0 : 0 ≤ x) (hX : X = x * 2 ^ D.f) (hs : 1 ≤ s) (h1 : s * s ≤ X) (h2 : X < (s + 1) * (s + 1))
    (htL : s + 1 ≤ L) (hL : L + s + 2 ≤ D.max) (k : Nat) :
    ∀ (l : Int) (n : Nat), s ≤ l → l ≤ L → Runs (sqrtLoop D x k l) n (some (newton X k l)) (n + k) := by
  induction k with
  | zero => exact fun _ _ _ _ => .pure
  | succ k ih =>
    intro l n hl hlL
    have hP := two_pow_pos D.f
    obtain ⟨f1, _, f3, f4⟩ := step_facts X s hs h1 h2 l hl
    obtain ⟨b1, b2⟩ := step_bound X s hs h1 h2 l L hl hlL htL
    have hlr : inRange D l := inRange_nn D (by omega) (by omega)
    have hq : D.divOp x l = .ok (X / l) false := by
      rw [hX]
      exact divOp_nn D hv x l hx hlr hx0 (by omega) (by rw [← hX]; exact inRange_nn D f3 (by omega))
    have hsum : inRange D (l + X / l) := inRange_nn D (by omega) (by omega)
    have ha : D.addOp l (X / l) = .ok (l + X / l) false := addOp_in D hv _ _ hsum
    have hd : D.divOp (l + X / l) (2 * 2 ^ D.f) = .ok (step X l) false := half_eq D hv hF2 _ hsum (by omega)
    have hk := ih _ (n + 1) b1 b2
    rw [Nat.add_assoc, Nat.add_comm 1 k] at hk
    exact .tick_bind <| .liftO_bind hq <| .liftO_bind ha <| .liftO_bind hc.fromNum2 <| .liftO_bind hd hk

theorem hM_of_hint (D : Layout) (hfn : D.f ≤ D.n) (hint : (if D.signed then 4 else 3) ≤ D.intBits) :
    8 * 2 ^ D.f ≤ D.max + 1 := by
  have h := pow_le_max_succ D hfn 3 hint
  rwa [pow_add'] at h

/-- `let mut l = …; for … { … }` followed by the rest `k` of the function: the block that the direct and the inverted path share -/
def rootK (D : Layout) (y : Int) (k : Int → TR Int) : TR Int := do
  let two ← liftO (fromNumI D 2)
  let h ← liftO (D.divOp y two)
  let one ← liftO (fromNumI D 1)
  let l0 ← liftO (D.addOp h one)
  let l ← sqrtLoop D y (max D.f (D.intBits / 2 + 10)) l0
  k l

theorem rootK_runs (D : Layout) (hv : D.valid) (hc : ConvFacts D) (y s : Int) (hy : inRange D y) (hy0 : 0 ≤ y) (hsF : 2 ^ D.f ≤ s)
    (h1 : s * s ≤ y * 2 ^ D.f) (h2 : y * 2 ^ D.f < (s + 1) * (s + 1)) (hl0 : s + 1 ≤ y / 2 + 2 ^ D.f)
    (hov : y / 2 + 2 ^ D.f + s + 2 ≤ D.max) {k : Int → TR Int} {n n' : Nat} {o : Option Int}
    (hk : Runs (k (newton (y * 2 ^ D.f) (max D.f (D.intBits / 2 + 10)) (y / 2 + 2 ^ D.f))) (n + max D.f (D.intBits / 2 + 10)) o n') :
    Runs (rootK D y k) n o n' := by
  have hP := two_pow_pos D.f
  have hF2 : 2 * 2 ^ D.f ≤ D.max := by omega
  have e1 := half_eq D hv hF2 y hy hy0
  have e2 : D.addOp (y / 2) (2 ^ D.f) = .ok (y / 2 + 2 ^ D.f) false :=
    addOp_in D hv _ _ (inRange_nn D (by omega) (by omega))
  have e3 := loop_runs D hv hc hF2 y (y * 2 ^ D.f) s (y / 2 + 2 ^ D.f) hy hy0 rfl (by omega) h1 h2 hl0 hov
    (max D.f (D.intBits / 2 + 10)) (y / 2 + 2 ^ D.f) n (by omega) (Int.le_refl _)
  exact .liftO_bind hc.fromNum2 <| .liftO_bind e1 <| .liftO_bind hc.fromNum1 <| .liftO_bind e2 <| .bind e3 hk

theorem rootK_root (D : Layout) (hv : D.valid) (hf : 4 ≤ D.f) (hM : 8 * 2 ^ D.f ≤ D.max + 1) (hc : ConvFacts D)
    (y : Int) (hy : inRange D y) (hyF : 2 ^ D.f ≤ y) :
    ∃ s l : Int, 2 ^ D.f ≤ s ∧ s * s ≤ y * 2 ^ D.f ∧ y * 2 ^ D.f < (s + 1) * (s + 1) ∧ s ≤ l ∧ l ≤ s + 1 ∧ inRange D l ∧
      ∀ {k : Int → TR Int} {n n' : Nat} {o : Option Int}, Runs (k l) (n + max D.f (D.intBits / 2 + 10)) o n' →
        Runs (rootK D y k) n o n' := by
  have hn128 := hv.le128
  have hP := two_pow_pos D.f
  have hF16 : (16 : Int) ≤ 2 ^ D.f := pow_le_pow (a := 4) (b := D.f) hf
  have hymax : y ≤ D.max := hy.2
  have hpow : (2 : Int) ^ (2 + D.intBits / 2 + D.intBits / 2 + D.f) = 4 * 2 ^ (D.intBits / 2) * 2 ^ (D.intBits / 2) * 2 ^ D.f := by
    rw [pow_add', pow_add', pow_add']; rfl
  have hnle : (2 : Int) ^ D.n ≤ 2 ^ (2 + D.intBits / 2 + D.intBits / 2 + D.f) :=
    pow_le_pow (by unfold Layout.intBits; omega)
  have hmax := max_add_one_le D
  have h128 : (2 : Int) ^ D.n ≤ 2 ^ 128 := pow_le_pow hn128
  have h255 : (2 : Int) ^ 128 < Kq 8 := by decide
  obtain ⟨s, hsF, h1, h2, hl0, hov, c1, c2⟩ := newton_start y (2 ^ D.f) (D.max + 1) (D.intBits / 2) 8
    (max D.f (D.intBits / 2 + 10)) hF16 hyF (by omega) hM (by omega) (by omega) (by omega)
  exact ⟨s, _, hsF, h1, h2, c1, c2, inRange_nn D (by omega) (by omega),
    rootK_runs D hv hc y s hy (by omega) hsF h1 h2 hl0 (by omega)⟩

/-- what is proved about a returned root `r` (bits) of the operand `x` (bits) -/
def GoodRoot (D : Layout) (x r : Int) : Prop :=
  0 ≤ r ∧ (0 < x → (r - 4) ^ 2 ≤ x * 2 ^ D.f) ∧ x * 2 ^ D.f ≤ (r + 4) ^ 2 ∧ (x = 0 → r = 0) ∧ (x = 2 ^ D.f → r = 2 ^ D.f)

theorem good_root (D : Layout) (x s l : Int) (hs : 0 ≤ s) (h4 : 0 < x → 4 ≤ s) (h1 : s * s ≤ x * 2 ^ D.f)
    (h2 : x * 2 ^ D.f < (s + 1) * (s + 1)) (hl1 : s ≤ l) (hl2 : l ≤ s + 1) (hz : x = 0 → l = 0) (ho : x = 2 ^ D.f → l = 2 ^ D.f) :
    GoodRoot D x l := by
  refine ⟨by omega, fun hx => ?_, ?_, hz, ho⟩
  · rw [sq_eq]
    have := h4 hx
    have := Int.mul_self_le_mul_self (show 0 ≤ l - 4 by omega) (show l - 4 ≤ s by omega)
    omega
  · rw [sq_eq]
    have := Int.mul_self_le_mul_self (show 0 ≤ s + 1 by omega) (show s + 1 ≤ l + 4 by omega)
    omega

theorem good_inverted (D : Layout) (x s l : Int) (hF16 : 16 ≤ (2 : Int) ^ D.f) (hx0 : 0 < x) (hx : x < 2 ^ D.f)
    (hsF : 2 ^ D.f ≤ s) (h1 : s * s ≤ 2 ^ D.f * 2 ^ D.f / x * 2 ^ D.f)
    (h2 : 2 ^ D.f * 2 ^ D.f / x * 2 ^ D.f < (s + 1) * (s + 1)) (hl1 : s ≤ l) (hl2 : l ≤ s + 1) :
    GoodRoot D x (2 ^ D.f * 2 ^ D.f / l) ∧ 2 ^ D.f * 2 ^ D.f / l ≤ 2 ^ D.f := by
  obtain ⟨hr0, hrF, lo, up⟩ := inv_bracket x (2 ^ D.f) s l hF16 (by omega) (by omega) hsF h1 h2 hl1 hl2
  generalize (2 : Int) ^ D.f * 2 ^ D.f / l = r at *
  have hxF : 0 < x * 2 ^ D.f := Int.mul_pos hx0 (by omega)
  refine ⟨⟨hr0, fun _ => by rw [sq_eq]; exact lo, ?_, fun h => by omega, fun h => by omega⟩, hrF⟩
  rw [sq_eq]
  have := Int.mul_self_le_mul_self (show 0 ≤ r + 2 by omega) (show r + 2 ≤ r + 4 by omega)
  omega

theorem one_inRange (D : Layout) (hM : 8 * 2 ^ D.f ≤ D.max + 1) : inRange D (2 ^ D.f) :=
  inRange_nn D (Int.le_of_lt (two_pow_pos D.f)) (by have := two_pow_pos D.f; omega)

section paths
variable (D : Layout) (hv : D.valid) (hf : 4 ≤ D.f) (hM : 8 * 2 ^ D.f ≤ D.max + 1) (hc : ConvFacts D)
include hv hf hM hc

omit hf hc in
/-- `D::from_num(1).checked_div(x)` -/
theorem recip_eq (x : Int) (hx : inRange D x) (hx0 : 0 < x) :
    D.checkedDiv (2 ^ D.f) x = .ok (D.chk (2 ^ D.f * 2 ^ D.f / x)) false :=
  checkedDiv_nn D hv _ x (one_inRange D hM) hx (Int.le_of_lt (two_pow_pos D.f)) hx0

theorem sqrt_direct (x : Int) (hx : inRange D x) (hxF : 2 ^ D.f < x) (n : Nat) :
    ∃ s l : Int, 2 ^ D.f ≤ s ∧ s * s ≤ x * 2 ^ D.f ∧ x * 2 ^ D.f < (s + 1) * (s + 1) ∧ s ≤ l ∧ l ≤ s + 1 ∧
      Runs (Trans.sqrt D D x) n (some l) (n + max D.f (D.intBits / 2 + 10)) := by
  have hP := two_pow_pos D.f
  obtain ⟨s, l, hsF, h1, h2, hl1, hl2, _, hk⟩ := rootK_root D hv hf hM hc x hx (by omega)
  exact ⟨s, l, hsF, h1, h2, hl1, hl2, .ite_neg (by rw [hc.lt0 x hx]; simp; omega) <| .liftO_bind (fromS_same D x) <|
    .ite_neg (by rw [hc.eq0 x hx, hc.eq1 x hx]; simp; omega) <|
    .bind (v := (false, x)) (.ite_neg (by rw [hc.lt1 x hx]; simp; omega) .pure) <|
    hk (.ite_neg Bool.false_ne_true .pure)⟩

omit hv hf hM hc in
/-- what `sqrt::<D, D>(x)` returns, by cases on the outcome -/
def SqrtPost (x : Int) : Option Int → Nat → Prop
  | some r, _ => 0 ≤ x ∧ GoodRoot D x r
  | none, _ => x < 0 ∨ (0 < x ∧ ¬ inRange D (divSpec D.f (2 ^ D.f) x))

/-- operands below one: the reciprocal `y = ⌊2^(2f) / x⌋` (`Err` when it does not fit), the Newton iteration on `y`, the reciprocal of
the result -/
theorem sqrt_inverted (x : Int) (hx : inRange D x) (hx0 : 0 < x) (hxF : x < 2 ^ D.f) (n : Nat) :
    Ret (Trans.sqrt D D x) n (SqrtPost D x) := by
  have hP := two_pow_pos D.f
  have hF16 : (16 : Int) ≤ 2 ^ D.f := pow_le_pow (a := 4) (b := D.f) hf
  have hneg : ¬ (D.ltFixed C x ZERO = true) := by rw [hc.lt0 x hx]; simp; omega
  have hearly : ¬ ((D.eqFixed C x ZERO || D.eqFixed C x ONE) = true) := by rw [hc.eq0 x hx, hc.eq1 x hx]; simp; omega
  have hlt : D.ltFixed C x ONE = true := by rw [hc.lt1 x hx]; simp [hxF]
  by_cases hyr : inRange D (2 ^ D.f * 2 ^ D.f / x)
  · have hyF : 2 ^ D.f ≤ 2 ^ D.f * 2 ^ D.f / x :=
      (Int.le_ediv_iff_mul_le hx0).2 (Int.mul_le_mul_of_nonneg_left (by omega) (by omega))
    obtain ⟨s, l, hsF, h1, h2, hl1, hl2, hlr, hk⟩ := rootK_root D hv hf hM hc _ hyr hyF
    obtain ⟨hg, hrF⟩ := good_inverted D x s l hF16 (by omega) hxF hsF h1 h2 hl1 hl2
    have hrr : inRange D (2 ^ D.f * 2 ^ D.f / l) := inRange_nn D hg.1 (by omega)
    exact Runs.ret (o := some (2 ^ D.f * 2 ^ D.f / l)) (.ite_neg hneg <| .liftO_bind (fromS_same D x) <| .ite_neg hearly <|
      .bind (v := (true, 2 ^ D.f * 2 ^ D.f / x)) (.ite_pos hlt <| .liftO_bind hc.fromNum1 <|
        .bind (.liftOpt ((recip_eq D hv hM x hx hx0).trans (by rw [Layout.chk_of_in D hyr]))) .pure) <|
      hk (.ite_pos rfl <| .liftO_bind hc.fromNum1 <|
        .liftOpt ((recip_eq D hv hM l hlr (by omega)).trans (by rw [Layout.chk_of_in D hrr])))) ⟨by omega, hg⟩
  · exact Runs.ret (o := none) (.ite_neg hneg <| .liftO_bind (fromS_same D x) <| .ite_neg hearly <| .bind_err <| .ite_pos hlt <|
        .liftO_bind hc.fromNum1 <| .bind_err (.liftOpt ((recip_eq D hv hM x hx hx0).trans (by rw [Layout.chk_of_not_in D hyr]))))
      (Or.inr ⟨hx0, by rw [divSpec_nn _ _ _ (by omega)]; exact hyr⟩)

theorem sqrt_ret (x : Int) (hx : inRange D x) (n : Nat) : Ret (Trans.sqrt D D x) n (SqrtPost D x) := by
  have hP := two_pow_pos D.f
  have hF16 : (16 : Int) ≤ 2 ^ D.f := pow_le_pow (a := 4) (b := D.f) hf
  by_cases hneg : x < 0
  · exact Runs.ret (.ite_pos (by rw [hc.lt0 x hx]; simp [hneg]) .err) (Or.inl hneg)
  have hearly : x = 0 ∨ x = 2 ^ D.f → Runs (Trans.sqrt D D x) n (some x) n := fun h =>
    .ite_neg (by rw [hc.lt0 x hx]; simp; omega) <| .liftO_bind (fromS_same D x) <|
      .ite_pos (by rw [hc.eq0 x hx, hc.eq1 x hx]; simpa using h) .pure
  by_cases hz : x = 0
  · refine (hearly (Or.inl hz)).ret ⟨by omega, ?_⟩
    subst hz
    exact good_root D 0 0 0 (Int.le_refl 0) (fun h => absurd h (by omega)) (by rw [Int.zero_mul]; omega)
      (by rw [Int.zero_mul]; omega) (Int.le_refl 0) (by omega) (fun _ => rfl) (fun h => by omega)
  by_cases ho : x = 2 ^ D.f
  · refine (hearly (Or.inr ho)).ret ⟨by omega, ?_⟩
    subst ho
    exact good_root D _ (2 ^ D.f) _ (by omega) (fun _ => by omega) (Int.le_refl _)
      (by rw [Int.add_mul, Int.mul_add, Int.one_mul, Int.mul_one]; omega) (Int.le_refl _) (by omega) (fun h => by omega) (fun _ => rfl)
  by_cases hlt : x < 2 ^ D.f
  · exact sqrt_inverted D hv hf hM hc x hx (by omega) hlt n
  · obtain ⟨s, l, hsF, h1, h2, hl1, hl2, he⟩ := sqrt_direct D hv hf hM hc x hx (by omega) n
    exact he.ret ⟨by omega,
      good_root D x s l (by omega) (fun _ => by omega) h1 h2 hl1 hl2 (fun h => by omega) (fun h => by omega)⟩

end paths

theorem good_if {D : Layout} {x r : Int} (hx0 : 0 ≤ x) (hg : GoodRoot D x r) :
    0 ≤ r ∧ (if r < 4 then 0 else (r - 4) ^ 2) ≤ x * 2 ^ D.f ∧ x * 2 ^ D.f ≤ (r + 4) ^ 2 ∧ (x = 0 → r = 0) ∧
      (x = 2 ^ D.f → r = 2 ^ D.f) := by
  obtain ⟨g1, g2, g3, g4, g5⟩ := hg
  refine ⟨g1, ?_, g3, g4, g5⟩
  by_cases hr : r < 4
  · rw [if_pos hr]; exact Int.mul_nonneg hx0 (Int.le_of_lt (two_pow_pos D.f))
  · rw [if_neg hr]
    by_cases hz : x = 0
    · have := g4 hz; omega
    · exact g2 (by omega)

/-- Source and destination of the same type (`sqrt::<S, D>` is `sqrt::<D, D>` on the widened operand: `C13.sqrt_widen_fun`).
Integer bits: the code needs three magnitude bits above the binary point (`l + operand / l` is formed in `D`), i.e. `intBits ≥ 4`
for signed and `≥ 3` for unsigned layouts.  With one bit less the debug overflow check fires: the model returns the flag `true`
for I3F29 at `2^31 - 1` and for U2F30 at `2^32 - 1` (and `false` for I4F28 at `2^31 - 1`). -/
theorem sqrt_accuracy_gen (D : Layout) (hv : D.valid) (hf : 4 ≤ D.f) (hint : (if D.signed then 4 else 3) ≤ D.intBits)
    (hc : ConvFacts D) (x : Int) (hx : inRange D x) :
    match Trans.run (Trans.sqrt D D x) with
    | .ok (some r, _) dbg => dbg = false ∧ 0 ≤ x ∧ 0 ≤ r ∧ (if r < 4 then 0 else (r - 4) ^ 2) ≤ x * 2 ^ D.f ∧
                               x * 2 ^ D.f ≤ (r + 4) ^ 2 ∧ (x = 0 → r = 0) ∧ (x = 2 ^ D.f → r = 2 ^ D.f)
    | .ok (none, _) dbg => dbg = false ∧ (x < 0 ∨ (0 < x ∧ ¬ inRange D (divSpec D.f (2 ^ D.f) x)))
    | .panic => False := by
  have hM := hM_of_hint D hv.2 hint
  obtain ⟨o, m, he, h⟩ := sqrt_ret D hv hf hM hc x hx 0
  rw [show Trans.run (Trans.sqrt D D x) = _ from he]
  cases o with
  | some r => exact ⟨rfl, h.1, good_if h.1 h.2⟩
  | none => exact ⟨rfl, h⟩

/-- C13 for `sqrt::<D, D>` on the types with at least 23 fractional and 10 integer bits: no panic, no debug check; `Err` only for
negative operands and for operands in `(0, 1)` whose reciprocal is not representable; otherwise the result is within 4 ulp of the
true root and exact at 0 and 1.  An instance of `sqrt_accuracy_gen`, which needs fewer bits. -/
theorem sqrt_accuracy_int10 (D : Layout) (hv : D.valid) (hf23 : 23 ≤ D.f) (hint : 10 ≤ D.intBits)
    (hc : ConvFacts D) (x : Int) (hx : inRange D x) :
    match Trans.run (Trans.sqrt D D x) with
    | .ok (some r, _) dbg => dbg = false ∧ 0 ≤ x ∧ 0 ≤ r ∧ (if r < 4 then 0 else (r - 4) ^ 2) ≤ x * 2 ^ D.f ∧
                               x * 2 ^ D.f ≤ (r + 4) ^ 2 ∧ (x = 0 → r = 0) ∧ (x = 2 ^ D.f → r = 2 ^ D.f)
    | .ok (none, _) dbg => dbg = false ∧ (x < 0 ∨ (0 < x ∧ ¬ inRange D (divSpec D.f (2 ^ D.f) x)))
    | .panic => False :=
  sqrt_accuracy_gen D hv (by omega) (by cases D.signed <;> simp <;> omega) hc x hx

/-- for a positive operand the lower bracket holds without the `r < 4` escape -/
theorem sqrt_accuracy_pos (D : Layout) (hv : D.valid) (hf : 4 ≤ D.f) (hint : (if D.signed then 4 else 3) ≤ D.intBits)
    (hc : ConvFacts D) (x : Int) (hx : inRange D x) (hx0 : 0 < x) :
    (∃ r m, Trans.run (Trans.sqrt D D x) = .ok (some r, m) false ∧ 0 ≤ r ∧ (r - 4) ^ 2 ≤ x * 2 ^ D.f ∧
      x * 2 ^ D.f ≤ (r + 4) ^ 2) ∨
    (∃ m, Trans.run (Trans.sqrt D D x) = .ok (none, m) false ∧ ¬ inRange D (divSpec D.f (2 ^ D.f) x)) := by
  obtain ⟨o, m, he, h⟩ := sqrt_ret D hv hf (hM_of_hint D hv.2 hint) hc x hx 0
  cases o with
  | some r => exact Or.inl ⟨r, m, he, h.2.1, h.2.2.1 hx0, h.2.2.2.1⟩
  | none => exact Or.inr ⟨m, he, h.elim (fun h => absurd h (by omega)) fun h => h.2⟩

/-- the plain lower bracket `(r - 4) ^ 2 ≤ x * 2 ^ f` fails at `x = 0` (`r = 0`): this is why
the main theorem reads it as trivially true for `r < 4` -/
theorem sqrt_accuracy_plain_counterexample :
    Trans.run (Trans.sqrt ⟨true, 32, 23⟩ ⟨true, 32, 23⟩ 0) = .ok (some 0, 0) false ∧
      ¬ (((0 : Int) - 4) ^ 2 ≤ 0 * 2 ^ (23 : Nat)) := by
  constructor
  · decide
  · decide

end Sfx.SqrtPf

#print axioms Sfx.SqrtPf.sqrt_accuracy_gen
#print axioms Sfx.SqrtPf.sqrt_accuracy_int10
#print axioms Sfx.SqrtPf.sqrt_accuracy_pos
#print axioms Sfx.SqrtPf.sqrt_accuracy_plain_counterexample
