import Mathlib.Tactic.Ring
import Mathlib.Tactic.Linarith
import Mathlib.Tactic.Positivity
/-
  SqrtArith.lean — pure integer facts behind the Newton iteration of `transcendental::sqrt`
  (`l ↦ ⌊(l + ⌊X / l⌋) / 2⌋`).  Statements use products only (no `^`), quotients are given by their defining
  inequalities, so the statements read the same in files with and without Mathlib's `Pow` instances (the proofs use `ring`, `linarith`, `positivity`).
  `s` is the integer square root of `X` (`s*s ≤ X < (s+1)*(s+1)`), `q = ⌊X / l⌋`, `l' = ⌊(l + q) / 2⌋`.
-/
namespace Sfx.SqrtPf

/-- one Newton step from `l ≥ s`: the next iterate is not below the integer square root (AM–GM); the error recursion
`2 l (l' − t) ≤ (l − t)² − 1` for `t = s + 1` -/
theorem newton_step (X s l q l' : Int) (hs : 1 ≤ s) (h1 : s * s ≤ X) (h2 : X < (s + 1) * (s + 1)) (hl : s ≤ l)
    (hq1 : q * l ≤ X) (hq2 : X < (q + 1) * l) (hl'1 : 2 * l' ≤ l + q) (hl'2 : l + q ≤ 2 * l' + 1) :
    s ≤ l' ∧ 2 * l * (l' - (s + 1)) ≤ (l - (s + 1)) * (l - (s + 1)) - 1 ∧ 0 ≤ q ∧ q ≤ s + 2 := by
  have hl0 : 0 < l := by omega
  refine ⟨?_, ?_, ?_, ?_⟩
  · by_contra hcon
    have h3 : q + 1 ≤ 2 * s - l := by omega
    have h4 : (q + 1) * l ≤ (2 * s - l) * l := mul_le_mul_of_nonneg_right h3 (le_of_lt hl0)
    linarith [sq_nonneg (s - l)]
  · have h3 : l * (2 * l') ≤ l * (l + q) := mul_le_mul_of_nonneg_left hl'1 (le_of_lt hl0)
    linarith
  · by_contra hcon
    have : (q + 1) * l ≤ 0 := mul_nonpos_of_nonpos_of_nonneg (by omega) (le_of_lt hl0)
    have := mul_nonneg (show 0 ≤ s by omega) (show 0 ≤ s by omega)
    omega
  · by_contra hcon
    have h4 : (s + 3) * s ≤ q * l := mul_le_mul (by omega) hl (by omega) (by omega)
    linarith

theorem step_shrink (t l l' : Int) (ht : 2 ≤ t) (hl : t - 1 ≤ l) (he : 2 * l * (l' - t) ≤ (l - t) * (l - t) - 1) :
    2 * (l' - t) ≤ max (l - t) 0 := by
  by_contra hcon
  by_cases hlt : t < l
  · have h3 : l - t + 1 ≤ 2 * (l' - t) := by omega
    have h4 : l * (l - t + 1) ≤ l * (2 * (l' - t)) := mul_le_mul_of_nonneg_left h3 (by omega)
    linarith [mul_nonneg (show 0 ≤ l - t by omega) (show 0 ≤ t by omega)]
  · have h3 : (l - t) * (l - t) ≤ 1 := by
      have : l - t = 0 ∨ l - t = -1 := by omega
      rcases this with h | h <;> rw [h] <;> norm_num
    have h4 : 0 < l * (2 * (l' - t)) := mul_pos (by omega) (by omega)
    linarith

theorem step_quad (K t l l' : Int) (hK : 1 ≤ K) (ht : 0 < t) (hl : t ≤ l) (hK1 : K * (l - t) ≤ t)
    (he : 2 * l * (l' - t) ≤ (l - t) * (l - t) - 1) : 2 * K * K * (l' - t) ≤ t := by
  by_cases hd : l' - t ≤ 0
  · have : 2 * K * K * (l' - t) ≤ 0 := mul_nonpos_of_nonneg_of_nonpos (by positivity) hd
    omega
  · have hd' : 0 < l' - t := by omega
    have h3 : 2 * t * (l' - t) ≤ 2 * l * (l' - t) :=
      mul_le_mul_of_nonneg_right (by omega) (le_of_lt hd')
    have h4 : (K * (l - t)) * (K * (l - t)) ≤ t * t :=
      mul_le_mul hK1 hK1 (mul_nonneg (by omega) (by omega)) (le_of_lt ht)
    have h5 : K * K * (2 * t * (l' - t)) ≤ K * K * ((l - t) * (l - t)) :=
      mul_le_mul_of_nonneg_left (by omega) (by positivity)
    have h6 : t * (2 * K * K * (l' - t)) ≤ t * t := by linarith
    exact le_of_mul_le_mul_left h6 ht

/-- the starting value `⌊x/2⌋ + F` is strictly above `√(x F)`, hence above its integer part `s` -/
theorem start_gt (x F h s : Int) (hF : 2 ≤ F) (hh : 0 ≤ h) (hx2 : x ≤ 2 * h + 1) (hs : 0 ≤ s) (h1 : s * s ≤ x * F) :
    s + 1 ≤ h + F := by
  by_contra hcon
  have h2 : x * F ≤ (2 * h + 1) * F := mul_le_mul_of_nonneg_right hx2 (by omega)
  have h3 : (h + F) * (h + F) ≤ s * s := mul_le_mul (by omega) (by omega) (by omega) hs
  linarith [mul_self_nonneg h, mul_nonneg (show 0 ≤ F - 2 by omega) (show 0 ≤ F by omega)]

/-- the start `l₀ = ⌊x/2⌋ + F` exceeds any `t > √(x F)` by at most `P t` when `F ≤ x ≤ 4 P² F`: else `(P + 1) t < l₀ ≤ x/2 + F`, and squaring
gives `(P + 1)² x F < x²/4 + x F + F² ≤ (P² + 2) x F` -/
theorem start_ratio (x F h P X t : Int) (hF : 1 ≤ F) (hxF : F ≤ x) (hh0 : 0 ≤ h) (hh1 : 2 * h ≤ x) (hP : 1 ≤ P)
    (hxP : x ≤ 4 * P * P * F) (hX : X = x * F) (ht0 : 0 < t) (ht : X < t * t) : h + F - t ≤ P * t := by
  by_contra hcon
  have h3 : (P + 1) * t < h + F := by linarith
  have h4 : ((P + 1) * t) * ((P + 1) * t) < (h + F) * (h + F) :=
    mul_lt_mul'' h3 h3 (by positivity) (by positivity)
  have h5 : 4 * ((h + F) * (h + F)) ≤ (x + 2 * F) * (x + 2 * F) := by
    have : 2 * (h + F) ≤ x + 2 * F := by omega
    have := mul_le_mul this this (by omega) (by omega)
    linarith
  have h6 : x * x ≤ x * (4 * P * P * F) := mul_le_mul_of_nonneg_left hxP (by omega)
  have h7 : F * F ≤ x * F := mul_le_mul_of_nonneg_right hxF (by omega)
  have h8 : 0 ≤ x * F := mul_nonneg (by omega) (by omega)
  have h9 : x * F ≤ P * (x * F) := le_mul_of_one_le_left h8 hP
  have h10 : (P + 1) * (P + 1) * X ≤ (P + 1) * (P + 1) * (t * t) :=
    mul_le_mul_of_nonneg_left (le_of_lt ht) (by positivity)
  subst hX
  linarith

/-- no overflow: `l + ⌊X/l⌋ ≤ ⌊x/2⌋ + F + s + 2` stays below `M` when `M ≥ 8 F` (else `3 M − 19 ≤ 8 s`, and squaring contradicts `s² ≤ x F < M²/8`) -/
theorem no_ovf (x F h s M : Int) (hF : 16 ≤ F) (hM : 8 * F ≤ M) (hx : x < M) (hh1 : 2 * h ≤ x) (hs : 0 ≤ s)
    (h1 : s * s ≤ x * F) : h + F + s + 2 < M := by
  by_contra hcon
  have h3 : 3 * M - 19 ≤ 8 * s := by omega
  have h4 : (3 * M - 19) * (3 * M - 19) ≤ (8 * s) * (8 * s) := mul_le_mul h3 h3 (by omega) (by omega)
  have h5 : x * F ≤ M * F := mul_le_mul_of_nonneg_right (le_of_lt hx) (by omega)
  have h6 : M * (8 * F) ≤ M * M := mul_le_mul_of_nonneg_left hM (by omega)
  have h7 : 128 * M ≤ M * M := mul_le_mul_of_nonneg_right (by omega) (by omega)
  linarith

theorem exists_isqrt (X : Int) (hX : 0 ≤ X) : ∃ s : Int, 0 ≤ s ∧ s * s ≤ X ∧ X < (s + 1) * (s + 1) := by
  obtain ⟨n, rfl⟩ := Int.eq_ofNat_of_zero_le hX
  induction n with
  | zero => exact ⟨0, by omega, by simp, by simp⟩
  | succ n ih =>
    obtain ⟨s, h0, h1, h2⟩ := ih (by omega)
    by_cases h : (s + 1) * (s + 1) ≤ (n : Int) + 1
    · exact ⟨s + 1, by omega, by push_cast; linarith, by push_cast; linarith⟩
    · exact ⟨s, h0, by push_cast; linarith, by push_cast; linarith⟩

/-! ### the inverted path: `y = ⌊F²/x⌋`, `l ≈ √(y F)` within one unit, `r = ⌊F²/l⌋` -/

theorem quot_le_self (F l r : Int) (hF : 0 < F) (hl : F ≤ l) (hr1 : r * l ≤ F * F) : r ≤ F := by
  by_contra hcon
  have : (F + 1) * F ≤ r * l := mul_le_mul (by omega) hl (by omega) (by omega)
  linarith

/-- both sides are compared after multiplication by `l²`: `x F l² ≤ F⁴ + F² (2 l − 1)` from the two upper bounds, `(F² + 1 + l)² ≤ ((r + 2) l)²`
from the lower bound on `r` -/
theorem inv_upper (x F y l r : Int) (hF : 1 ≤ F) (hx0 : 1 ≤ x) (hx : x ≤ F) (hy1 : x * y ≤ F * F)
    (hl1 : (l - 1) * (l - 1) ≤ y * F) (hl : 1 ≤ l) (hr2 : F * F < (r + 1) * l) (hr : 0 ≤ r) :
    x * F < (r + 2) * (r + 2) := by
  have h0 : x * ((l - 1) * (l - 1)) ≤ x * (y * F) := mul_le_mul_of_nonneg_left hl1 (by omega)
  have h2 : x * y * F ≤ F * F * F := mul_le_mul_of_nonneg_right hy1 (by omega)
  have h1 : x * ((l - 1) * (l - 1)) ≤ F * F * F := by linarith
  have h3 : x * F ≤ F * F := mul_le_mul_of_nonneg_right hx (by omega)
  have h4 : x * F * (2 * l - 1) ≤ F * F * (2 * l - 1) := mul_le_mul_of_nonneg_right h3 (by omega)
  have h5 : F * (x * ((l - 1) * (l - 1))) ≤ F * (F * F * F) := mul_le_mul_of_nonneg_left h1 (by omega)
  have h6 : x * F * (l * l) ≤ F * F * (F * F) + F * F * (2 * l - 1) := by linarith
  have h7 : F * F + 1 + l ≤ (r + 2) * l := by linarith
  have h8 : (F * F + 1 + l) * (F * F + 1 + l) ≤ ((r + 2) * l) * ((r + 2) * l) :=
    mul_le_mul h7 h7 (by positivity) (by positivity)
  have h9 : x * F * (l * l) < (r + 2) * (r + 2) * (l * l) := by
    linarith [mul_pos (show 0 < F by omega) (show 0 < F by omega), mul_self_nonneg (1 + l)]
  exact lt_of_mul_lt_mul_right h9 (by positivity)

/-- both sides are compared after multiplication by `(l + 1)²`, through `F⁴ − F³` -/
theorem inv_lower (x F y l r : Int) (hF : 16 ≤ F) (hx0 : 1 ≤ x) (hx : x ≤ F) (hy2 : F * F < x * (y + 1))
    (hl2 : y * F < (l + 1) * (l + 1)) (hl : F ≤ l) (hr1 : r * l ≤ F * F) (hr : 4 ≤ r) : (r - 4) * (r - 4) ≤ x * F := by
  have ha := quot_le_self F l r (by omega) hl hr1
  have hb : F * F * (F * F) - F * F * F ≤ x * F * ((l + 1) * (l + 1)) := by
    have h1 : x * (y * F + 1) ≤ x * ((l + 1) * (l + 1)) := mul_le_mul_of_nonneg_left (by omega) (by omega)
    have h2 : (F * F + 1) * F ≤ (x * (y + 1)) * F := mul_le_mul_of_nonneg_right (by omega) (by omega)
    have h3 : F * (F * F * F) ≤ F * (x * ((l + 1) * (l + 1)) + x * F) := mul_le_mul_of_nonneg_left (by linarith) (by omega)
    have h4 : x * (F * F) ≤ F * (F * F) := mul_le_mul_of_nonneg_right hx (by positivity)
    linarith
  -- 0 ≤ (r − 4)(l + 1) ≤ F² − 3l − 4 ≤ F² − 3F − 4, and (F² − 3F − 4)² ≤ F⁴ − F³
  have hc0 : 0 ≤ (r - 4) * (l + 1) := mul_nonneg (by omega) (by omega)
  have hc : (r - 4) * (l + 1) ≤ F * F - 3 * F - 4 := by linarith
  have he := mul_le_mul hc hc hc0 (hc0.trans hc)
  have h3 : 16 * F ≤ F * F := mul_le_mul_of_nonneg_right hF (by omega)
  have h4 : 16 * (F * F) ≤ F * (F * F) := mul_le_mul_of_nonneg_right hF (by positivity)
  have hg : (r - 4) * (r - 4) * ((l + 1) * (l + 1)) ≤ x * F * ((l + 1) * (l + 1)) := by linarith
  exact le_of_mul_le_mul_right hg (mul_pos (by omega) (by omega))

theorem inv_bracket (x F s l : Int) (hF : 16 ≤ F) (hx0 : 1 ≤ x) (hx : x ≤ F) (hsF : F ≤ s) (h1 : s * s ≤ F * F / x * F)
    (h2 : F * F / x * F < (s + 1) * (s + 1)) (hl1 : s ≤ l) (hl2 : l ≤ s + 1) :
    0 ≤ F * F / l ∧ F * F / l ≤ F ∧ (F * F / l - 4) * (F * F / l - 4) ≤ x * F ∧ x * F < (F * F / l + 2) * (F * F / l + 2) := by
  have hl0 : 0 < l := by omega
  have hy1 : x * (F * F / x) ≤ F * F := by rw [mul_comm x]; exact Int.ediv_mul_le _ (by omega)
  have hy2 : F * F < x * (F * F / x + 1) := by rw [mul_comm x]; exact Int.lt_ediv_add_one_mul_self _ (by omega)
  have hr1 : F * F / l * l ≤ F * F := Int.ediv_mul_le _ (by omega)
  have hr2 : F * F < (F * F / l + 1) * l := Int.lt_ediv_add_one_mul_self _ hl0
  have hr : 0 ≤ F * F / l := Int.ediv_nonneg (mul_self_nonneg F) (by omega)
  generalize F * F / x = y at *
  generalize F * F / l = r at *
  have hla : (l - 1) * (l - 1) ≤ y * F :=
    le_trans (mul_le_mul (by omega) (by omega) (by omega) (by omega)) h1
  have hlb : y * F < (l + 1) * (l + 1) :=
    lt_of_lt_of_le h2 (mul_le_mul (by omega) (by omega) (by omega) (by omega))
  refine ⟨hr, quot_le_self F l r (by omega) (by omega) hr1, ?_, inv_upper x F y l r (by omega) hx0 hx hy1 hla (by omega) hr2 hr⟩
  by_cases hr4 : 4 ≤ r
  · exact inv_lower x F y l r hF hx0 hx hy2 hlb (by omega) hr1 hr4
  · have h3 : (4 - r) * (4 - r) ≤ 4 * 4 := mul_le_mul (by omega) (by omega) (by omega) (by omega)
    have h4 : 1 * F ≤ x * F := mul_le_mul_of_nonneg_right hx0 (by omega)
    linarith

end Sfx.SqrtPf
