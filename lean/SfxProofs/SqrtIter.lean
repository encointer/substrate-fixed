import SfxProofs.PrimLemmas
import SfxProofs.SqrtArith
/-
  SqrtIter.lean — convergence of the integer Newton iteration `l ↦ ⌊(l + ⌊X / l⌋) / 2⌋` (pure integers, no model).
  `Monoid.toNPow` is erased locally so that `(2 : Int) ^ k` in the statements is core's `Int.pow`, as in the Mathlib-free files.
-/
attribute [-instance] Monoid.toNPow

namespace Sfx.SqrtPf

-- one Newton step for `√X` on integers, both divisions floored, and `k` steps from `l`: what the loop of `sqrt` computes on bits
def step (X l : Int) : Int := (l + X / l) / 2
def newton (X : Int) : Nat → Int → Int
  | 0, l => l
  | k + 1, l => newton X k (step X l)

/-- `Kq j = 2 ^ (2 ^ j - 1)`: the reciprocal relative error guaranteed after `j` quadratic steps -/
def Kq : Nat → Int
  | 0 => 1
  | j + 1 => 2 * Kq j * Kq j

theorem Kq_pos : ∀ j, 1 ≤ Kq j
  | 0 => Int.le_refl _
  | j + 1 => by
    have h := Kq_pos j
    have h2 : 1 * 1 ≤ Kq j * Kq j := Int.mul_le_mul h h (by omega) (by omega)
    show 1 ≤ 2 * Kq j * Kq j
    rw [Int.mul_assoc]; omega

theorem newton_add (X : Int) : ∀ (a b : Nat) (l : Int), newton X (a + b) l = newton X b (newton X a l)
  | 0, b, l => by rw [Nat.zero_add]; rfl
  | a + 1, b, l => by
    rw [Nat.succ_add]
    exact newton_add X a b (step X l)

section
variable (X s : Int) (hs : 1 ≤ s) (h1 : s * s ≤ X) (h2 : X < (s + 1) * (s + 1))
include hs h1 h2

theorem step_facts (l : Int) (hl : s ≤ l) :
    s ≤ step X l ∧ 2 * l * (step X l - (s + 1)) ≤ (l - (s + 1)) * (l - (s + 1)) - 1 ∧ 0 ≤ X / l ∧ X / l ≤ s + 2 := by
  have hl0 : 0 < l := by omega
  have hq1 : X / l * l ≤ X := Int.ediv_mul_le X (by omega)
  have hq2 : X < (X / l + 1) * l := Int.lt_ediv_add_one_mul_self X hl0
  have hst : step X l = (l + X / l) / 2 := rfl
  exact newton_step X s l _ _ hs h1 h2 hl hq1 hq2 (by rw [hst]; omega) (by rw [hst]; omega)

theorem step_le (l : Int) (hl : s ≤ l) : 2 * (step X l - (s + 1)) ≤ max (l - (s + 1)) 0 :=
  step_shrink (s + 1) l _ (by omega) (by omega) (step_facts X s hs h1 h2 l hl).2.1

theorem step_bound (l L : Int) (hl : s ≤ l) (hL : l ≤ L) (htL : s + 1 ≤ L) : s ≤ step X l ∧ step X l ≤ L := by
  have g := step_le X s hs h1 h2 l hl
  exact ⟨(step_facts X s hs h1 h2 l hl).1, by omega⟩

theorem newton_weights (w : Nat → Int) (C : Int)
    (hw : ∀ j l, s ≤ l → w j * (l - (s + 1)) ≤ C → w (j + 1) * (step X l - (s + 1)) ≤ C) :
    ∀ (k i : Nat) (l : Int), s ≤ l → w i * (l - (s + 1)) ≤ C →
      s ≤ newton X k l ∧ w (i + k) * (newton X k l - (s + 1)) ≤ C
  | 0, _, _, hl, h => ⟨hl, h⟩
  | k + 1, i, l, hl, h => by
    rw [show i + (k + 1) = (i + 1) + k by omega]
    exact newton_weights w C hw k (i + 1) (step X l) (step_facts X s hs h1 h2 l hl).1 (hw i l hl h)

theorem phase1 (k : Nat) (l B : Int) (hl : s ≤ l) (hB : 0 ≤ B) (h : l - (s + 1) ≤ 2 ^ k * B) :
    s ≤ newton X k l ∧ newton X k l - (s + 1) ≤ B := by
  have hC : 0 ≤ 2 ^ k * B := Int.mul_nonneg (Int.le_of_lt (two_pow_pos k)) hB
  obtain ⟨a1, a2⟩ := newton_weights X s hs h1 h2 (fun j => 2 ^ j) (2 ^ k * B) (fun j l hl hj => by
    have g := Int.mul_le_mul_of_nonneg_left (step_le X s hs h1 h2 l hl) (Int.le_of_lt (two_pow_pos j))
    show (2 : Int) ^ (j + 1) * (step X l - (s + 1)) ≤ 2 ^ k * B
    rw [Int.pow_succ, Int.mul_assoc]
    rcases Int.le_total (l - (s + 1)) 0 with h0 | h0
    · rw [Int.max_eq_right h0, Int.mul_zero] at g; omega
    · rw [Int.max_eq_left h0] at g; omega) k 0 l hl (by rw [Int.pow_zero, Int.one_mul]; exact h)
  rw [Nat.zero_add] at a2
  exact ⟨a1, Int.le_of_mul_le_mul_left a2 (two_pow_pos k)⟩

theorem phase2 (j i : Nat) (l : Int) (hl : s ≤ l) (h : Kq i * (l - (s + 1)) ≤ s + 1) :
    s ≤ newton X j l ∧ Kq (i + j) * (newton X j l - (s + 1)) ≤ s + 1 :=
  newton_weights X s hs h1 h2 Kq (s + 1) (fun i l hl h => by
    by_cases hlt : s + 1 ≤ l
    · exact step_quad (Kq i) (s + 1) l _ (Kq_pos i) (by omega) hlt h (step_facts X s hs h1 h2 l hl).2.1
    · have g := step_le X s hs h1 h2 l hl
      have : Kq (i + 1) * (step X l - (s + 1)) ≤ 0 :=
        Int.mul_nonpos_of_nonneg_of_nonpos (by have := Kq_pos (i + 1); omega) (by omega)
      omega) j i l hl h

theorem stable (k : Nat) (l : Int) (hl : s ≤ l) (hl' : l ≤ s + 1) : s ≤ newton X k l ∧ newton X k l ≤ s + 1 := by
  have := phase1 X s hs h1 h2 k l 0 hl (Int.le_refl 0) (by rw [Int.mul_zero]; omega)
  omega

/-- `p` halvings bring the excess below `s + 1`, `j` quadratic steps with `s + 1 < Kq j` then reach `{s, s+1}`, which is invariant.
The code runs `intBits / 2 + 10 ≥ p + 8` steps for `p = intBits / 2`, and `Kq 8 = 2^255` exceeds every `s + 1` of a width `n ≤ 128`
(`s + 1 ≤ 2^n`): `rootK_root` puts `j = 8` in -/
theorem converge_steps (l0 : Int) (p j N : Nat) (hl0 : s ≤ l0) (hp : l0 - (s + 1) ≤ 2 ^ p * (s + 1)) (ht : s + 1 < Kq j)
    (hN : p + j ≤ N) : s ≤ newton X N l0 ∧ newton X N l0 ≤ s + 1 := by
  have hN' : N = p + (j + (N - p - j)) := by omega
  rw [hN', newton_add, newton_add]
  obtain ⟨a1, a2⟩ := phase1 X s hs h1 h2 p l0 (s + 1) hl0 (by omega) hp
  obtain ⟨b1, b2⟩ := phase2 X s hs h1 h2 j 0 (newton X p l0) a1 (by show 1 * _ ≤ _; omega)
  rw [Nat.zero_add] at b2
  have b3 : newton X j (newton X p l0) ≤ s + 1 := by
    apply Int.not_lt.1
    intro hcon
    have : Kq j * 1 ≤ Kq j * (newton X j (newton X p l0) - (s + 1)) :=
      Int.mul_le_mul_of_nonneg_left (by omega) (by have := Kq_pos j; omega)
    omega
  exact stable X s hs h1 h2 _ _ b1 b3

/-- eight quadratic steps: `Kq 8 = 2^255` -/
theorem converge (l0 : Int) (p N : Nat) (hl0 : s ≤ l0) (hp : l0 - (s + 1) ≤ 2 ^ p * (s + 1)) (ht : s + 1 < 2 ^ 255)
    (hN : p + 8 ≤ N) : s ≤ newton X N l0 ∧ newton X N l0 ≤ s + 1 :=
  converge_steps X s hs h1 h2 l0 p 8 N hl0 hp (by rw [show Kq 8 = 2 ^ 255 by decide]; exact ht) hN

end

/-- the code's starting value `⌊y/2⌋ + F` for an operand `y ≥ F`; `F = 2^f`, `M = max + 1 ≤ 4·(2^p)²·F` -/
theorem newton_start (y F M : Int) (p j N : Nat) (hF : 16 ≤ F) (hyF : F ≤ y) (hyM : y < M) (hM : 8 * F ≤ M)
    (hMP : M ≤ 4 * 2 ^ p * 2 ^ p * F) (hMK : M < Kq j) (hN : p + j ≤ N) :
    ∃ s : Int, F ≤ s ∧ s * s ≤ y * F ∧ y * F < (s + 1) * (s + 1) ∧ s + 1 ≤ y / 2 + F ∧ y / 2 + F + s + 2 < M ∧
      s ≤ newton (y * F) N (y / 2 + F) ∧ newton (y * F) N (y / 2 + F) ≤ s + 1 := by
  obtain ⟨s, hs0, h1, h2⟩ := exists_isqrt (y * F) (Int.mul_nonneg (by omega) (by omega))
  have hsF : F ≤ s := by
    apply Int.not_lt.1; intro hcon
    have a : (s + 1) * (s + 1) ≤ F * F := Int.mul_le_mul (by omega) (by omega) (by omega) (by omega)
    have b : F * F ≤ y * F := Int.mul_le_mul_of_nonneg_right hyF (by omega)
    omega
  have hh : 2 * (y / 2) ≤ y ∧ y ≤ 2 * (y / 2) + 1 := by omega
  have hl0 := start_gt y F (y / 2) s (by omega) (by omega) hh.2 hs0 h1
  have hov := no_ovf y F (y / 2) s M hF hM hyM hh.1 hs0 h1
  have hP1 : (1 : Int) ≤ 2 ^ p := two_pow_pos p
  have hratio := start_ratio y F (y / 2) (2 ^ p) (y * F) (s + 1) (by omega) hyF (by omega) hh.1 hP1 (by omega) rfl (by omega) h2
  obtain ⟨c1, c2⟩ := converge_steps (y * F) s (by omega) h1 h2 (y / 2 + F) p j N (by omega) hratio (by omega) hN
  exact ⟨s, hsF, h1, h2, hl0, hov, c1, c2⟩

end Sfx.SqrtPf
