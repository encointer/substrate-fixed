import SfxModel.Transcendental
import SfxProofs.PrimLemmas
import SfxProofs.Forms
import SfxProps.C01
/-
  TRRules.lean — what every proof about `SfxModel/Transcendental.lean` starts from.
    * How a `TR` `do` block evaluates: equations (`bind_of_eq`, `liftO_bind`, `tick_bind`, …) and the relation `Runs`, one rule per
      way a block is built, applied against the model's own text.
    * WHICH FORM A FACT ABOUT A RUN TAKES.  `Runs m n o n'`: the outcome is a closed form (`sin_runs`, `frac_runs`).  `Ret m n Q`: the
      outcome goes by cases — `Err` is characterised, the counter kept (`sqrt_ret`, `log2_ret`, `ln_ret`); also written out as
      `∃ v n', Runs m n (some v) n' ∧ P` when the run always returns and the value is known only through `P` (`rootK_root`,
      `halve_runs`, `inner_runs`, `sqrt_direct`).  `Tot m P` (Exp.lean): a postcondition on returned values only, when neither the `Err`
      condition nor the counter is wanted (`exp_spec`, `pow_spec`, `powi_tot`: any checked step may fail).  A raw `= .ok … false`: the
      `Outcome`-level operators (`rs_eq`, `lossyC_eq`); the end results and their readings at counter `0`, which speak `Trans.run`
      (`run_sin`, `powi_conventions`, `exp_widen_min`: `Runs … 0 …` unfolded); "if it returned" hypotheses with a free `dbg`.  An
      equation between computations: S ≠ D (`*_widen_fun`), `powi_body`.  `TicksLE m k` (Iters.lean): the UNCONDITIONAL count, panic
      allowed; conditional counts ride in the counter of `Runs` / `Ret` (`log2_ticks`).
    * The operators on in-range operands, one lemma each, all in the style `(D) (hv : D.valid) (a b) … (h : inRange D result)`:
      `addOp_in`, `uadd_in`, `usub_in`, `negOp_in`, `mulOp_in`, `divOp_in` (`divOp_nn`), the checked forms `checkedAdd_eq`,
      `checkedNeg_eq`, `checkedMul_eq`, `checkedDiv_eq` (`checkedDiv_nn`).
    * What a proof may assume of the destination layout.  There are four bundles, one chain:

          C12.Supp D  ──Supp.ok──▶  TrigPf.Ok D  ──Ok.ctx──▶  LogPf.Ctx D  ──Ctx.conv──▶  SqrtPf.ConvFacts D
                                        │
                                        └──Ok.facts──▶  ExpPf.Facts D

      `ConvFacts` (here; discharged by `TransFacts.convFacts` for every valid layout with room for `2`, signed or unsigned): what
      `sqrt` needs — `from_num(1)`, `from_num(2)` and the comparisons with the `I9F23` constants `ZERO`, `ONE`; `exp` and the
      reductions of `Pairs.lean` read the same comparisons from it.  `Ctx` (Log.lean: valid, signed, three integer bits): `log2`.
      `Facts` (Exp.lean: the literals `0`, `1`, `2 … f`, the constant `E`): `exp`, `pow`, `powi`.  `Ok` (Trig.lean: valid, signed,
      `23 ≤ f`, nine integer bits — the fields of the property files' `C12.Supp`): `ln`, `sin`, `cos`, `tan` and everything above.
      Each arrow is stated in the first module that sees both ends: `Ctx.conv` in `Log.lean`, `Ok.conv` in `TrigModel.lean`,
      `Ok.ctx`, `Ok.facts`, `Supp.ok` in `C12.lean`; Exp and Log, which see no `Ok`, take its four fields one by one.
  Namespace `SqrtPf`: shared by all transcendental proofs.
  `Monoid.toNPow` (it arrives through `SfxProps.C01`, whose imports reach `Mathlib.Tactic.Ring`) is erased locally so that
  `(2 : Int) ^ k` in the statements is core's `Int.pow`, as in the files that import no Mathlib.
-/
attribute [-instance] Monoid.toNPow

namespace Sfx.SqrtPf
open Sfx.Trans

/-- `from_num(1)`, `from_num(2)` and the comparisons with the `I9F23` constants `ZERO`, `ONE` on the grid of `D` -/
structure ConvFacts (D : Layout) : Prop where
  fromNum1 : Trans.fromNumI D 1 = .ok (2 ^ D.f) false
  fromNum2 : Trans.fromNumI D 2 = .ok (2 * 2 ^ D.f) false
  lt0 : ∀ x, inRange D x → D.ltFixed Trans.C x Trans.ZERO = decide (x < 0)
  eq0 : ∀ x, inRange D x → D.eqFixed Trans.C x Trans.ZERO = decide (x = 0)
  eq1 : ∀ x, inRange D x → D.eqFixed Trans.C x Trans.ONE = decide (x = 2 ^ D.f)
  lt1 : ∀ x, inRange D x → D.ltFixed Trans.C x Trans.ONE = decide (x < 2 ^ D.f)

theorem inC_zero : inRange Trans.C Trans.ZERO := by decide
theorem inC_one : inRange Trans.C Trans.ONE := by decide

theorem obind_ok_false {α β : Type} (v : α) (g : α → Outcome β) : Outcome.bind (.ok v false) g = g v := by
  cases h : g v with
  | panic => simp only [Outcome.bind, h]
  | ok w d => simp only [Outcome.bind, h, Bool.false_or]

theorem bind_of_eq {α β : Type} (m : TR α) (k : α → TR β) (n n' : Nat) (v : α) (h : m n = .ok (some v, n') false) :
    (m >>= k) n = k v n' := by
  show TR.bind m k n = _
  unfold TR.bind
  rw [h, obind_ok_false]

theorem bind_of_none {α β : Type} (m : TR α) (k : α → TR β) (n n' : Nat) (h : m n = .ok (none, n') false) :
    (m >>= k) n = .ok (none, n') false := by
  show TR.bind m k n = _
  unfold TR.bind
  rw [h, obind_ok_false]

/-! equations between computations, so that they also rewrite under an `if` or a binder -/
theorem liftO_bind {α β : Type} (v : α) (k : α → TR β) : liftO (.ok v false) >>= k = k v :=
  funext fun n => bind_of_eq _ k n n v rfl
theorem liftOpt_some_bind {α β : Type} (v : α) (k : α → TR β) : liftOpt (.ok (some v) false) >>= k = k v :=
  funext fun n => bind_of_eq _ k n n v rfl
theorem pure_bind' {α β : Type} (v : α) (k : α → TR β) : (pure v : TR α) >>= k = k v :=
  funext fun n => bind_of_eq _ k n n v rfl
theorem bind_pure' {α : Type} (m : TR α) : (m >>= fun r => (pure r : TR α)) = m := by
  funext n
  show TR.bind m _ n = _
  unfold TR.bind
  cases h : m n with
  | panic => rfl
  | ok v d =>
    obtain ⟨o, n'⟩ := v
    cases o with
    | none => simp [Outcome.bind]
    | some r => simp [Outcome.bind, pure]
theorem liftOpt_none_bind {α β : Type} (k : α → TR β) (n : Nat) :
    (liftOpt (.ok none false) >>= k) n = .ok (none, n) false :=
  bind_of_none _ k n n rfl
theorem tick_bind {β : Type} (k : Unit → TR β) (n : Nat) : (tick >>= k) n = k () (n + 1) :=
  bind_of_eq _ k n (n + 1) () rfl

/-- started with the counter at `n`, the computation `m` returns the outcome `o` (`none` is `Err`) with the counter at `n'`: no panic,
no debug-only check.  One rule per way a `do` block is built; they are applied against the model's own definitions, which unify
with the left-hand sides below. -/
def Runs {α : Type} (m : TR α) (n : Nat) (o : Option α) (n' : Nat) : Prop := m n = .ok (o, n') false

/-- `Runs` is an equation, and is used as one where a run is rewritten (`rw [h.eq]`, `bind_of_eq … h.eq`) -/
theorem Runs.eq {α : Type} {m : TR α} {n n' : Nat} {o : Option α} (h : Runs m n o n') : m n = .ok (o, n') false := h
theorem Runs.of_eq {α : Type} {m : TR α} {n n' : Nat} {o : Option α} (h : m n = .ok (o, n') false) : Runs m n o n' := h

section
variable {α β : Type} {n n' n1 : Nat} {v : α} {o : Option β}

theorem Runs.pure : Runs (pure v : TR α) n (some v) n := rfl
theorem Runs.err : Runs (err : TR α) n none n := rfl
theorem Runs.bind {m : TR α} {k : α → TR β} (hm : Runs m n (some v) n1) (hk : Runs (k v) n1 o n') : Runs (m >>= k) n o n' :=
  (bind_of_eq _ _ _ _ _ hm).trans hk
theorem Runs.bind_err {m : TR α} {k : α → TR β} (hm : Runs m n none n') : Runs (m >>= k) n none n' :=
  bind_of_none _ _ _ _ hm
theorem Runs.liftO {r : Outcome α} (h : r = .ok v false) : Runs (liftO r) n (some v) n := by subst h; rfl
theorem Runs.liftOpt {r : Outcome (Option α)} {w : Option α} (h : r = .ok w false) : Runs (liftOpt r) n w n := by subst h; rfl
theorem Runs.liftO_bind {r : Outcome α} {k : α → TR β} (h : r = .ok v false) (hk : Runs (k v) n o n') :
    Runs (Trans.liftO r >>= k) n o n' := (Runs.liftO h).bind hk
theorem Runs.tick_bind {k : Unit → TR β} (hk : Runs (k ()) (n + 1) o n') : Runs (tick >>= k) n o n' :=
  Runs.bind (m := tick) rfl hk
theorem Runs.ite_pos {c : Prop} [Decidable c] {a b : TR β} (hc : c) (h : Runs a n o n') : Runs (if c then a else b) n o n' := by
  rw [if_pos hc]; exact h
theorem Runs.ite_neg {c : Prop} [Decidable c] {a b : TR β} (hc : ¬ c) (h : Runs b n o n') : Runs (if c then a else b) n o n' := by
  rw [if_neg hc]; exact h
end

/-- started with the counter at `n`, `m` returns — no panic, no debug-only check — SOME outcome and counter, and they satisfy `Q`.
`Runs` is for a run whose outcome is a closed form; `Ret` for one that branches (`Err` when a value is not representable …): `Q` is
then written by cases on the outcome.  The `Tot` of `Exp.lean` is `Ret` with a postcondition on returned values only. -/
def Ret {α : Type} (m : TR α) (n : Nat) (Q : Option α → Nat → Prop) : Prop := ∃ o n', Runs m n o n' ∧ Q o n'

section
variable {α β : Type} {m : TR α} {n : Nat} {Q Q' : Option α → Nat → Prop}

theorem Runs.ret {o : Option α} {n' : Nat} (h : Runs m n o n') (hq : Q o n') : Ret m n Q := ⟨o, n', h, hq⟩

theorem Ret.mono (h : Ret m n Q) (hq : ∀ o n', Q o n' → Q' o n') : Ret m n Q' :=
  let ⟨o, n', hr, hp⟩ := h; ⟨o, n', hr, hq o n' hp⟩

theorem Ret.bind {k : α → TR β} {R : Option β → Nat → Prop} (hm : Ret m n Q)
    (hk : ∀ v n1, Q (some v) n1 → Ret (k v) n1 R) (he : ∀ n1, Q none n1 → R none n1) : Ret (m >>= k) n R := by
  obtain ⟨o, n1, hr, hq⟩ := hm
  cases o with
  | none => exact ⟨none, n1, hr.bind_err, he n1 hq⟩
  | some v =>
    obtain ⟨o', n', hr', hq'⟩ := hk v n1 hq
    exact ⟨o', n', hr.bind hr', hq'⟩

theorem Ret.post (h : Ret m n Q) {o : Option α} {n' : Nat} {dbg : Bool} (he : m n = .ok (o, n') dbg) : Q o n' ∧ dbg = false := by
  obtain ⟨o', n'', hr, hq⟩ := h
  rw [show m n = _ from hr] at he
  cases he
  exact ⟨hq, rfl⟩
end

theorem divSpec_nn (f : Nat) (a b : Int) (ha : 0 ≤ a) : divSpec f a b = a * 2 ^ f / b := by
  unfold divSpec
  exact Int.tdiv_eq_ediv_of_nonneg (Int.mul_nonneg ha (Int.le_of_lt (two_pow_pos f)))

theorem divOp_in (D : Layout) (hv : D.valid) (a b : Int) (ha : inRange D a) (hb : inRange D b) (hb0 : b ≠ 0)
    (hq : inRange D (divSpec D.f a b)) : D.divOp a b = .ok (divSpec D.f a b) false :=
  have hn : 0 < D.n := hv.pos
  (div_forms D hn a b hb0 (C01.divOverflow_spec D hv a b ha hb hb0)).2.trans (ok_wrap_of_in hn hq)

theorem divOp_nn (D : Layout) (hv : D.valid) (a b : Int) (ha : inRange D a) (hb : inRange D b) (ha0 : 0 ≤ a) (hb0 : 0 < b)
    (hq : inRange D (a * 2 ^ D.f / b)) : D.divOp a b = .ok (a * 2 ^ D.f / b) false := by
  rw [← divSpec_nn D.f a b ha0] at hq ⊢
  exact divOp_in D hv a b ha hb (Int.ne_of_gt hb0) hq

theorem mulOp_in (D : Layout) (hv : D.valid) (a b : Int) (ha : inRange D a) (hb : inRange D b)
    (hq : inRange D (mulSpec D.f a b)) : D.mulOp a b = .ok (mulSpec D.f a b) false :=
  have hn : 0 < D.n := hv.pos
  (mul_forms D hn a b (C01.mulOverflow_spec D hv a b ha hb)).2.trans (ok_wrap_of_in hn hq)

theorem addOp_in (D : Layout) (hv : D.valid) (a b : Int) (h : inRange D (a + b)) : D.addOp a b = .ok (a + b) false :=
  (addOp_eq D a b).trans (ok_wrap_of_in hv.pos h)

theorem uadd_in (D : Layout) (hv : D.valid) (a b : Int) (h : inRange D (a + b)) : uadd D.signed D.n a b = .ok (a + b) false :=
  ok_wrap_of_in hv.pos h
theorem usub_in (D : Layout) (hv : D.valid) (a b : Int) (h : inRange D (a - b)) : usub D.signed D.n a b = .ok (a - b) false :=
  ok_wrap_of_in hv.pos h
theorem negOp_in (D : Layout) (hv : D.valid) (a : Int) (h : inRange D (-a)) : D.negOp a = .ok (-a) false :=
  ok_wrap_of_in hv.pos h

theorem checkedMul_eq (D : Layout) (hv : D.valid) (a b : Int) (ha : inRange D a) (hb : inRange D b) :
    D.checkedMul a b = .ok (D.chk (mulSpec D.f a b)) false :=
  (mul_forms D hv.pos a b (C01.mulOverflow_spec D hv a b ha hb)).1.checked

theorem checkedDiv_eq (D : Layout) (hv : D.valid) (a b : Int) (ha : inRange D a) (hb : inRange D b) (hb0 : b ≠ 0) :
    D.checkedDiv a b = .ok (D.chk (divSpec D.f a b)) false :=
  (div_forms D hv.pos a b hb0 (C01.divOverflow_spec D hv a b ha hb hb0)).1.checked

theorem checkedDiv_nn (D : Layout) (hv : D.valid) (a b : Int) (ha : inRange D a) (hb : inRange D b) (ha0 : 0 ≤ a)
    (hb0 : 0 < b) : D.checkedDiv a b = .ok (D.chk (a * 2 ^ D.f / b)) false := by
  rw [checkedDiv_eq D hv a b ha hb (Int.ne_of_gt hb0), divSpec_nn D.f a b ha0]

theorem checkedAdd_eq (D : Layout) (a b : Int) : D.checkedAdd a b = .ok (D.chk (a + b)) false := rfl
theorem checkedNeg_eq (D : Layout) (a : Int) : D.checkedNeg a = .ok (D.chk (-a)) false := rfl

theorem max_add_one_le (D : Layout) : D.max + 1 ≤ 2 ^ D.n := by
  show maxI D.signed D.n + 1 ≤ 2 ^ D.n
  have := pow_le_pow (a := D.n - 1) (b := D.n) (by omega)
  cases D.signed
  · simp [maxI]
  · simp [maxI]; omega

theorem fromS_same (D : Layout) (x : Int) : Trans.fromS D D x = .ok x false := by
  unfold Trans.fromS; rw [if_pos rfl]; rfl

end Sfx.SqrtPf

