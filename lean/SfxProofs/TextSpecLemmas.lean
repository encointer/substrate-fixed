import SfxProofs.RoundHalfEven
/-
  TextSpecLemmas.lean — lemmas about the text specification `SfxModel/TextSpec.lean` alone (core Lean only), shared by the parser (C08),
  the formatter (C09) and the verdict: which bytes `digitVal` accepts, the arithmetic of the rounding `rneDiv`, the grammar `split`
  after its sign (`splitTail`), and the sign of `literal` / `parseExact`.
-/
namespace Sfx.ParsePf

theorem digitVal_some {r b d : Nat} (h : TextSpec.digitVal r b = some d) :
    d < r ∧ (48 ≤ b ∧ b ≤ 57 ∧ d = b - 48 ∨ 97 ≤ b ∧ b ≤ 102 ∧ d = b - 87 ∨ 65 ≤ b ∧ b ≤ 70 ∧ d = b - 55) := by
  unfold TextSpec.digitVal at h
  simp only [Option.bind_eq_some_iff, Option.ite_none_right_eq_some, Option.some.injEq] at h
  obtain ⟨v, hv, hlt, rfl⟩ := h
  refine ⟨hlt, ?_⟩
  split at hv
  · rename_i h1; injection hv with hv; exact Or.inl ⟨h1.1, h1.2, hv.symm⟩
  · split at hv
    · rename_i h1; injection hv with hv; exact Or.inr (Or.inl ⟨h1.1, h1.2, hv.symm⟩)
    · split at hv
      · rename_i h1; injection hv with hv; exact Or.inr (Or.inr ⟨h1.1, h1.2, hv.symm⟩)
      · cases hv

theorem digitVal_of_range {r b : Nat} :
    (48 ≤ b → b ≤ 57 → b - 48 < r → TextSpec.digitVal r b = some (b - 48)) ∧
    (97 ≤ b → b ≤ 102 → b - 87 < r → TextSpec.digitVal r b = some (b - 87)) ∧
    (65 ≤ b → b ≤ 70 → b - 55 < r → TextSpec.digitVal r b = some (b - 55)) := by
  unfold TextSpec.digitVal
  refine ⟨fun h1 h2 h3 => ?_, fun h1 h2 h3 => ?_, fun h1 h2 h3 => ?_⟩
  · simp [h1, h2, h3]
  · rw [if_neg (by omega), if_pos ⟨h1, h2⟩]; simp [h3]
  · rw [if_neg (by omega), if_neg (by omega), if_pos ⟨h1, h2⟩]; simp [h3]

/-! `rneDiv_of_decomp` reads the sentence `IsRne` (RoundHalfEven.lean), of which `rneDiv` is the one solution, on naturals. -/
section
open TextSpec

theorem rneDiv_of_decomp (num den q r : Nat) (h : num = q * den + r) (hr : r < den) :
    rneDiv num den = q + if 2 * r < den ∨ 2 * r = den ∧ q % 2 = 0 then 0 else 1 := by
  have h' := isRne_of_decomp (N := num) (D := den) (q := q) (r := r) (by exact_mod_cast h) (Int.natCast_nonneg r)
    (by exact_mod_cast hr)
  apply rneDiv_eq (by omega)
  by_cases hc : 2 * r < den ∨ 2 * r = den ∧ q % 2 = 0
  · rw [if_pos hc]; rw [if_pos (by omega)] at h'; exact h'
  · rw [if_neg hc]; rw [if_neg (by omega)] at h'; exact h'

theorem rneDiv_mul_self (q b : Nat) (hb : 0 < b) : rneDiv (q * b) b = q :=
  rneDiv_eq hb (by exact_mod_cast isRne_exact (q : Int) (Int.ofNat_lt.2 hb))

theorem rneDiv_one (x : Nat) : rneDiv x 1 = x := by
  have := rneDiv_mul_self x 1 (by omega); rwa [Nat.mul_one] at this

theorem rneDiv_mul_right (a b c : Nat) (hb : 0 < b) (hc : 0 < c) : rneDiv (a * c) (b * c) = rneDiv a b :=
  rneDiv_eq (Nat.mul_pos hb hc) (by exact_mod_cast (rneDiv_isRne a b hb).scale (Int.ofNat_lt.2 hc))

theorem rneDiv_congr (a b a' b' : Nat) (hb : 0 < b) (hb' : 0 < b') (h : a * b' = a' * b) :
    rneDiv a b = rneDiv a' b' := by
  rw [← rneDiv_mul_right a b b' hb hb', h, Nat.mul_comm b b', rneDiv_mul_right a' b' b hb' hb]

/-- rounding when the remainder is given as a half bit and the part `t` below it -/
theorem rneDiv_half (q h bit t : Nat) (hbit : bit < 2) (ht : t < h) :
    rneDiv (q * (2 * h) + (h * bit + t)) (2 * h) = q + if bit = 0 ∨ t = 0 ∧ q % 2 = 0 then 0 else 1 := by
  rcases (show bit = 0 ∨ bit = 1 by omega) with rfl | rfl
  · rw [rneDiv_of_decomp _ _ q (h * 0 + t) rfl (by omega), if_pos (Or.inl (by omega)), if_pos (Or.inl rfl)]
  · rw [rneDiv_of_decomp _ _ q (h * 1 + t) rfl (by omega)]
    by_cases hB : t = 0 ∧ q % 2 = 0
    · rw [if_pos (Or.inr ⟨by omega, hB.2⟩), if_pos (Or.inr hB)]
    · rw [if_neg (by omega), if_neg (by omega)]

theorem rneDiv_int_frac (iv fv D f : Nat) (hfv : fv < D) :
    rneDiv ((iv * D + fv) * 2 ^ f) D =
      iv * 2 ^ f + rneDiv (fv * 2 ^ f) D + (if f = 0 ∧ 2 * fv = D ∧ iv % 2 = 1 then 1 else 0) := by
  have hD : 0 < D := by omega
  have h1 : fv * 2 ^ f = (fv * 2 ^ f / D) * D + fv * 2 ^ f % D := by
    have := Nat.div_add_mod (fv * 2 ^ f) D; rw [Nat.mul_comm] at this; omega
  have h2 : fv * 2 ^ f % D < D := Nat.mod_lt _ hD
  generalize fv * 2 ^ f / D = q0 at h1
  generalize fv * 2 ^ f % D = r0 at h1 h2
  have h3 : (iv * D + fv) * 2 ^ f = (iv * 2 ^ f + q0) * D + r0 := by
    rw [Nat.add_mul, h1, Nat.add_mul, Nat.mul_right_comm, Nat.add_assoc]
  rw [rneDiv_of_decomp _ _ _ _ h3 h2, rneDiv_of_decomp _ _ _ _ h1 h2]
  by_cases hf : f = 0
  · subst hf
    rw [Nat.pow_zero, Nat.mul_one] at h1 ⊢
    have hq0 : q0 = 0 := by
      rcases Nat.eq_zero_or_pos q0 with h | h
      · exact h
      · have := Nat.le_mul_of_pos_left D h
        omega
    subst hq0
    rw [Nat.zero_mul, Nat.zero_add] at h1
    subst h1
    clear h3
    (repeat' split) <;> omega
  · have hpar : (iv * 2 ^ f + q0) % 2 = q0 % 2 := by
      have : 2 ^ f = 2 ^ (f - 1) * 2 := by rw [← Nat.pow_succ]; congr 1; omega
      rw [this, ← Nat.mul_assoc, Nat.add_comm, Nat.add_mul_mod_self_right]
    rw [hpar, if_neg (show ¬ (f = 0 ∧ 2 * fv = D ∧ iv % 2 = 1) from fun h => hf h.1), Nat.add_zero, Nat.add_assoc]

/-- the rounded fraction never exceeds `2^nbits`, so the fraction converters' `None` means it equals `2^nbits` = 1.0 -/
theorem rneDiv_frac_le {den : Nat} (v nbits : Nat) (hv : v < den) :
    rneDiv (v * 2 ^ nbits) den ≤ 2 ^ nbits := by
  have h2 : v * 2 ^ nbits < 2 ^ nbits * den := by
    rw [Nat.mul_comm]; exact Nat.mul_lt_mul_of_pos_left hv (Nat.two_pow_pos nbits)
  have h3 : v * 2 ^ nbits / den < 2 ^ nbits := (Nat.div_lt_iff_lt_mul (by omega)).2 h2
  rw [rneDiv_of_decomp _ den _ _ (by rw [Nat.mul_comm _ den]; exact (Nat.div_add_mod _ den).symm) (Nat.mod_lt _ (by omega))]
  split <;> omega


theorem rneDiv_of_dvd (a b : Nat) (hb : 0 < b) (h : b ∣ a) : rneDiv a b = a / b := by
  obtain ⟨q, rfl⟩ := h
  rw [Nat.mul_comm, rneDiv_mul_self q b hb, Nat.mul_div_cancel q hb]

theorem rneDiv_near (A D T : Nat) (hD : 0 < D)
    (h : D < T ∨ 2 * (A % D) < T ∨ 2 * (D - A % D) < T) :
    2 * (rneDiv A D * D) < 2 * A + T ∧ 2 * A < 2 * (rneDiv A D * D) + T := by
  have hA := Nat.div_add_mod A D
  have hr := Nat.mod_lt A hD
  rw [Nat.mul_comm] at hA
  rw [rneDiv_of_decomp A D (A / D) (A % D) hA.symm hr]
  split
  · rw [Nat.add_zero]
    generalize A / D * D = qD at hA ⊢
    omega
  · rw [Nat.add_mul, Nat.one_mul]
    generalize A / D * D = qD at hA ⊢
    omega

theorem rneDiv_of_strict (A D V : Nat) (h1 : 2 * (V * D) < 2 * A + D) (h2 : 2 * A < 2 * (V * D) + D) :
    rneDiv A D = V := by
  have hD : 0 < D := by
    rcases Nat.eq_zero_or_pos D with h | h
    · subst h; omega
    · exact h
  exact rneDiv_eq hD (isRne_of_strict (by exact_mod_cast h1) (by exact_mod_cast h2))

/-- the comparison of the doubled remainder with the divisor decides the rounding, as `round_and_trim` reads it -/
theorem rneDiv_ord (A D : Nat) (hD : 0 < D) :
    A / D + (if compare (2 * (A % D)) D = .gt ∨ (compare (2 * (A % D)) D = .eq ∧ A / D % 2 = 1) then 1 else 0)
      = rneDiv A D := by
  rw [rneDiv_of_decomp A D (A / D) (A % D) (by rw [Nat.mul_comm]; exact (Nat.div_add_mod A D).symm)
    (Nat.mod_lt A hD)]
  simp only [Nat.compare_eq_gt, Nat.compare_eq_eq]
  split <;> split <;> omega

end

/-- `TextSpec.split` after the sign has been removed -/
def splitTail (neg : Bool) (rest : List Nat) : Option (Bool × List Nat × List Nat) :=
  let ip := rest.takeWhile (· ≠ 46)
  let after := rest.dropWhile (· ≠ 46)
  let fp := match after with
    | [] => some []
    | _ :: r => if r.contains 46 then none else some r
  fp.bind fun fp => if ip.length + fp.length = 0 then none else some (neg, ip, fp)

theorem split_minus (r : List Nat) : TextSpec.split (45 :: r) = splitTail true r := rfl
theorem split_plus (r : List Nat) : TextSpec.split (43 :: r) = splitTail false r := rfl
theorem split_other (r : List Nat) (h : ∀ b, r.head? = some b → b ≠ 43 ∧ b ≠ 45) :
    TextSpec.split r = splitTail false r := by
  unfold TextSpec.split
  split
  rename_i x neg rest heq
  split at heq
  · exact absurd rfl (h 45 rfl).2
  · exact absurd rfl (h 43 rfl).1
  · injection heq with h1 h2
    subst h1; subst h2; rfl

theorem dropWhile_head (l : List Nat) (c : Nat) (t : List Nat) (h : l.dropWhile (· ≠ 46) = c :: t) : c = 46 := by
  induction l with
  | nil => simp at h
  | cons b l ih =>
    rw [List.dropWhile_cons] at h
    split at h
    · exact ih h
    · injection h with h1 h2; subst h1; simp_all

theorem splitTail_some {neg n : Bool} {rest ip fp : List Nat} (h : splitTail neg rest = some (n, ip, fp)) :
    n = neg ∧ ip = rest.takeWhile (· ≠ 46) ∧
      ((rest.dropWhile (· ≠ 46) = [] ∧ fp = []) ∨ (∃ c, rest.dropWhile (· ≠ 46) = c :: fp)) ∧
      ip.length + fp.length ≠ 0 := by
  unfold splitTail at h
  simp only [] at h
  rw [Option.bind_eq_some_iff] at h
  obtain ⟨fp', h1, h2⟩ := h
  split at h2
  · cases h2
  · rename_i hne
    injection h2 with h2
    injection h2 with ha h2
    injection h2 with hb hc
    subst ha; subst hb; subst hc
    refine ⟨rfl, rfl, ?_, hne⟩
    split at h1
    · rename_i heq
      injection h1 with h1
      exact Or.inl ⟨heq, h1.symm⟩
    · rename_i c t heq
      split at h1
      · cases h1
      · injection h1 with h1
        subst h1
        exact Or.inr ⟨c, heq⟩

theorem splitTail_nil (neg : Bool) {rest : List Nat} (h : rest.dropWhile (· ≠ 46) = [])
    (hne : rest.takeWhile (· ≠ 46) ≠ []) : splitTail neg rest = some (neg, rest.takeWhile (· ≠ 46), []) := by
  unfold splitTail
  simp only [h]
  generalize List.takeWhile (fun x => decide (x ≠ 46)) rest = ip at hne ⊢
  cases ip with
  | nil => exact absurd rfl hne
  | cons a t => simp

theorem splitTail_cons (neg : Bool) {rest fp : List Nat} {c : Nat} (h : rest.dropWhile (· ≠ 46) = c :: fp)
    (hc : fp.contains 46 = false)
    (hne : (rest.takeWhile (· ≠ 46)).length + fp.length ≠ 0) :
    splitTail neg rest = some (neg, rest.takeWhile (· ≠ 46), fp) := by
  unfold splitTail
  simp only [h, hc]
  generalize List.takeWhile (fun x => decide (x ≠ 46)) rest = ip at hne ⊢
  simp only [Bool.false_eq_true, if_false, Option.bind_some, hne]

/-- the optional sign: `pre` is the sign byte, if any, and the grammar goes on with `rest` -/
theorem takeWhile_digits : ∀ (IB tail : List Nat), (∀ b, b ∈ IB → b ≠ 46) → (tail = [] ∨ ∃ r, tail = 46 :: r) →
    (IB ++ tail).takeWhile (· ≠ 46) = IB ∧ (IB ++ tail).dropWhile (· ≠ 46) = tail := by
  intro IB
  induction IB with
  | nil =>
    intro tail _ ht
    rcases ht with rfl | ⟨r, rfl⟩
    · exact ⟨rfl, rfl⟩
    · simp
  | cons b IB ih =>
    intro tail h ht
    have hb : b ≠ 46 := h b (List.mem_cons_self ..)
    obtain ⟨h1, h2⟩ := ih tail (fun x hx => h x (List.mem_cons_of_mem _ hx)) ht
    simp only [List.cons_append, List.takeWhile_cons, List.dropWhile_cons, hb, ne_eq, not_false_eq_true, decide_true,
      if_true]
    exact ⟨by rw [h1], h2⟩

theorem splitTail_digits (neg : Bool) (IB FB : List Nat) (dot : Bool) (hI : ∀ b, b ∈ IB → b ≠ 46)
    (hF : ∀ b, b ∈ FB → b ≠ 46) (hne : IB ≠ []) (hdot : dot = false → FB = []) :
    splitTail neg (IB ++ (if dot then 46 :: FB else [])) = some (neg, IB, FB) := by
  cases dot with
  | false =>
    obtain rfl := hdot rfl
    obtain ⟨h1, h2⟩ := takeWhile_digits IB [] hI (Or.inl rfl)
    have := splitTail_nil neg h2 (by rw [h1]; exact hne)
    rwa [h1] at this
  | true =>
    obtain ⟨h1, h2⟩ := takeWhile_digits IB (46 :: FB) hI (Or.inr ⟨FB, rfl⟩)
    have hc : FB.contains 46 = false := by
      rw [List.contains_eq_mem, decide_eq_false_iff_not]
      exact fun hm => hF 46 hm rfl
    have := splitTail_cons neg h2 hc (by
      rw [h1]; have := List.length_pos_iff.2 hne; omega)
    rwa [h1] at this

theorem split_eq_splitTail (bytes : List Nat) : ∃ pre rest, bytes = pre ++ rest ∧
    TextSpec.split bytes = splitTail (bytes.head? == some 45) rest ∧
    (pre = [45] ∨ pre = [43] ∨
      pre = [] ∧ (bytes.head? == some 45) = false ∧ ∀ b, rest.head? = some b → b ≠ 43 ∧ b ≠ 45) := by
  cases bytes with
  | nil => exact ⟨[], [], rfl, split_other [] (by simp), Or.inr (Or.inr ⟨rfl, rfl, by simp⟩)⟩
  | cons b r =>
    by_cases h45 : b = 45
    · subst h45; exact ⟨[45], r, rfl, split_minus r, Or.inl rfl⟩
    by_cases h43 : b = 43
    · subst h43; exact ⟨[43], r, rfl, split_plus r, Or.inr (Or.inl rfl)⟩
    · have hb : ∀ c, (b :: r).head? = some c → c ≠ 43 ∧ c ≠ 45 := fun c hc => by
        simp at hc; subst hc; exact ⟨h43, h45⟩
      have hh : ((b :: r).head? == some 45) = false := by simp [h45]
      exact ⟨[], b :: r, rfl, by rw [hh]; exact split_other _ hb, Or.inr (Or.inr ⟨rfl, hh, hb⟩)⟩

open TextSpec

theorem split_neg {bytes : List Nat} {neg : Bool} {ip fp : List Nat}
    (h : split bytes = some (neg, ip, fp)) : neg = (bytes.head? == some 45) := by
  obtain ⟨_, rest, _, hs, _⟩ := split_eq_splitTail bytes
  rw [hs] at h
  exact (splitTail_some h).1

theorem literal_neg {radix : Nat} {bytes : List Nat} {neg : Bool} {num k : Nat}
    (h : literal radix bytes = some (neg, num, k)) : neg = (bytes.head? == some 45) := by
  unfold literal at h
  simp only [Option.bind_eq_bind, Option.bind_eq_some_iff, Option.pure_def, Option.some.injEq, Prod.mk.injEq] at h
  obtain ⟨⟨ng, ip, fp⟩, hs, _, _, _, _, rfl, _⟩ := h
  exact split_neg hs

theorem parseExact_sign {radix f : Nat} {bytes : List Nat} {E : Int} (hE : parseExact radix f bytes = some E) :
    if (bytes.head? == some 45) = true then E ≤ 0 else 0 ≤ E := by
  unfold parseExact at hE
  cases hl : literal radix bytes with
  | none => rw [hl] at hE; cases hE
  | some t =>
    obtain ⟨neg, num, k⟩ := t
    rw [hl, Option.map_some, Option.some.injEq] at hE
    rw [← literal_neg hl, ← hE]
    cases neg
    · exact Int.natCast_nonneg _
    · exact Int.neg_nonpos_of_nonneg (Int.natCast_nonneg _)

end Sfx.ParsePf
