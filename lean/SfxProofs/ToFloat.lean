import SfxProofs.ToFloatModel
import SfxProofs.ToFloatNearest
/-
  ToFloat.lean — the model of `from_to_float_helper` (`Layout.toFloat`) equals the textbook round-to-nearest-even specification
  `rneFloat` (`toFloat_eq_rneFloat_gen`); ToFloatNearest.lean shows that `rneFloat` is round-to-nearest, ties-to-even
  (`rneFloat_nearest_gen`); the two are combined at the end.  (core Lean only)
-/
namespace Sfx.ToFloatPf

theorem toFloat_zero (F : FloatFmt) (S : Layout) (hS128 : S.n ≤ 128) (hSf : S.f ≤ S.n) :
    S.toFloat F 0 = rneFloat F S.f 0 := by
  unfold Layout.toFloat Layout.intBits
  rw [show (0 : Int).natAbs = 0 from rfl, fth_zero F _ _ _ (by omega)]
  simp [rneFloat]

theorem toFloat_eq_rneFloat_gen (F : FloatFmt) (hF : F.okTo) (S : Layout) (hS : S.valid) (x : Int) (hx : inRange S x) :
    S.toFloat F x = rneFloat F S.f x := by
  obtain ⟨hp, hpn, hn, hpe⟩ := hF
  obtain ⟨hSn, hSf⟩ := hS
  by_cases hx0 : x = 0
  · subst hx0; exact toFloat_zero F S (by omega) hSf
  have ha : 0 < x.natAbs := by omega
  have hNe : S.f + S.intBits = S.n := by unfold Layout.intBits; omega
  have haN := natAbs_lt_of_in (by omega) hx
  have hb0 := bitLen_pos ha
  have hmin : F.expMin = 1 - F.expMax := rfl
  unfold Layout.toFloat
  have hee : expOf S.f x.natAbs = (bitLen x.natAbs : Int) - 1 - S.f := rfl
  by_cases he : expOf S.f x.natAbs ≤ F.expMax
  · rw [rneFloat_finite F hp (by omega) S.f x hx0 he]
    refine fth_closed F _ _ _ _ ha (by omega) (by rw [hNe]; exact haN) hp (by omega) hn (by omega) _ rfl he fun hlt => ?_
    rw [hNe]
    have : (lostOf F (expOf S.f x.natAbs) : Int) ≤ S.f := by unfold lostOf; omega
    omega
  · rw [rneFloat_overflow F S.f x hx0 (by omega) (by omega),
      fth_pos F _ _ _ _ ha (by omega) (by rw [hNe]; exact haN) _ rfl (fun h => absurd h he), if_pos (Int.not_le.1 he)]

theorem toFloat_eq_rneFloat (F : FloatFmt) (hF : F = f32 ∨ F = f64) (S : Layout) (hS : S.valid) (x : Int) (hx : inRange S x) :
    S.toFloat F x = rneFloat F S.f x :=
  toFloat_eq_rneFloat_gen F (okTo_of F hF) S hS x hx

/-- the conversion result is a nearest float, and the one with an even mantissa field on a tie -/
theorem toFloat_nearest_gen (F : FloatFmt) (hF : F.okTo) (S : Layout) (hS : S.valid) (x : Int) (hx : inRange S x)
    (vr : Int × Int) (hr : floatVal F (S.toFloat F x) = some vr)
    (b : Nat) (vb : Int × Int) (hb : floatVal F b = some vb) :
    scaledErr F S.f x vr ≤ scaledErr F S.f x vb ∧
    (scaledVal F S.f vb ≠ scaledVal F S.f vr → scaledErr F S.f x vr = scaledErr F S.f x vb → S.toFloat F x % 2 = 0) := by
  rw [toFloat_eq_rneFloat_gen F hF S hS x hx] at hr ⊢
  exact rneFloat_nearest_gen F hF S.f x vr hr b vb hb

theorem toFloat_nearest (F : FloatFmt) (hF : F = f32 ∨ F = f64) (S : Layout) (hS : S.valid) (x : Int) (hx : inRange S x)
    (vr : Int × Int) (hr : floatVal F (S.toFloat F x) = some vr)
    (b : Nat) (vb : Int × Int) (hb : floatVal F b = some vb) :
    scaledErr F S.f x vr ≤ scaledErr F S.f x vb :=
  (toFloat_nearest_gen F (okTo_of F hF) S hS x hx vr hr b vb hb).1

theorem toFloat_ties_even (F : FloatFmt) (hF : F = f32 ∨ F = f64) (S : Layout) (hS : S.valid) (x : Int) (hx : inRange S x)
    (vr : Int × Int) (hr : floatVal F (S.toFloat F x) = some vr)
    (b : Nat) (vb : Int × Int) (hb : floatVal F b = some vb)
    (hne : scaledVal F S.f vb ≠ scaledVal F S.f vr)
    (htie : scaledErr F S.f x vr = scaledErr F S.f x vb) :
    S.toFloat F x % 2 = 0 :=
  (toFloat_nearest_gen F (okTo_of F hF) S hS x hx vr hr b vb hb).2 hne htie

end Sfx.ToFloatPf

#print axioms Sfx.ToFloatPf.toFloat_eq_rneFloat
#print axioms Sfx.ToFloatPf.rneFloat_nearest_gen
#print axioms Sfx.ToFloatPf.toFloat_nearest
#print axioms Sfx.ToFloatPf.toFloat_ties_even
#print axioms Sfx.ToFloatPf.toFloat_eq_rneFloat_gen
