import SfxProofs.ToFloatSpec
/-
  ToFloatModel.lean — closed form of `fromToFloatHelper` (`from_to_float_helper`) below overflow, normal and subnormal results at once:
  the code shifts the magnitude `a` so that bit `N = fixBits` of the mantissa word is the implicit one (`lost_prec` places lower for a
  subnormal result), cuts the field at bit `N - prec + 1` and rounds on the bits below; that is `⌊a·2^s⌋` without its implicit bit plus the
  round-to-nearest-even increment, with `s` the shift of the specification (`specM`); with the exponent field that adds up to the body
  `kOf`·2^(prec-1) + `specM` of ToFloatSpec.lean (`fth_closed`).  (core Lean only)
-/
namespace Sfx.ToFloatPf

/-- the mantissa-field extraction of the code as a function of the (u128) mantissa -/
def bitsMantOf (F : FloatFmt) (N mant : Nat) : Nat :=
  (if N ≥ F.prec - 1 then (mant / 2 ^ (N - (F.prec - 1))) % 2 ^ F.nbits
   else (mant % 2 ^ F.nbits) * 2 ^ (F.prec - 1 - N) % 2 ^ F.nbits) % 2 ^ (F.prec - 1)

/-- the rounding decision of the code as a function of the (u128) mantissa -/
def roundUpOf (F : FloatFmt) (N mant : Nat) : Bool :=
  decide (N ≥ F.prec) &&
    (if mant / (2 ^ 127 / 2 ^ (F.prec - 1 + (128 - N))) % 2 = 0 then false
     else if mant % (2 ^ 127 / 2 ^ (F.prec - 1 + (128 - N))) ≠ 0 then true
     else decide (mant / ((2 ^ 127 / 2 ^ (F.prec - 1 + (128 - N))) * 2) % 2 = 1))

/-- the mantissa word after the exponent-range test: `abs << leading_zeros << 1` in the normal range (`lp = 0`), else with the
implicit one re-inserted and shifted right by `lost_prec - 1` -/
def mantOf (a N lp : Nat) : Nat :=
  if lp = 0 then a * 2 ^ (N - bitLen a + 1) % 2 ^ 128
  else (a * 2 ^ (N - bitLen a + 1) % 2 ^ 128 / 2 + 2 ^ 127) / 2 ^ (lp - 1)

theorem fth_zero (F : FloatFmt) (neg : Bool) (f ib : Nat) (hN : f + ib ≤ 128) :
    fromToFloatHelper F neg 0 f ib = if neg then F.signMask else 0 := by
  unfold fromToFloatHelper
  extract_lets fixBits bitsSign extraZeros lz signif
  have : signif = 0 := by
    simp only [signif, lz, extraZeros, fixBits, bitLen_zero]; omega
  rw [if_pos this]

theorem fth_pos (F : FloatFmt) (neg : Bool) (a f ib : Nat) (ha : 0 < a) (hN : f + ib ≤ 128) (haN : a < 2 ^ (f + ib))
    (e : Int) (he : e = expOf f a) (hlp : e ≤ F.expMax → lostOf F e < f + ib) :
    fromToFloatHelper F neg a f ib =
      (if neg then F.signMask else 0) +
        (if e > F.expMax then F.expMask
         else (if e < F.expMin then 0 else (e + F.expMax).toNat) * 2 ^ (F.prec - 1)
          + bitsMantOf F (f + ib) (mantOf a (f + ib) (lostOf F e))
          + (if roundUpOf F (f + ib) (mantOf a (f + ib) (lostOf F e)) then 1 else 0)) := by
  have hb0 := bitLen_pos ha
  have hbN := bitLen_le haN
  unfold expOf at he
  unfold fromToFloatHelper
  extract_lets fixBits bitsSign extraZeros lz signif mant0 exponent lostPrec midBit
  have hlz : lz = f + ib - bitLen a := by simp only [lz, extraZeros, fixBits]; omega
  have hsig : ¬ signif = 0 := by simp only [signif, hlz, fixBits]; omega
  have hexp : exponent = e := by simp only [exponent, hlz]; omega
  have hmant : mant0 = a * 2 ^ (f + ib - bitLen a + 1) % 2 ^ 128 := by
    simp only [mant0, hlz]
    rw [Nat.mod_mul_mod, Nat.mul_assoc, ← Nat.pow_succ]
  have hlost : lostPrec = lostOf F e := by simp only [lostPrec, hexp, lostOf]
  rw [if_neg hsig, hexp]
  by_cases hov : e > F.expMax
  · rw [if_pos hov, if_pos hov]; simp only [bitsSign]; omega
  rw [if_neg hov, if_neg hov]
  have hlp' := hlp (by omega)
  unfold mantOf
  by_cases hsub : e < F.expMin
  · have hl0 : ¬ lostOf F e = 0 := by unfold lostOf; omega
    rw [if_pos hsub, if_neg (by rw [hlost]; omega), if_pos hsub, if_neg hl0, ← hmant, ← hlost]
    rfl
  · have hl0 : lostOf F e = 0 := by unfold lostOf; omega
    rw [if_neg hsub, if_neg hsub, if_pos hl0, ← hmant]
    rfl

/-- the shifted mantissa of the subnormal branch: `((mant0 >> 1) | 2^127) >> (lp - 1)` is `a · 2^g` below bit `N`; the re-inserted
`2^127` is the implicit one itself when `N = 128` and stays above bit `N` otherwise -/
theorem subnormal_mant (a N lp g : Nat) (ha : 0 < a) (hN : N ≤ 128) (haN : a < 2 ^ N) (hlp : 1 ≤ lp)
    (hg : N - bitLen a = (lp - 1) + g) (hstray : N = 128 ∨ N + lp ≤ 128) :
    ((a * 2 ^ (N - bitLen a + 1) % 2 ^ 128) / 2 + 2 ^ 127) / 2 ^ (lp - 1) % 2 ^ N = a * 2 ^ g % 2 ^ N := by
  have hb0 := bitLen_pos ha
  have hbN := bitLen_le haN
  obtain ⟨hT1, hT2⟩ := shifted_normal ha hbN
  have hdiv : a * 2 ^ (N - bitLen a) / 2 ^ (lp - 1) = a * 2 ^ g := by rw [hg]; exact mul_pow_div_pow a (lp - 1) g
  have h2T : a * 2 ^ (N - bitLen a + 1) = 2 * (a * 2 ^ (N - bitLen a)) := by rw [Nat.pow_succ]; ac_rfl
  have h128 : (2 : Nat) ^ 128 = 2 * 2 ^ 127 := by rw [show 128 = 127 + 1 from rfl, Nat.pow_succ, Nat.mul_comm]
  rw [h2T]
  generalize hT : a * 2 ^ (N - bitLen a) = T at *
  rcases hstray with h | h
  · subst h
    have e127 : (128 : Nat) - 1 = 127 := rfl
    rw [e127] at hT1
    rw [h128] at hT2 ⊢
    generalize (2 : Nat) ^ 127 = P at *
    have hm : 2 * T % (2 * P) = 2 * T - 2 * P := by
      rw [Nat.mod_eq_sub_mod (by omega), Nat.mod_eq_of_lt (by omega)]
    rw [hm]
    have : (2 * T - 2 * P) / 2 + P = T := by omega
    rw [this, hdiv]
  · have hle : 2 ^ (N + 1) ≤ 2 ^ 128 := Nat.pow_le_pow_right (by decide) (by omega)
    have hN1 : 2 ^ (N + 1) = 2 * 2 ^ N := by rw [Nat.pow_succ]; omega
    have hm : 2 * T % 2 ^ 128 = 2 * T := Nat.mod_eq_of_lt (by omega)
    rw [hm, show 2 * T / 2 = T by omega]
    have hP : (2 : Nat) ^ 127 = 2 ^ (lp - 1) * (2 ^ N * 2 ^ (128 - lp - N)) := by
      rw [← Nat.pow_add, ← Nat.pow_add]; congr 1; omega
    rw [hP, Nat.add_mul_div_left _ _ (Nat.two_pow_pos _), hdiv, Nat.add_mul_mod_self_left]

theorem mantOf_window (a N lp : Nat) (ha : 0 < a) (hN : N ≤ 128) (haN : a < 2 ^ N)
    (hg : lp ≤ N - bitLen a + 1) (hstray : lp = 0 ∨ N = 128 ∨ N + lp ≤ 128) :
    mantOf a N lp % 2 ^ N = a * 2 ^ (N - bitLen a + 1 - lp) % 2 ^ N := by
  have hbN := bitLen_le haN
  unfold mantOf
  by_cases h0 : lp = 0
  · rw [if_pos h0, h0, mod_mod_pow _ _ _ hN, Nat.sub_zero]
  · rw [if_neg h0]
    exact subnormal_mant a N lp _ ha hN haN (by omega) (by omega) (by omega)

theorem read_congr {X Y N : Nat} (h : X % 2 ^ N = Y % 2 ^ N) (j w : Nat) (hjw : j + w ≤ N) :
    X / 2 ^ j % 2 ^ w = Y / 2 ^ j % 2 ^ w := by
  rw [← mod_div_mod X N j w hjw, h, mod_div_mod Y N j w hjw]

theorem read_bit_congr {X Y N : Nat} (h : X % 2 ^ N = Y % 2 ^ N) (j : Nat) (hj : j + 1 ≤ N) :
    X / 2 ^ j % 2 = Y / 2 ^ j % 2 := by
  have := read_congr h j 1 hj
  rwa [Nat.pow_one] at this

theorem low_congr {X Y N : Nat} (h : X % 2 ^ N = Y % 2 ^ N) (j : Nat) (hj : j ≤ N) : X % 2 ^ j = Y % 2 ^ j := by
  rw [← mod_mod_pow X N j hj, h, mod_mod_pow Y N j hj]

theorem trunc_div (a g d : Nat) : a * 2 ^ g / 2 ^ d = truncScaled a ((g : Int) - d) := by
  unfold truncScaled
  by_cases h : d ≤ g
  · rw [if_pos (by omega), show g = d + ((g : Int) - d).toNat by omega, mul_pow_div_pow]
    congr 2; omega
  · rw [if_neg (by omega), show d = g + (-((g : Int) - d)).toNat by omega, mul_pow_div_pow']
    congr 2; omega

theorem code_round (F : FloatFmt) (N X a g : Nat) (hp : 2 ≤ F.prec) (hpN : F.prec ≤ N) (hN : N ≤ 128) (hpn : F.prec ≤ F.nbits)
    (hX : X % 2 ^ N = a * 2 ^ g % 2 ^ N) :
    bitsMantOf F N X = truncScaled a ((g : Int) - (N - F.prec + 1 : Nat)) % 2 ^ (F.prec - 1) ∧
    ((truncScaled a ((g : Int) - (N - F.prec + 1 : Nat)) + (if roundUpOf F N X then 1 else 0) : Nat) : Int)
      = rneScaled a ((g : Int) - (N - F.prec + 1 : Nat)) := by
  have hmid : 2 ^ 127 / 2 ^ (F.prec - 1 + (128 - N)) = 2 ^ (N - F.prec) := by
    rw [Nat.pow_div (by omega) (by decide)]; congr 1; omega
  have hc : ((a * 2 ^ g : Nat) : Int) = (a : Int) * 2 ^ g := by rw [Int.natCast_mul, Int.natCast_pow]; rfl
  rw [← trunc_div]
  constructor
  · unfold bitsMantOf
    rw [if_pos (by omega), mod_mod_pow _ _ _ (by omega), show N - (F.prec - 1) = N - F.prec + 1 by omega,
      read_congr hX _ _ (by omega)]
  · unfold roundUpOf
    rw [hmid, ← Nat.pow_succ, decide_eq_true (show N ≥ F.prec from hpN), Bool.true_and,
      read_bit_congr hX _ (by omega), low_congr hX _ (by omega), read_bit_congr hX _ (by omega),
      ← rneShift_mul_eq_scaled, ← hc]
    exact (rneShift_nat (a * 2 ^ g) (N - F.prec)).symm

theorem code_exact (F : FloatFmt) (N a : Nat) (ha : 0 < a) (haN : a < 2 ^ N) (hNp : N < F.prec) (hpn : F.prec ≤ F.nbits)
    (hn : F.nbits ≤ 128) :
    bitsMantOf F N (a * 2 ^ (N - bitLen a + 1) % 2 ^ 128) = a * 2 ^ (F.prec - bitLen a) % 2 ^ (F.prec - 1) ∧
    roundUpOf F N (a * 2 ^ (N - bitLen a + 1) % 2 ^ 128) = false := by
  have hb0 := bitLen_pos ha
  have hbN := bitLen_le haN
  have hM := (shifted_normal (p := N + 1) ha (by omega)).2
  rw [Nat.sub_add_comm hbN] at hM
  have h128 : 2 ^ (N + 1) ≤ 2 ^ 128 := Nat.pow_le_pow_right (by decide) (by omega)
  have hnb : 2 ^ (N + 1) ≤ 2 ^ F.nbits := Nat.pow_le_pow_right (by decide) (by omega)
  refine ⟨?_, by unfold roundUpOf; rw [decide_eq_false (by omega), Bool.false_and]⟩
  unfold bitsMantOf
  rw [Nat.mod_eq_of_lt (Nat.lt_of_lt_of_le hM h128)]
  by_cases h : N ≥ F.prec - 1
  · rw [if_pos h, show N - (F.prec - 1) = 0 by omega, Nat.pow_zero, Nat.div_one, mod_mod_pow _ _ _ (by omega),
      show N - bitLen a + 1 = F.prec - bitLen a by omega]
  · rw [if_neg h, Nat.mod_eq_of_lt (Nat.lt_of_lt_of_le hM hnb), Nat.mul_assoc, ← Nat.pow_add,
      show N - bitLen a + 1 + (F.prec - 1 - N) = F.prec - bitLen a by omega, mod_mod_pow _ _ _ (by omega)]

theorem field_round (F : FloatFmt) (N a lp : Nat) (s : Int) (ha : 0 < a) (hN : N ≤ 128) (haN : a < 2 ^ N)
    (hp : 2 ≤ F.prec) (hpn : F.prec ≤ F.nbits) (hn : F.nbits ≤ 128)
    (hs : s = (F.prec : Int) - bitLen a - lp) (hg : lp ≤ N - bitLen a + 1)
    (hcase : F.prec ≤ N ∧ (lp = 0 ∨ N = 128 ∨ N + lp ≤ 128) ∨ N < F.prec ∧ lp = 0) :
    bitsMantOf F N (mantOf a N lp) = truncScaled a s % 2 ^ (F.prec - 1) ∧
    (rneScaled a s).toNat = truncScaled a s + (if roundUpOf F N (mantOf a N lp) then 1 else 0) := by
  have hb0 := bitLen_pos ha
  have hbN := bitLen_le haN
  rcases hcase with ⟨hpN, hstray⟩ | ⟨hNp, hl0⟩
  · obtain ⟨c1, c2⟩ := code_round F N _ a _ hp hpN hN hpn (mantOf_window a N lp ha hN haN hg hstray)
    have e : ((N - bitLen a + 1 - lp : Nat) : Int) - (N - F.prec + 1 : Nat) = s := by omega
    rw [e] at c1 c2
    exact ⟨c1, by rw [← c2, Int.toNat_natCast]⟩
  · obtain ⟨c1, c2⟩ := code_exact F N a ha haN hNp hpn hn
    have e : s.toNat = F.prec - bitLen a := by omega
    subst hl0
    unfold mantOf truncScaled
    rw [if_pos rfl, c1, c2, if_pos (by omega), rneScaled_nonneg_exp _ _ (by omega), e]
    refine ⟨rfl, ?_⟩
    rw [← natCast_two_pow, ← Int.natCast_mul, Int.toNat_natCast]
    rfl

/-- a subnormal result needs `prec ≤ fixBits` (below that the code does not round) and the re-inserted `2^127` above bit `fixBits` -/
theorem fth_closed (F : FloatFmt) (neg : Bool) (a f ib : Nat) (ha : 0 < a) (hN : f + ib ≤ 128) (haN : a < 2 ^ (f + ib))
    (hp : 2 ≤ F.prec) (hpn : F.prec ≤ F.nbits) (hn : F.nbits ≤ 128) (hmin : F.expMin ≤ -1)
    (e : Int) (he : e = expOf f a) (he2 : e ≤ F.expMax)
    (hsub : e < F.expMin → F.prec ≤ f + ib ∧ (f + ib = 128 ∨ f + ib + lostOf F e ≤ 128)) :
    fromToFloatHelper F neg a f ib =
      (if neg then F.signMask else 0) + (kOf F e * 2 ^ (F.prec - 1) + (specM F f a).toNat) := by
  have hb0 := bitLen_pos ha
  have hbN := bitLen_le haN
  obtain ⟨-, -, t3⟩ := specM_trunc F hp f a ha
  have hs := specM_shift F f a
  rw [← he] at t3 hs
  have hl : (lostOf F e : Int) = 0 ∧ ¬ e < F.expMin ∨ (lostOf F e : Int) = F.expMin - e ∧ e < F.expMin := by unfold lostOf; omega
  have hlp : lostOf F e < f + ib := by unfold expOf at he; omega
  rw [fth_pos F neg a f ib ha hN haN e he (fun _ => hlp), if_neg (show ¬ e > F.expMax by omega)]
  obtain ⟨k1, k2⟩ := field_round F (f + ib) a (lostOf F e) _ ha hN haN hp hpn hn hs (by unfold expOf at he; omega) (by
      rcases hl with ⟨h0, hn⟩ | ⟨_, hlt⟩
      · by_cases hpN : F.prec ≤ f + ib
        · exact Or.inl ⟨hpN, Or.inl (by omega)⟩
        · exact Or.inr ⟨by unfold expOf at he; omega, by omega⟩
      · exact Or.inl ⟨(hsub hlt).1, Or.inr (hsub hlt).2⟩)
  unfold specM kOf
  rw [k1, k2]
  have h2p : 2 ^ F.prec = 2 * 2 ^ (F.prec - 1) := p2split (by omega)
  have hmax : F.expMin = 1 - F.expMax := rfl
  generalize truncScaled a (-(f : Int) - specQ F f a) = T at *
  generalize (if roundUpOf F (f + ib) (mantOf a (f + ib) (lostOf F e)) = true then 1 else 0) = r
  by_cases hlt : e < F.expMin
  · rw [if_pos hlt] at t3
    rw [if_pos hlt, if_pos hlt, Nat.mod_eq_of_lt t3, Int.sub_self]
    simp only [Int.toNat_zero, Nat.zero_mul, Nat.zero_add]
  · rw [if_neg hlt] at t3
    rw [if_neg hlt, if_neg hlt, Nat.mod_eq_sub_mod t3.1, Nat.mod_eq_of_lt (by omega),
      show (e + F.expMax).toNat = (e - F.expMin).toNat + 1 by omega, Nat.add_mul]
    omega

end Sfx.ToFloatPf
