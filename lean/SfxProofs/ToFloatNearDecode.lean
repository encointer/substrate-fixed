import SfxProofs.ToFloatSpec
/-
  ToFloatNearDecode.lean — the finite results of the specification `rneFloat` decode (`floatExact`) to `± specM · 2^specQ`: the value of a
  pattern whose mantissa may have been rounded up into the exponent field, and the parity of the result.  (core Lean only)
-/
namespace Sfx.ToFloatPf

/-- every finite float is a multiple of `2^-(gExp F)` -/
def gExp (F : FloatFmt) : Nat := ((F.prec : Int) - 1 - F.expMin).toNat

theorem floatExact_body (F : FloatFmt) (hp : 1 ≤ F.prec) (hpn : F.prec + 2 ≤ F.nbits) (neg : Bool) (k M : Nat)
    (hM : M < 2 ^ F.prec) (hnorm : k = 0 ∨ 2 ^ (F.prec - 1) ≤ M) (hk : k + 2 < 2 ^ (F.nbits - F.prec)) :
    floatExact F ((if neg then F.signMask else 0) + (k * 2 ^ (F.prec - 1) + M)) =
      some (sgnI neg M, (k : Int) + F.expMin - ((F.prec : Int) - 1)) := by
  obtain ⟨hb1, hbmax, hbmin, hb2⟩ := bias_facts F hpn
  have h2p : 2 ^ F.prec = 2 * 2 ^ (F.prec - 1) := p2split (by omega)
  by_cases h1 : M < 2 ^ (F.prec - 1)
  · have hk0 : k = 0 := by omega
    subst hk0
    rw [floatExact_encode F hp (by omega) neg 0 M h1 (by omega), if_neg (by omega), if_neg (by omega)]
    simp only [Int.natCast_zero, Int.zero_add]
  · have e : k * 2 ^ (F.prec - 1) + M = (k + 1) * 2 ^ (F.prec - 1) + (M - 2 ^ (F.prec - 1)) := by
      rw [Nat.add_mul]; omega
    rw [e, floatExact_encode F hp (by omega) neg (k + 1) _ (by omega) (by omega), if_neg (by omega), if_pos (by omega),
      Nat.sub_add_cancel (by omega)]
    congr 2; omega

/-- on a common scale `2^G`, for a significand that may have been rounded up to `2^prec`: `k·P + 2P = (k+1)·P + P` -/
theorem floatExact_body_scaled (F : FloatFmt) (hp : 1 ≤ F.prec) (hpn : F.prec + 2 ≤ F.nbits) (neg : Bool) (k M : Nat)
    (hM : M ≤ 2 ^ F.prec) (hnorm : k = 0 ∨ 2 ^ (F.prec - 1) ≤ M) (hk : k + 3 ≤ 2 ^ (F.nbits - F.prec)) (vr : Int × Int)
    (hr : floatExact F ((if neg then F.signMask else 0) + (k * 2 ^ (F.prec - 1) + M)) = some vr)
    (G : Int) (hG : 0 ≤ F.expMin - ((F.prec : Int) - 1) + G) :
    vr.1 * 2 ^ (vr.2 + G).toNat = sgnI neg M * 2 ^ ((k : Int) + F.expMin - ((F.prec : Int) - 1) + G).toNat := by
  have h2p : 2 ^ F.prec = 2 * 2 ^ (F.prec - 1) := p2split (by omega)
  by_cases h2 : M < 2 ^ F.prec
  · rw [floatExact_body F hp hpn neg k M h2 hnorm (by omega)] at hr
    cases hr; rfl
  · have hM' : M = 2 * 2 ^ (F.prec - 1) := by omega
    have e : k * 2 ^ (F.prec - 1) + M = (k + 1) * 2 ^ (F.prec - 1) + 2 ^ (F.prec - 1) := by rw [hM', Nat.add_mul]; omega
    by_cases hk3 : k + 3 = 2 ^ (F.nbits - F.prec)
    · -- carried into the all-ones exponent field: not a finite pattern
      obtain ⟨hb1, hbmax, hbmin, hb2⟩ := bias_facts F hpn
      have e' : k * 2 ^ (F.prec - 1) + M = (k + 2) * 2 ^ (F.prec - 1) + 0 := by rw [hM', Nat.add_mul]; omega
      rw [e', floatExact_encode F hp (by omega) neg (k + 2) 0 (Nat.two_pow_pos _) (by omega), if_pos (by omega)] at hr
      cases hr
    rw [e, floatExact_body F hp hpn neg (k + 1) _ (by have := Nat.two_pow_pos (F.prec - 1); omega) (Or.inr (Nat.le_refl _)) (by omega)] at hr
    cases hr
    simp only []
    have e2 : (((k + 1 : Nat) : Int) + F.expMin - ((F.prec : Int) - 1) + G).toNat
        = ((k : Int) + F.expMin - ((F.prec : Int) - 1) + G).toNat + 1 := by omega
    rw [e2, Int.pow_succ, hM']
    unfold sgnI
    cases neg
    · simp only [Bool.false_eq_true, if_false]
      rw [Int.natCast_mul, Int.mul_comm ((2 : Nat) : Int), Int.mul_assoc, Int.mul_comm ((2 : Nat) : Int)]; rfl
    · simp only [if_true]
      rw [Int.natCast_mul, Int.mul_comm ((2 : Nat) : Int), Int.neg_mul, Int.neg_mul, Int.mul_assoc,
        Int.mul_comm ((2 : Nat) : Int)]; rfl

theorem gExp_cast (F : FloatFmt) (hp : 2 ≤ F.prec) : (gExp F : Int) = (F.prec : Int) - 1 - F.expMin := by
  have := expMin_le_one F
  unfold gExp; omega

theorem specQ_ge (F : FloatFmt) (f a : Nat) : F.expMin - ((F.prec : Int) - 1) ≤ specQ F f a := by
  unfold specQ; split <;> omega

theorem kOf_specQ (F : FloatFmt) (f a : Nat) :
    (kOf F (expOf f a) : Int) + F.expMin - ((F.prec : Int) - 1) = specQ F f a := by
  unfold kOf specQ; split <;> omega

/-- the rounded magnitude and `kOf` are a pair `floatExact_body_scaled` accepts -/
theorem specM_body (F : FloatFmt) (hp : 2 ≤ F.prec) (hpn : F.prec + 2 ≤ F.nbits) (f a : Nat) (ha : 0 < a)
    (he : expOf f a ≤ F.expMax) :
    (specM F f a).toNat ≤ 2 ^ F.prec ∧ (kOf F (expOf f a) = 0 ∨ 2 ^ (F.prec - 1) ≤ (specM F f a).toNat) ∧
    kOf F (expOf f a) + 3 ≤ 2 ^ (F.nbits - F.prec) := by
  obtain ⟨t1, t2, t3⟩ := specM_trunc F hp f a ha
  obtain ⟨hb1, hbmax, hbmin, hb2⟩ := bias_facts F hpn
  have h2p : 2 ^ F.prec = 2 * 2 ^ (F.prec - 1) := p2split (by omega)
  unfold kOf
  generalize expOf f a = e at *
  generalize specM F f a = M at *
  generalize truncScaled a _ = T at *
  generalize 2 ^ (F.nbits - F.prec) = W at hb2 ⊢
  by_cases h : e < F.expMin
  · rw [if_pos h] at t3 ⊢
    omega
  · rw [if_neg h] at t3 ⊢
    omega

theorem rneFloat_decode (F : FloatFmt) (hp : 2 ≤ F.prec) (hpn : F.prec + 2 ≤ F.nbits) (f : Nat) (x : Int)
    (hx0 : x ≠ 0) (vr : Int × Int) (hr : floatExact F (rneFloat F f x) = some vr) :
    vr.1 * 2 ^ (vr.2 + gExp F + f).toNat =
      sgnI (decide (x < 0)) (specM F f x.natAbs) * 2 ^ (specQ F f x.natAbs + gExp F + f).toNat := by
  by_cases he : expOf f x.natAbs ≤ F.expMax
  · obtain ⟨hM, hnorm, hk⟩ := specM_body F hp hpn f x.natAbs (by omega) he
    have hM0 : 0 ≤ specM F f x.natAbs := by have := (specM_trunc F hp f x.natAbs (by omega)).1; omega
    rw [rneFloat_finite F hp (by omega) f x hx0 he] at hr
    have := floatExact_body_scaled F (by omega) hpn _ _ _ hM hnorm hk vr hr (gExp F + f)
      (by have := gExp_cast F hp; omega)
    rw [kOf_specQ, ← Int.add_assoc, ← Int.add_assoc] at this
    rw [this, Int.toNat_of_nonneg hM0]
  · exfalso
    obtain ⟨hb1, hbmax, hbmin, hb2⟩ := bias_facts F hpn
    rw [rneFloat_overflow F f x hx0 (by omega) (by omega), expMask_eq F (by omega) (by omega),
      ← Nat.add_zero (_ * _)] at hr
    rw [floatExact_encode F (by omega) (by omega) _ _ 0 (Nat.two_pow_pos _) (by omega), if_pos (by omega)] at hr
    cases hr

private theorem sgn_natAbs_mul (x : Int) (k : Nat) : sgnI (decide (x < 0)) ((x.natAbs * 2 ^ k : Nat) : Int) = x * 2 ^ k := by
  rw [natCast_mul_pow, ← sgnI_mul, sgnI_natAbs]

private theorem specM_short (F : FloatFmt) (f a : Nat) (hlen : bitLen a ≤ F.prec) (hmin : F.expMin ≤ expOf f a) :
    (specM F f a).toNat = a * 2 ^ (F.prec - bitLen a) := by
  have hee : expOf f a = (bitLen a : Int) - 1 - f := rfl
  have e : -(f : Int) - (expOf f a - ((F.prec : Int) - 1)) = ((F.prec - bitLen a : Nat) : Int) := by omega
  unfold specM specQ
  rw [if_neg (by omega), e, rneScaled_nonneg_exp _ _ (by omega), Int.toNat_natCast, ← natCast_mul_pow, Int.toNat_natCast]

theorem rneFloat_short (F : FloatFmt) (hp : 2 ≤ F.prec) (hpn : F.prec + 2 ≤ F.nbits) (f : Nat) (x : Int) (hx0 : x ≠ 0)
    (hlen : bitLen x.natAbs ≤ F.prec) (hmin : F.expMin ≤ expOf f x.natAbs)
    (hmax : expOf f x.natAbs ≤ F.expMax) :
    floatExact F (rneFloat F f x) =
      some (x * 2 ^ (F.prec - bitLen x.natAbs), -((F.prec - bitLen x.natAbs : Nat) : Int) - f) := by
  obtain ⟨hMge, hMlt⟩ := shifted_normal (Int.natAbs_pos.2 hx0) hlen
  obtain ⟨hb1, hbmax, hbmin, hb2⟩ := bias_facts F hpn
  have hee : expOf f x.natAbs = (bitLen x.natAbs : Int) - 1 - f := rfl
  have hk : kOf F (expOf f x.natAbs) = (expOf f x.natAbs - F.expMin).toNat := by
    unfold kOf; rw [if_neg (Int.not_lt.2 hmin)]
  rw [rneFloat_finite F hp (by omega) f x hx0 hmax, specM_short F f _ hlen hmin,
    floatExact_body F (by omega) hpn _ _ _ hMlt (Or.inr hMge) (by rw [hk]; omega), sgn_natAbs_mul, hk]
  congr 2
  omega

theorem rneFloat_even (F : FloatFmt) (hp : 2 ≤ F.prec) (hpn : F.prec + 2 ≤ F.nbits) (f : Nat) (x : Int) (hx0 : x ≠ 0)
    (hev : specM F f x.natAbs % 2 = 0) : rneFloat F f x % 2 = 0 := by
  have hP : 2 ^ (F.prec - 1) % 2 = 0 := by
    rw [show F.prec - 1 = (F.prec - 1 - 1) + 1 by omega, Nat.pow_succ]; exact Nat.mul_mod_left ..
  have hsign : (if decide (x < 0) then F.signMask else 0) % 2 = 0 := by
    unfold FloatFmt.signMask
    rw [show F.nbits - 1 = (F.nbits - 1 - 1) + 1 by omega, Nat.pow_succ]
    split
    · exact Nat.mul_mod_left ..
    · rfl
  have hMn : (specM F f x.natAbs).toNat % 2 = 0 := by omega
  by_cases he : expOf f x.natAbs ≤ F.expMax
  · rw [rneFloat_finite F hp (by omega) f x hx0 he]
    have hEP : kOf F (expOf f x.natAbs) * 2 ^ (F.prec - 1) % 2 = 0 := by
      rw [Nat.mul_mod, hP, Nat.mul_zero]
    omega
  · obtain ⟨hb1, hbmax, hbmin, -⟩ := bias_facts F hpn
    rw [rneFloat_overflow F f x hx0 (by omega) (by omega), expMask_eq F (by omega) (by omega)]
    have hEP : (F.expMax + 1 + F.expBias).toNat * 2 ^ (F.prec - 1) % 2 = 0 := by
      rw [Nat.mul_mod, hP, Nat.mul_zero]
    omega

end Sfx.ToFloatPf
