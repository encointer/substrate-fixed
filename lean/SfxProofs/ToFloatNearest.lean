import SfxProofs.ToFloatNearDecode
/-
  ToFloatNearest.lean — the specification `rneFloat` is IEEE round-to-nearest, ties-to-even: among all finite floats of the format none is
  strictly closer to `x / 2^f` than a finite `rneFloat F f x`, and when another float is equally close the result has an even mantissa
  field.  All on the common integer scale `2^(gExp F + f)`, for the signed `x`.  Abstract step (`IsRne.beats_small`,
  RoundHalfEven.lean): `R` the half-even rounding of `X` on the grid `Q`, `l·Q` a grid point with `l·Q ≤ |X|`: every `w` with
  `|w| < l·Q` is strictly farther from `X` than `R·Q`.
  Format step (`float_small_or_on_grid`): a finite float with a coarser or equal quantum than the result is on the grid, one with a finer
  quantum lies inside the low end of `x`'s binade.
  First the vocabulary of the statements (also of property C05's): `floatVal` (the exact value of a pattern), `scaledErr` and `scaledVal`
  (distance to `x / 2^f`, and value, on that scale).  (core Lean only)
-/
namespace Sfx.ToFloatPf

/-- exact value of a finite float: `some (num, e)` stands for `num * 2^e`; `none` for NaN / infinities.  The same function as
`floatExact` (`floatVal_eq`), under the name the C05 statements use -/
def floatVal (F : FloatFmt) (b : Nat) : Option (Int × Int) := floatExact F b

theorem floatVal_eq (F : FloatFmt) (b : Nat) : floatVal F b = floatExact F b := rfl

/-- `2^(gExp F + f) * |x / 2^f - num * 2^e|` as a natural number (`e ≥ -gExp F` for every finite float,
see `floatVal_bounds`, so the exponent below is the true one and the scale is common to all floats) -/
def scaledErr (F : FloatFmt) (f : Nat) (x : Int) (v : Int × Int) : Nat :=
  (x * 2 ^ gExp F - v.1 * 2 ^ (v.2 + gExp F + f).toNat).natAbs

/-- `2^(gExp F + f) * (num * 2^e)` -/
def scaledVal (F : FloatFmt) (f : Nat) (v : Int × Int) : Int := v.1 * 2 ^ (v.2 + gExp F + f).toNat

theorem pow_bitLen_le_natCast {a : Nat} (ha : 0 < a) : (2 : Int) ^ (bitLen a - 1) ≤ a := by
  have := bitLen_lb ha
  have h := natCast_two_pow (bitLen a - 1)
  omega

theorem coarser_on_grid (F : FloatFmt) (hp : 2 ≤ F.prec) (f a : Nat) (n q : Int) (hge : specQ F f a ≤ q) :
    n * 2 ^ (q + gExp F + f).toNat =
      (n * 2 ^ (q - specQ F f a).toNat) * 2 ^ (specQ F f a + gExp F + f).toNat := by
  have hG := gExp_cast F hp
  have hQ := specQ_ge F f a
  rw [Int.mul_assoc, ← pow_add']
  congr 2; omega

theorem float_small_or_on_grid (F : FloatFmt) (hp : 2 ≤ F.prec) (f a : Nat) (ha : 0 < a) (n q : Int)
    (hn : n.natAbs < 2 ^ F.prec) (hq : F.expMin - ((F.prec : Int) - 1) ≤ q) :
    (∃ j, n * 2 ^ (q + gExp F + f).toNat = j * 2 ^ (specQ F f a + gExp F + f).toNat) ∨
    ((2 : Int) ^ (F.prec - 1) * 2 ^ (specQ F f a + gExp F + f).toNat ≤ a * 2 ^ gExp F ∧
      -(2 ^ (F.prec - 1) * 2 ^ (specQ F f a + gExp F + f).toNat) < n * 2 ^ (q + gExp F + f).toNat ∧
      n * 2 ^ (q + gExp F + f).toNat < 2 ^ (F.prec - 1) * 2 ^ (specQ F f a + gExp F + f).toNat) := by
  by_cases hlt : q < specQ F f a
  · right
    have hG := gExp_cast F hp
    have he : ¬ expOf f a < F.expMin := by
      intro h; unfold specQ at hlt; rw [if_pos h] at hlt; omega
    have hQ : specQ F f a = expOf f a - ((F.prec : Int) - 1) := by unfold specQ; rw [if_neg he]
    have hee : expOf f a = (bitLen a : Int) - 1 - f := rfl
    have hb0 := bitLen_pos ha
    have hc := natCast_two_pow F.prec
    generalize hs : (specQ F f a + gExp F + f).toNat = s
    generalize ht : (q + gExp F + f).toNat = t
    have hs' : F.prec - 1 + s = (bitLen a - 1) + gExp F := by omega
    have ht' : F.prec + t ≤ F.prec - 1 + s := by omega
    have hn' : -(2 ^ F.prec : Int) < n ∧ n < 2 ^ F.prec := by omega
    clear hs ht hQ hlt hq he hG hc hn
    have h2 : (2 : Int) ^ F.prec * 2 ^ t ≤ 2 ^ (F.prec - 1) * 2 ^ s := by
      rw [← pow_add', ← pow_add']; exact pow_le_pow ht'
    have h1 : -(2 ^ F.prec * 2 ^ t) < n * 2 ^ t := by
      rw [← Int.neg_mul]; exact Int.mul_lt_mul_of_pos_right hn'.1 (two_pow_pos t)
    have h3 : n * 2 ^ t < 2 ^ F.prec * 2 ^ t := Int.mul_lt_mul_of_pos_right hn'.2 (two_pow_pos t)
    refine ⟨?_, Int.lt_of_le_of_lt (Int.neg_le_neg h2) h1, Int.lt_of_lt_of_le h3 h2⟩
    rw [← pow_add', hs', pow_add']
    exact Int.mul_le_mul_of_nonneg_right (pow_bitLen_le_natCast ha) (Int.le_of_lt (two_pow_pos _))
  · exact Or.inl ⟨_, coarser_on_grid F hp f a n q (by omega)⟩

theorem signed_near (F : FloatFmt) (hp : 2 ≤ F.prec) (f : Nat) (x : Int) :
    IsRne (x * 2 ^ gExp F) (2 ^ (specQ F f x.natAbs + gExp F + f).toNat)
      (rneScaled x (-(f : Int) - specQ F f x.natAbs)) := by
  have hG := gExp_cast F hp
  have hQ := specQ_ge F f x.natAbs
  have h := rneScaled_isRne x (-(f : Int) - specQ F f x.natAbs) (specQ F f x.natAbs + gExp F + f).toNat (by omega)
  rwa [show (-(f : Int) - specQ F f x.natAbs + ((specQ F f x.natAbs + gExp F + f).toNat : Int)).toNat = gExp F by omega] at h

theorem signed_eq (F : FloatFmt) (f : Nat) (x : Int) :
    rneScaled x (-(f : Int) - specQ F f x.natAbs) = sgnI (decide (x < 0)) (specM F f x.natAbs) := by
  unfold specM
  rw [← rneScaled_sgnI, sgnI_natAbs]

theorem nearest_signed (F : FloatFmt) (hp : 2 ≤ F.prec) (f : Nat) (x : Int) (hx0 : x ≠ 0) (n q : Int)
    (hn : n.natAbs < 2 ^ F.prec) (hq : F.expMin - ((F.prec : Int) - 1) ≤ q) :
    let RQ := rneScaled x (-(f : Int) - specQ F f x.natAbs) * 2 ^ (specQ F f x.natAbs + gExp F + f).toNat
    (x * 2 ^ gExp F - RQ).natAbs ≤ (x * 2 ^ gExp F - n * 2 ^ (q + gExp F + f).toNat).natAbs ∧
    (n * 2 ^ (q + gExp F + f).toNat ≠ RQ →
      (x * 2 ^ gExp F - RQ).natAbs = (x * 2 ^ gExp F - n * 2 ^ (q + gExp F + f).toNat).natAbs →
      rneScaled x (-(f : Int) - specQ F f x.natAbs) % 2 = 0) := by
  intro RQ
  have hQpos := two_pow_pos (specQ F f x.natAbs + gExp F + f).toNat
  have hnear := signed_near F hp f x
  rcases float_small_or_on_grid F hp f x.natAbs (by omega) n q hn hq with ⟨j, hj⟩ | ⟨hL, hw⟩
  · rw [hj]
    exact ⟨hnear.nearest hQpos j, fun hne htie => hnear.tie_even hQpos j (fun h => hne (by rw [h])) htie⟩
  · have hX : (2 : Int) ^ (F.prec - 1) * 2 ^ (specQ F f x.natAbs + gExp F + f).toNat ≤ x * 2 ^ gExp F ∨
        x * 2 ^ gExp F ≤ -(2 ^ (F.prec - 1) * 2 ^ (specQ F f x.natAbs + gExp F + f).toNat) := by
      by_cases h : x < 0
      · right
        have : x * 2 ^ gExp F = -((x.natAbs : Int) * 2 ^ gExp F) := by rw [← Int.neg_mul]; congr 1; omega
        omega
      · left
        have : x * 2 ^ gExp F = (x.natAbs : Int) * 2 ^ gExp F := by congr 1; omega
        omega
    have := hnear.beats_small hQpos hX hw
    exact ⟨Nat.le_of_lt this, fun _ htie => absurd htie (Nat.ne_of_lt this)⟩

theorem floatVal_bounds (F : FloatFmt) (hp : 2 ≤ F.prec) (b : Nat) (v : Int × Int) (h : floatVal F b = some v) :
    v.1.natAbs < 2 ^ F.prec ∧ -(gExp F : Int) ≤ v.2 := by
  obtain ⟨h1, h2⟩ := floatExact_bounds F (by omega) b v h
  have := gExp_cast F hp
  exact ⟨h1, by omega⟩

theorem floatVal_zero (F : FloatFmt) (hp : 2 ≤ F.prec) (hpn : F.prec + 2 ≤ F.nbits) (v : Int × Int)
    (h : floatVal F 0 = some v) : v.1 = 0 := by
  have := floatExact_body F (by omega) hpn false 0 0 (Nat.two_pow_pos _) (Or.inl rfl) (by obtain ⟨_, _, _, h⟩ := bias_facts F hpn; omega)
  simp only [Bool.false_eq_true, if_false, Nat.zero_mul, Nat.add_zero] at this
  unfold floatVal at h
  rw [this] at h; cases h; rfl

/-- `rneFloat` is round-to-nearest, ties-to-even: no finite float is closer to `x / 2^f` than a finite result, and if a float of a
different value is exactly as close, the result has an even mantissa field -/
theorem rneFloat_nearest_gen (F : FloatFmt) (hF : F.okTo) (f : Nat) (x : Int)
    (vr : Int × Int) (hr : floatVal F (rneFloat F f x) = some vr)
    (b : Nat) (vb : Int × Int) (hb : floatVal F b = some vb) :
    scaledErr F f x vr ≤ scaledErr F f x vb ∧
    (scaledVal F f vb ≠ scaledVal F f vr → scaledErr F f x vr = scaledErr F f x vb → rneFloat F f x % 2 = 0) := by
  obtain ⟨hp, hpn, -, -⟩ := hF
  unfold scaledErr scaledVal
  by_cases hx0 : x = 0
  · subst hx0
    have : rneFloat F f 0 = 0 := by simp [rneFloat]
    rw [this] at hr ⊢
    rw [floatVal_zero F hp hpn vr hr]
    simp
  · obtain ⟨hn, hq⟩ := floatExact_bounds F (by omega) b vb hb
    obtain ⟨h1, h2⟩ := nearest_signed F hp f x hx0 vb.1 vb.2 hn hq
    rw [rneFloat_decode F hp hpn f x hx0 vr hr, ← signed_eq]
    refine ⟨h1, fun hne htie => rneFloat_even F hp hpn f x hx0 ?_⟩
    have := h2 hne htie
    rw [signed_eq] at this
    unfold sgnI at this
    split at this <;> omega

end Sfx.ToFloatPf

