import SfxProofs.Rne
import SfxProofs.FloatBits
/-
  ToFloatSpec.lean — the specification `rneFloat` (`SfxModel/ConvSpec.lean`) in closed form: quantum exponent `specQ` and rounded
  magnitude `specM`; the magnitude is its truncation `⌊a·2^s⌋` or one more, and the truncation carries exactly the implicit bit of
  the result's class (normal / subnormal); below overflow the result is sign + `kOf`·2^(prec-1) + magnitude, carries included.
-/
namespace Sfx.ToFloatPf

/-- the binade of `a / 2^f` (`a > 0`): the value lies in `[2^e, 2^(e+1))`; the `e` of `rneFloat` and the `exponent` of the code -/
def expOf (f a : Nat) : Int := (bitLen a : Int) - 1 - f

/-- quantum exponent chosen by the specification -/
def specQ (F : FloatFmt) (f a : Nat) : Int :=
  (if expOf f a < F.expMin then F.expMin else expOf f a) - ((F.prec : Int) - 1)
/-- rounded magnitude in units of the quantum -/
def specM (F : FloatFmt) (f a : Nat) : Int := rneScaled a (-(f : Int) - specQ F f a)

/-- number of bits of precision a subnormal result loses (`lost_prec`), zero in the normal range -/
def lostOf (F : FloatFmt) (e : Int) : Nat := (F.expMin - e).toNat
/-- a finite result is `sign + (k·2^(prec-1) + M)` with `M` the full significand (implicit bit included) and `k` the distance of the
clamped exponent from the exponent of the smallest normal: `E·P + (M − P) = (E − 1)·P + M` for a normal result, `0·P + M` for a subnormal one,
and a significand rounded up to `2^prec` carries by itself -/
def kOf (F : FloatFmt) (e : Int) : Nat := ((if e < F.expMin then F.expMin else e) - F.expMin).toNat

theorem specM_shift (F : FloatFmt) (f a : Nat) :
    -(f : Int) - specQ F f a = (F.prec : Int) - bitLen a - lostOf F (expOf f a) := by
  unfold specQ lostOf expOf
  split <;> omega

/-- `⌊a · 2^s⌋` -/
def truncScaled (a : Nat) (s : Int) : Nat := if 0 ≤ s then a * 2 ^ s.toNat else a / 2 ^ (-s).toNat

theorem truncScaled_lt (a : Nat) (s : Int) (t : Nat) (h : (bitLen a : Int) + s ≤ t) : truncScaled a s < 2 ^ t := by
  have hub := bitLen_ub a
  unfold truncScaled
  split
  · have : 2 ^ t = 2 ^ bitLen a * 2 ^ s.toNat * 2 ^ (t - bitLen a - s.toNat) := by
      rw [← Nat.pow_add, ← Nat.pow_add]; congr 1; omega
    rw [this]
    exact Nat.lt_of_lt_of_le (Nat.mul_lt_mul_of_pos_right hub (Nat.two_pow_pos _)) (Nat.le_mul_of_pos_right _ (Nat.two_pow_pos _))
  · rw [Nat.div_lt_iff_lt_mul (Nat.two_pow_pos _), ← Nat.pow_add]
    exact Nat.lt_of_lt_of_le hub (Nat.pow_le_pow_right (by decide) (by omega))

theorem truncScaled_ge (a : Nat) (ha : 0 < a) (s : Int) (t : Nat) (h : (t : Int) + 1 = bitLen a + s) : 2 ^ t ≤ truncScaled a s := by
  have hlb := bitLen_lb ha
  have hb0 := bitLen_pos ha
  unfold truncScaled
  split
  · rw [show t = (bitLen a - 1) + s.toNat by omega, Nat.pow_add]
    exact Nat.mul_le_mul_right _ hlb
  · rw [Nat.le_div_iff_mul_le (Nat.two_pow_pos _), ← Nat.pow_add]
    exact Nat.le_trans (Nat.pow_le_pow_right (by decide) (by omega)) hlb

theorem rneScaled_trunc (a : Nat) (s : Int) :
    (truncScaled a s : Int) ≤ rneScaled a s ∧ rneScaled a s ≤ truncScaled a s + 1 := by
  unfold truncScaled
  by_cases hs : 0 ≤ s
  · rw [if_pos hs, rneScaled_nonneg_exp _ _ hs, Int.natCast_mul, natCast_two_pow]
    omega
  · rw [if_neg hs, rneScaled_neg_exp _ _ (by omega), Int.natCast_ediv, natCast_two_pow]
    have := rneShift_bounds a (-s).toNat
    omega

theorem specM_trunc (F : FloatFmt) (hp : 2 ≤ F.prec) (f a : Nat) (ha : 0 < a) :
    (truncScaled a (-(f : Int) - specQ F f a) : Int) ≤ specM F f a ∧
    specM F f a ≤ truncScaled a (-(f : Int) - specQ F f a) + 1 ∧
    (if expOf f a < F.expMin then truncScaled a (-(f : Int) - specQ F f a) < 2 ^ (F.prec - 1)
     else 2 ^ (F.prec - 1) ≤ truncScaled a (-(f : Int) - specQ F f a) ∧ truncScaled a (-(f : Int) - specQ F f a) < 2 ^ F.prec) := by
  obtain ⟨h1, h2⟩ := rneScaled_trunc a (-(f : Int) - specQ F f a)
  refine ⟨h1, h2, ?_⟩
  rw [specM_shift]
  unfold lostOf expOf
  split
  · exact truncScaled_lt a _ _ (by omega)
  · exact ⟨truncScaled_ge a ha _ _ (by omega), truncScaled_lt a _ _ (by omega)⟩

/-- the terms are left as the definition produces them (`2^(prec-1) - 2^(prec-1)` where the magnitude carries into the next binade);
`rneFloat_finite` and `rneFloat_overflow` simplify them -/
theorem rneFloat_eq (F : FloatFmt) (f : Nat) (x : Int) (hx0 : x ≠ 0) :
    rneFloat F f x =
      if expOf f x.natAbs < F.expMin then (if x < 0 then F.signMask else 0) + (specM F f x.natAbs).toNat
      else if (specM F f x.natAbs).toNat = 2 ^ F.prec then
        (if expOf f x.natAbs + 1 > F.expMax then (if x < 0 then F.signMask else 0) + F.expMask
         else (if x < 0 then F.signMask else 0) +
           ((expOf f x.natAbs + 1 + F.expBias).toNat * 2 ^ (F.prec - 1) + (2 ^ (F.prec - 1) - 2 ^ (F.prec - 1))))
      else
        (if expOf f x.natAbs > F.expMax then (if x < 0 then F.signMask else 0) + F.expMask
         else (if x < 0 then F.signMask else 0) +
           ((expOf f x.natAbs + F.expBias).toNat * 2 ^ (F.prec - 1) + ((specM F f x.natAbs).toNat - 2 ^ (F.prec - 1)))) := by
  unfold rneFloat specM specQ expOf
  rw [if_neg hx0]
  simp only []
  by_cases h1 : (bitLen x.natAbs : Int) - 1 - f < F.expMin
  · simp only [h1, ↓reduceIte]
  · simp only [h1, ↓reduceIte]
    split <;> simp only []

theorem rneFloat_finite (F : FloatFmt) (hp : 2 ≤ F.prec) (hpn : F.prec < F.nbits) (f : Nat) (x : Int) (hx0 : x ≠ 0)
    (he2 : expOf f x.natAbs ≤ F.expMax) :
    rneFloat F f x = (if decide (x < 0) then F.signMask else 0) +
      (kOf F (expOf f x.natAbs) * 2 ^ (F.prec - 1) + (specM F f x.natAbs).toNat) := by
  rw [← sign_if F x]
  obtain ⟨t1, t2, t3⟩ := specM_trunc F hp f x.natAbs (by omega)
  have h2p : 2 ^ F.prec = 2 * 2 ^ (F.prec - 1) := p2split (by omega)
  have hbias : F.expMax = F.expBias := rfl
  have hmin : F.expMin = 1 - F.expBias := rfl
  rw [rneFloat_eq F f x hx0]
  unfold kOf
  generalize expOf f x.natAbs = e at *
  generalize (if x < 0 then F.signMask else 0) = sg
  generalize hMM : (specM F f x.natAbs).toNat = M at *
  have hMT : truncScaled x.natAbs (-(f : Int) - specQ F f x.natAbs) ≤ M := by omega
  generalize truncScaled x.natAbs (-(f : Int) - specQ F f x.natAbs) = T at *
  clear t1 t2 hMM
  by_cases h1 : e < F.expMin
  · rw [if_pos h1, if_pos h1, Int.sub_self]; simp
  · rw [if_neg h1, if_neg h1]
    rw [if_neg h1] at t3
    by_cases hc : M = 2 ^ F.prec
    · rw [if_pos hc, hc, h2p]
      by_cases hov : e + 1 > F.expMax
      · rw [if_pos hov, expMask_eq F hpn (by omega), show (F.expMax + 1 + F.expBias).toNat = (e - F.expMin).toNat + 2 by omega,
          Nat.add_mul]
      · rw [if_neg hov, show (e + 1 + F.expBias).toNat = (e - F.expMin).toNat + 2 by omega, Nat.add_mul]
        omega
    · rw [if_neg hc, if_neg (by omega), show (e + F.expBias).toNat = (e - F.expMin).toNat + 1 by omega, Nat.add_mul]
      omega

theorem rneFloat_overflow (F : FloatFmt) (f : Nat) (x : Int) (hx0 : x ≠ 0) (hmm : F.expMin ≤ F.expMax)
    (he : expOf f x.natAbs > F.expMax) :
    rneFloat F f x = (if decide (x < 0) then F.signMask else 0) + F.expMask := by
  rw [← sign_if F x, rneFloat_eq F f x hx0, if_neg (by omega)]
  by_cases hc : (specM F f x.natAbs).toNat = 2 ^ F.prec
  · rw [if_pos hc, if_pos (by omega)]
  · rw [if_neg hc, if_pos he]

end Sfx.ToFloatPf
