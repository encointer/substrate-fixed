import SfxProofs.TRRules
import SfxProofs.Cmp
/-
  TransFacts.lean — discharges the conversion / comparison facts that the transcendental proofs take as hypotheses
  (`SqrtPf.ConvFacts`) from the proved specifications of the conversions (C04) and comparisons (C03).
-/
attribute [-instance] Monoid.toNPow
namespace Sfx.TransFacts
open Sfx.ConvPf Sfx.CmpPf Sfx.SqrtPf

theorem C_valid : Trans.C.valid := by decide

theorem fromNumI_ok (D : Layout) (hv : D.valid) (k : Int) (hk : inI true 32 k) (hfit : inRange D (k * 2 ^ D.f)) :
    Trans.fromNumI D k = .ok (k * 2 ^ D.f) false := by
  have h := (fromInt_spec D hv true 32 (by decide) k hk).2.2.2.2
  unfold Trans.fromNumI
  rw [h]
  have hw : D.wrap (k * 2 ^ D.f) = k * 2 ^ D.f := wrapI_of_in hv.pos hfit
  rw [hw]; simp [hfit]

theorem fromNumU_ok (D : Layout) (hv : D.valid) (k : Int) (hk : inI false 32 k) (hfit : inRange D (k * 2 ^ D.f)) :
    Trans.fromNumU D k = .ok (k * 2 ^ D.f) false :=
  ((fromInt_spec D hv false 32 (by decide) k hk).2.2.2.2).trans (ok_wrap_of_in hv.pos hfit)

theorem fromNum0 (D : Layout) (hv : D.valid) : Trans.fromNumI D 0 = .ok 0 false := by
  have h := fromNumI_ok D hv 0 (by decide) (by rw [Int.zero_mul]; exact inI_zero D.signed D.n)
  rwa [Int.zero_mul] at h

theorem fromNum1 (D : Layout) (hv : D.valid) (h1 : inRange D (2 ^ D.f)) : Trans.fromNumI D 1 = .ok (2 ^ D.f) false := by
  have h := fromNumI_ok D hv 1 (by decide) (by rw [Int.one_mul]; exact h1)
  rwa [Int.one_mul] at h

theorem fromNum2 (D : Layout) (hv : D.valid) (h2 : inRange D (2 * 2 ^ D.f)) : Trans.fromNumI D 2 = .ok (2 * 2 ^ D.f) false :=
  fromNumI_ok D hv 2 (by decide) h2

theorem ltC (D : Layout) (hv : D.valid) (x c : Int) (hx : inRange D x) (hc : inRange Trans.C c) :
    D.ltFixed Trans.C x c = decide (x * 2 ^ 23 < c * 2 ^ D.f) := by
  rw [ltFixed_spec D Trans.C hv C_valid x c hx hc]
  exact decide_eq_decide.mpr (cmpInt_eq_neg_one_iff _ _)

theorem eqC (D : Layout) (hv : D.valid) (x c : Int) (hx : inRange D x) (hc : inRange Trans.C c) :
    D.eqFixed Trans.C x c = decide (x * 2 ^ 23 = c * 2 ^ D.f) := by
  rw [eqFixed_spec D Trans.C hv C_valid x c hx hc]
  exact decide_eq_decide.mpr (cmpInt_eq_zero_iff _ _)

theorem ltC_zero (D : Layout) (hv : D.valid) (x : Int) (hx : inRange D x) : D.ltFixed Trans.C x Trans.ZERO = decide (x < 0) := by
  rw [ltC D hv x _ hx inC_zero, decide_eq_decide]
  show x * 2 ^ 23 < 0 * 2 ^ D.f ↔ x < 0
  rw [Int.zero_mul, ← Int.zero_mul (2 ^ 23)]
  exact Int.mul_lt_mul_right (two_pow_pos 23)

/-- `D::from(x)` for the pairs accepted by `D: From<S>`: the same type, or a widening admitted by `convert.rs` -/
theorem fromS_spec (S D : Layout) (hS : S.valid) (hD : D.valid) (h : S = D ∨ fromAdmissible S D) (x : Int) (hx : inRange S x) :
    Trans.fromS S D x = .ok (x * 2 ^ (D.f - S.f)) false ∧ inRange D (x * 2 ^ (D.f - S.f)) := by
  by_cases hEq : S = D
  · subst hEq
    rw [fromS_same, Nat.sub_self, Int.pow_zero, Int.mul_one]
    exact ⟨rfl, hx⟩
  · obtain ⟨h1, h2, _⟩ := fromLossless_spec S D hS hD (h.resolve_left hEq) x hx
    exact ⟨by unfold Trans.fromS; rw [if_neg hEq]; exact h1, h2⟩

theorem widen_order (S D : Layout) (hf : S.f ≤ D.f) (x : Int) :
    (x * 2 ^ (D.f - S.f) < 0 ↔ x < 0) ∧ (x * 2 ^ (D.f - S.f) = 0 ↔ x = 0) ∧ (0 < x * 2 ^ (D.f - S.f) ↔ 0 < x) ∧
    (x * 2 ^ (D.f - S.f) < 2 ^ D.f ↔ x < 2 ^ S.f) ∧ (x * 2 ^ (D.f - S.f) = 2 ^ D.f ↔ x = 2 ^ S.f) ∧
    (x * 2 ^ (D.f - S.f) ≤ 2 ^ D.f ↔ x ≤ 2 ^ S.f) ∧ (2 ^ D.f ≤ x * 2 ^ (D.f - S.f) ↔ 2 ^ S.f ≤ x) := by
  have hQ := two_pow_pos (D.f - S.f)
  have hsplit : (2 : Int) ^ D.f = 2 ^ S.f * 2 ^ (D.f - S.f) := by
    rw [← pow_add']; congr 1; omega
  have l0 := Int.mul_lt_mul_right (b := x) (c := 0) hQ
  have e0 := Int.mul_eq_mul_right_iff (a := x) (b := 0) (Int.ne_of_gt hQ)
  have p0 := Int.mul_lt_mul_right (b := 0) (c := x) hQ
  rw [Int.zero_mul] at l0 e0 p0
  rw [hsplit]
  exact ⟨l0, e0, p0, Int.mul_lt_mul_right hQ, Int.mul_eq_mul_right_iff (Int.ne_of_gt hQ), Int.mul_le_mul_right hQ,
    Int.mul_le_mul_right hQ⟩

theorem inC_E : inRange Trans.C Trans.E := by decide

theorem admissible_C (D : Layout) (hs : D.signed = true) (hf : 23 ≤ D.f) (hint : 9 ≤ D.intBits) : fromAdmissible Trans.C D := by
  unfold Layout.intBits at hint
  refine ⟨hf, ?_⟩
  rw [if_pos (by rw [hs]; rfl)]
  exact hint

theorem room (D : Layout) (hfn : D.f ≤ D.n) (hint : (if D.signed then 3 else 2) ≤ D.intBits) :
    inRange D (2 ^ D.f) ∧ inRange D (2 * 2 ^ D.f) := by
  have hP := two_pow_pos D.f
  have h4 : (2 : Int) ^ (2 + D.f) = 4 * 2 ^ D.f := by rw [pow_add']; rfl
  exact ⟨inRange_bits_nn D hfn 2 hint (by omega) (by omega), inRange_bits_nn D hfn 2 hint (by omega) (by omega)⟩

theorem convFacts (D : Layout) (hv : D.valid) (hint : (if D.signed then 3 else 2) ≤ D.intBits) : ConvFacts D := by
  have hQ : (0 : Int) < 2 ^ 23 := two_pow_pos 23
  have h0 : Trans.ZERO * 2 ^ D.f = 0 * 2 ^ 23 := by
    show (0 : Int) * 2 ^ D.f = 0 * 2 ^ 23
    rw [Int.zero_mul, Int.zero_mul]
  have h1 : Trans.ONE * 2 ^ D.f = 2 ^ D.f * 2 ^ 23 := by
    show (1 : Int) * 2 ^ 23 * 2 ^ D.f = 2 ^ D.f * 2 ^ 23
    rw [Int.one_mul, Int.mul_comm]
  refine ⟨fromNum1 D hv (room D hv.2 hint).1, fromNum2 D hv (room D hv.2 hint).2, ltC_zero D hv, fun x hx => ?_, fun x hx => ?_,
    fun x hx => ?_⟩
  · rw [eqC D hv x _ hx inC_zero, decide_eq_decide, h0]; exact Int.mul_eq_mul_right_iff (Int.ne_of_gt hQ)
  · rw [eqC D hv x _ hx inC_one, decide_eq_decide, h1]; exact Int.mul_eq_mul_right_iff (Int.ne_of_gt hQ)
  · rw [ltC D hv x _ hx inC_one, decide_eq_decide, h1]; exact Int.mul_lt_mul_right hQ

end Sfx.TransFacts
