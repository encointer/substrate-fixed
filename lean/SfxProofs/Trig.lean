import SfxModel.Transcendental
import SfxProofs.PrimLemmas
import SfxProofs.TrigArith
/-
  Trig.lean — the plain-integer side of `transcendental::{sin, cos, tan}`, for every valid signed layout `D` with `23 ≤ D.f` and
  `9 ≤ D.intBits` (`Ok D`): the constants on the grid of `D`, range reduction (`red1`, `red2`, `red_spec`), the CORDIC iteration with
  floor shifts (`stepPure`, `statePure`, `tailPure`, `sinPure`) and its invariant `Inv` (`|x|+|y| ≤ cb i / 2^22 · 2^f < 3·2^f`,
  `|z| < 4·2^f`, preserved by every step), and the kernel-evaluated facts on the generated table and gain.  Nothing here mentions the
  monadic model: `TrigModel.lean` proves that `Trans.sin/cos/tan` compute these functions, the accuracy files (`TrigAcc*.lean`) are about
  these functions alone.
  `Monoid.toNPow` is erased locally so that `(2 : Int) ^ k` in the statements is core's `Int.pow`, as in the Mathlib-free files.
-/
attribute [-instance] Monoid.toNPow

namespace Sfx.TrigPf
open Sfx.Trans

-- the supported destination layouts of sin/cos/tan (the four conjuncts of the property files' `C12.Supp`, as a structure)
structure Ok (D : Layout) : Prop where
  hv : D.valid
  hs : D.signed = true
  hf : 23 ≤ D.f
  hi : 9 ≤ D.intBits

/-- the weight of one `I9F23` ulp on the grid of `D` -/
def W (D : Layout) : Int := 2 ^ (D.f - 23)

/-- `PI` on the grid of `D` (exact, since `D.f ≥ 23`; likewise `T`, `H`) -/
def P (D : Layout) : Int := Trans.PI * 2 ^ (D.f - 23)

/-- `TWO_PI` on the grid of `D` -/
def T (D : Layout) : Int := Trans.TWO_PI * 2 ^ (D.f - 23)

/-- `FRAC_PI_2` on the grid of `D` -/
def H (D : Layout) : Int := Trans.FRAC_PI_2 * 2 ^ (D.f - 23)

-- the literals are `Generated.piBits`, `twoPiBits`, `fracPi2Bits` (the 128-bit `consts::PI` shifted to the `I9F23` grid); a change of
-- the constants in the source is meant to break these three
theorem P_eq (D : Layout) : P D = 26353589 * W D := rfl

theorem T_eq (D : Layout) : T D = 52707178 * W D := rfl

theorem H_eq (D : Layout) : H D = 13176794 * W D := rfl

theorem W_pos (D : Layout) : 0 < W D := two_pow_pos _

theorem U_eq {D : Layout} (hf : 23 ≤ D.f) : (2 : Int) ^ D.f = 8388608 * W D := by
  have h : D.f = 23 + (D.f - 23) := by omega
  have : (2 : Int) ^ D.f = 2 ^ 23 * 2 ^ (D.f - 23) := by rw [← pow_add', ← h]
  rw [this]; rfl

theorem Ok.n128 {D : Layout} (hD : Ok D) : D.n ≤ 128 := hD.hv.le128

theorem Ok.f119 {D : Layout} (hD : Ok D) : D.f + 9 ≤ D.n := by
  have := hD.hi; have := hD.hv.2; unfold Layout.intBits at *; omega

theorem Ok.f128 {D : Layout} (hD : Ok D) : D.f ≤ 128 := by have := hD.f119; have := hD.n128; omega

theorem Ok.split128 {D : Layout} (hD : Ok D) : (2 : Int) ^ 128 = 2 ^ D.f * 2 ^ (128 - D.f) := by
  have := hD.f128
  rw [← pow_add']; congr 1; omega

/-- anything below `256` in magnitude is representable -/
theorem inR {D : Layout} (hD : Ok D) {x : Int} (h1 : -(2147483648 * W D) ≤ x) (h2 : x < 2147483648 * W D) : inRange D x := by
  have hU := U_eq hD.hf
  have h8 : (2 : Int) ^ (8 + D.f) = 256 * 2 ^ D.f := by rw [pow_add']; rfl
  exact SqrtPf.inRange_bits D hD.hs 8 hD.hi (by omega) (by omega)

theorem shift_inRange {D : Layout} (hD : Ok D) (a : Int) (h1 : -(200 * 2 ^ D.f) ≤ a) (h2 : a ≤ 200 * 2 ^ D.f) :
    inRange D (a + H D) := by
  have hU := U_eq hD.hf
  have hW := W_pos D
  have hH := H_eq D
  exact inR hD (by omega) (by omega)

theorem inC_of {c : Int} (h1 : -2147483648 ≤ c) (h2 : c ≤ 2147483647) : inRange Trans.C c := by
  unfold inRange Trans.C inI minI maxI
  simp only [if_true]
  constructor
  · exact h1
  · exact h2

theorem scale_eq {D : Layout} (hf : 23 ≤ D.f) (c : Int) : c * 2 ^ D.f = (c * W D) * 2 ^ 23 := by
  have h23 : (2 : Int) ^ 23 = 8388608 := by decide
  rw [U_eq hf, h23, Int.mul_comm 8388608 (W D), Int.mul_assoc]

/-- the representative in `[-P, P]` chosen by the two loops, applied to the remainder `a0` -/
def pick (D : Layout) (a0 : Int) : Int := if P D < a0 then a0 - T D else if a0 < -P D then a0 + T D else a0

/-- the number of loop iterations spent on it -/
def pickTicks (D : Layout) (a0 : Int) : Nat := if P D < a0 ∨ a0 < -P D then 1 else 0

theorem pick_spec (D : Layout) (a0 : Int) (h1 : -T D < a0) (h2 : a0 < T D) :
    (pick D a0 = a0 ∨ pick D a0 = a0 - T D ∨ pick D a0 = a0 + T D) ∧ -P D ≤ pick D a0 ∧ pick D a0 ≤ P D := by
  have hW := W_pos D
  have hT := T_eq D
  have hP := P_eq D
  unfold pick
  split_ifs <;> omega

/-- the angle after the remainder and the two loops -/
def red1 (D : Layout) (a : Int) : Int := pick D (Int.tmod a (T D))

/-- loop iterations spent by the range reduction -/
def redTicks (D : Layout) (a : Int) : Nat := pickTicks D (Int.tmod a (T D))

/-- the mirror steps -/
def red2 (D : Layout) (a1 : Int) : Int :=
  if H D < a1 then H D - (a1 - H D) else if a1 < -H D then -H D - (a1 + H D) else a1

theorem red2_spec (D : Layout) (a1 : Int) (h1 : -P D ≤ a1) (h2 : a1 ≤ P D) :
    (red2 D a1 = a1 ∨ red2 D a1 = H D - (a1 - H D) ∨ red2 D a1 = -H D - (a1 + H D)) ∧ -H D ≤ red2 D a1 ∧ red2 D a1 ≤ H D := by
  have hW := W_pos D
  have hH := H_eq D
  have hP := P_eq D
  unfold red2
  split_ifs <;> omega

theorem red_spec (D : Layout) (a : Int) :
    ∃ q : Int, red1 D a = a + q * T D ∧ -P D ≤ red1 D a ∧ red1 D a ≤ P D ∧
      (red2 D (red1 D a) = red1 D a ∨ red2 D (red1 D a) = H D - (red1 D a - H D) ∨ red2 D (red1 D a) = -H D - (red1 D a + H D)) ∧
      -H D ≤ red2 D (red1 D a) ∧ red2 D (red1 D a) ≤ H D := by
  have hW := W_pos D
  have hT := T_eq D
  have hT0 : 0 < T D := by omega
  obtain ⟨hpk, hlo, hhi⟩ := pick_spec D (Int.tmod a (T D)) (Int.lt_tmod_of_pos a hT0) (Int.tmod_lt_of_pos a hT0)
  obtain ⟨hcases, m1, m2⟩ := red2_spec D _ hlo hhi
  have hdef : Int.tmod a (T D) = a - Int.tdiv a (T D) * T D := by rw [Int.mul_comm]; exact Int.tmod_def a (T D)
  have hq : ∃ q, pick D (Int.tmod a (T D)) = a + q * T D := by
    rcases hpk with h | h | h
    · exact ⟨-Int.tdiv a (T D), by rw [h, hdef]; ring⟩
    · exact ⟨-Int.tdiv a (T D) - 1, by rw [h, hdef]; ring⟩
    · exact ⟨-Int.tdiv a (T D) + 1, by rw [h, hdef]; ring⟩
  obtain ⟨q, hq⟩ := hq
  exact ⟨q, hq, hlo, hhi, hcases, m1, m2⟩

theorem redTicks_le (D : Layout) (a : Int) : redTicks D a ≤ 1 := by
  unfold redTicks pickTicks
  split <;> omega

/-- scale of the bound table: `2^22` -/
def K : Int := 4194304

/-- `cb i / 2^22` bounds `(|x_i| + |y_i|) / 2^f`: start just above the gain `0.60725…`, each step multiplies by `1 + 2^-i`
(the two shifted cross terms) and adds `2 / 2^22 ≥ 4 / 2^f` (the truncations of the two arithmetic shifts) -/
def cb : Nat → Int
  | 0 => Int.ofNat Generated.cordicGain / 2 ^ 106 + 1
  | i + 1 => cb i + cb i / 2 ^ i + 2

theorem cb_le : ∀ i, i ≤ 24 → cb i ≤ 3 * K := by decide +kernel

theorem cb_24 : cb 24 = 12145332 := by decide +kernel

theorem angle_lt : ∀ i, i < 24 → Trans.angleOf i < 2 ^ (128 - i) := by decide +kernel

theorem angle_nonneg (i : Nat) : 0 ≤ Trans.angleOf i := Int.natCast_nonneg _

/-- the loop invariant before step `i`: `|x| + |y| ≤ s` with `s · 2^22 ≤ cb i · 2^f`, and `|z| + 2^(f+1-i) ≤ H + 2·2^f` -/
def Inv (D : Layout) (i : Nat) (x y z : Int) : Prop :=
  ∃ s : Int, x + y ≤ s ∧ x - y ≤ s ∧ -x + y ≤ s ∧ -x - y ≤ s ∧ s * K ≤ cb i * 2 ^ D.f ∧
    z + 2 ^ (D.f + 1 - i) ≤ H D + 2 * 2 ^ D.f ∧ -z + 2 ^ (D.f + 1 - i) ≤ H D + 2 * 2 ^ D.f

/-- one CORDIC step on plain integers: floor shifts, the floor-converted table entry -/
def stepPure (f i : Nat) (x y z : Int) : Int × Int × Int :=
  if z < 0 then (x + y / 2 ^ i, y - x / 2 ^ i, z + Trans.angleOf i / 2 ^ (128 - f))
  else (x - y / 2 ^ i, y + x / 2 ^ i, z - Trans.angleOf i / 2 ^ (128 - f))

/-- the direction of a step: the sign of the residual angle -/
def sgnZ (z : Int) : Int := if z < 0 then -1 else 1

theorem sgnZ_cases (z : Int) : (sgnZ z = 1 ∧ 0 ≤ z) ∨ (sgnZ z = -1 ∧ z < 0) := by
  unfold sgnZ; split <;> omega

theorem stepPure_eq (f i : Nat) (x y z : Int) :
    stepPure f i x y z = (x - sgnZ z * (y / 2 ^ i), y + sgnZ z * (x / 2 ^ i), z - sgnZ z * (angleOf i / 2 ^ (128 - f))) := by
  unfold stepPure sgnZ
  split <;> refine Prod.ext ?_ (Prod.ext ?_ ?_) <;> simp only <;> omega

/-- `k` CORDIC steps from step `i` on plain integers -/
def cordicPure (f : Nat) : Nat → Nat → Int → Int → Int → Int × Int
  | 0, _, x, y, _ => (x, y)
  | k + 1, i, x, y, z =>
    cordicPure f k (i + 1) (stepPure f i x y z).1 (stepPure f i x y z).2.1 (stepPure f i x y z).2.2

theorem Inv.bounds {D : Layout} (hD : Ok D) {i : Nat} (hi : i ≤ 24) {x y z : Int} (h : Inv D i x y z) :
    -(3 * 2 ^ D.f) ≤ x ∧ x ≤ 3 * 2 ^ D.f ∧ -(3 * 2 ^ D.f) ≤ y ∧ y ≤ 3 * 2 ^ D.f ∧ -(4 * 2 ^ D.f) < z ∧ z < 4 * 2 ^ D.f := by
  obtain ⟨s, h1, h2, h3, h4, hs, hz1, hz2⟩ := h
  have hP := two_pow_pos D.f
  have hs3 : s ≤ 3 * 2 ^ D.f := scale_le s (cb i) K _ (by decide) (by omega) hs (cb_le i hi)
  have hxy : -(3 * 2 ^ D.f) ≤ x ∧ x ≤ 3 * 2 ^ D.f ∧ -(3 * 2 ^ D.f) ≤ y ∧ y ≤ 3 * 2 ^ D.f := by omega
  have hwp := two_pow_pos (D.f + 1 - i)
  have hW := W_pos D
  have hU := U_eq hD.hf
  have hH := H_eq D
  exact ⟨hxy.1, hxy.2.1, hxy.2.2.1, hxy.2.2.2, by omega, by omega⟩

/-- the floored table entry on the grid of `D` (what `lossyU0F128 D (angleOf i)` returns: `angle_conv` in `TrigModel.lean`) -/
theorem angle_floor {D : Layout} (hD : Ok D) (i : Nat) (hi : i < 24) :
    0 ≤ Trans.angleOf i / 2 ^ (128 - D.f) ∧ Trans.angleOf i / 2 ^ (128 - D.f) ≤ 2 ^ (D.f - i) := by
  have hlt := angle_lt i hi
  have h0 := angle_nonneg i
  have hf := hD.hf
  have hf128 := hD.f128
  refine ⟨Int.ediv_nonneg h0 (Int.le_of_lt (two_pow_pos _)), ?_⟩
  have hsplit : (2 : Int) ^ (128 - i) = 2 ^ (D.f - i) * 2 ^ (128 - D.f) := by
    rw [← pow_add']; congr 1; omega
  rw [hsplit] at hlt
  exact Int.le_of_lt (Int.ediv_lt_of_lt_mul (two_pow_pos _) hlt)

theorem Inv.step {D : Layout} (hD : Ok D) {i : Nat} (hi : i < 24) {x y z : Int} (hinv : Inv D i x y z) :
    Inv D (i + 1) (stepPure D.f i x y z).1 (stepPure D.f i x y z).2.1 (stepPure D.f i x y z).2.2 := by
  obtain ⟨s, h1, h2, h3, h4, hs, hz1, hz2⟩ := hinv
  obtain ⟨ha0, ha1⟩ := angle_floor hD i hi
  generalize hang : Trans.angleOf i / 2 ^ (128 - D.f) = ang at ha0 ha1
  have hf := hD.hf
  have hw1 : (2 : Int) ^ (D.f + 1 - i) = 2 * 2 ^ (D.f - i) := by
    have : D.f + 1 - i = 1 + (D.f - i) := by omega
    rw [this, pow_add']; rfl
  have hw2 : (2 : Int) ^ (D.f + 1 - (i + 1)) = 2 ^ (D.f - i) := by
    congr 1; omega
  rw [hw1] at hz1 hz2
  -- `|z ± ang| + 2^(f-i) ≤ |z| + 2·2^(f-i)`, whatever the sign of `z`
  have hz : (z + ang + 2 ^ (D.f - i) ≤ H D + 2 * 2 ^ D.f ∧ -(z + ang) + 2 ^ (D.f - i) ≤ H D + 2 * 2 ^ D.f) ∧
      (z - ang + 2 ^ (D.f - i) ≤ H D + 2 * 2 ^ D.f ∧ -(z - ang) + 2 ^ (D.f - i) ≤ H D + 2 * 2 ^ D.f) := by omega
  rw [← hw2] at hz
  have hQ := two_pow_pos i
  have hL : L1 x y s := ⟨h1, h2, h3, h4⟩
  obtain ⟨⟨a1, a2, a3, a4⟩, ⟨b1, b2, b3, b4⟩⟩ := hL.rot (hL.quot hQ)
  have hstep : (s + (s / 2 ^ i + 2)) * K ≤ cb (i + 1) * 2 ^ D.f :=
    sum_step s (cb i) K (2 ^ D.f) (2 ^ i) hQ (by decide) (by rw [U_eq hD.hf]; have := W_pos D; unfold K; omega) hs
  unfold stepPure
  rw [hang]
  split
  · exact ⟨_, a1, a2, a3, a4, hstep, hz.1.1, hz.1.2⟩
  · exact ⟨_, b1, b2, b3, b4, hstep, hz.2.1, hz.2.2⟩

theorem Inv.inRange {D : Layout} (hD : Ok D) {i : Nat} (hi : i ≤ 24) {x y z : Int} (h : Inv D i x y z) :
    inRange D x ∧ inRange D y ∧ inRange D z := by
  obtain ⟨_, _, _, _, _, _⟩ := h.bounds hD hi
  have hW := W_pos D
  have hU := U_eq hD.hf
  exact ⟨inR hD (by omega) (by omega), inR hD (by omega) (by omega), inR hD (by omega) (by omega)⟩

/-- the full state `(x, y, z)` after `k` plain-integer steps from step `i` -/
def statePure (f : Nat) : Nat → Nat → Int → Int → Int → Int × Int × Int
  | 0, _, x, y, z => (x, y, z)
  | k + 1, i, x, y, z =>
    statePure f k (i + 1) (stepPure f i x y z).1 (stepPure f i x y z).2.1 (stepPure f i x y z).2.2

theorem cordicPure_eq_state (f : Nat) : ∀ (k i : Nat) (x y z : Int),
    cordicPure f k i x y z = ((statePure f k i x y z).1, (statePure f k i x y z).2.1)
  | 0, _, _, _, _ => rfl
  | k + 1, i, _, _, _ => cordicPure_eq_state f k (i + 1) _ _ _

theorem state_inv {D : Layout} (hD : Ok D) : ∀ (k i : Nat) (x y z : Int), i + k ≤ 24 → Inv D i x y z →
    Inv D (i + k) (statePure D.f k i x y z).1 (statePure D.f k i x y z).2.1 (statePure D.f k i x y z).2.2
  | 0, i, x, y, z, _, hinv => hinv
  | k + 1, i, x, y, z, hik, hinv => by
    have ih := state_inv hD k (i + 1) _ _ _ (by omega) (hinv.step hD (by omega))
    rw [show i + 1 + k = i + (k + 1) by omega] at ih
    exact ih

theorem gain_scaled : Int.ofNat Generated.cordicGain * K ≤ cb 0 * 2 ^ 128 := by decide +kernel

theorem gain_lt : Int.ofNat Generated.cordicGain < 2 ^ 128 := by decide +kernel

/-- the start of the loop satisfies `Inv`; the start value is `TrigAccPf.x0 D`, written out because `x0` rests on the gain literal `Gc`,
a definition of `TrigAccBase.lean` -/
theorem start_inv_pure {D : Layout} (hD : Ok D) (z : Int) (hz1 : -H D ≤ z) (hz2 : z ≤ H D) :
    Inv D 0 (Int.ofNat Generated.cordicGain / 2 ^ (128 - D.f)) 0 z := by
  have hg0 : (0 : Int) ≤ Int.ofNat Generated.cordicGain := Int.natCast_nonneg _
  have hR := two_pow_pos (128 - D.f)
  have hP := two_pow_pos D.f
  have hx0 : 0 ≤ Int.ofNat Generated.cordicGain / 2 ^ (128 - D.f) := Int.ediv_nonneg hg0 (Int.le_of_lt hR)
  have hb : Int.ofNat Generated.cordicGain / 2 ^ (128 - D.f) * K ≤ cb 0 * 2 ^ D.f :=
    start_bound _ (2 ^ (128 - D.f)) (Int.ofNat Generated.cordicGain) K (cb 0) (2 ^ D.f) hR (by decide)
      (Int.ediv_mul_le _ (Int.ne_of_gt hR)) (by rw [← hD.split128]; exact gain_scaled)
  have hw : (2 : Int) ^ (D.f + 1 - 0) = 2 * 2 ^ D.f := by
    have : D.f + 1 - 0 = 1 + D.f := by omega
    rw [this, pow_add']; rfl
  generalize Int.ofNat Generated.cordicGain / 2 ^ (128 - D.f) = x0 at *
  exact ⟨x0, by omega, by omega, by omega, by omega, hb, by omega, by omega⟩

/-- the CORDIC part of `sin` on plain integers -/
def tailPure (D : Layout) (a2 : Int) : Int :=
  (cordicPure D.f 24 0 (Int.ofNat Generated.cordicGain / 2 ^ (128 - D.f)) 0 a2).2

/-- `sin` on plain integers: truncated remainder, representative in `[-P, P]`, mirror into `[-H, H]`, 24 CORDIC steps with floor shifts -/
def sinPure (D : Layout) (a : Int) : Int := tailPure D (red2 D (red1 D a))

theorem sinPure_bound {D : Layout} (hD : Ok D) (a : Int) : -(3 * 2 ^ D.f) ≤ sinPure D a ∧ sinPure D a ≤ 3 * 2 ^ D.f := by
  obtain ⟨_, _, _, _, _, m1, m2⟩ := red_spec D a
  have hinv := state_inv hD 24 0 _ 0 _ (Nat.le_refl _) (start_inv_pure hD (red2 D (red1 D a)) m1 m2)
  obtain ⟨_, _, b1, b2, _, _⟩ := hinv.bounds hD (Nat.le_refl _)
  unfold sinPure tailPure
  rw [cordicPure_eq_state]
  -- the state is made opaque first: comparing the projections of `statePure … 24 …` would evaluate the iteration
  generalize statePure D.f 24 0 (Int.ofNat Generated.cordicGain / 2 ^ (128 - D.f)) 0 (red2 D (red1 D a)) = st at b1 b2 ⊢
  exact ⟨b1, b2⟩

theorem divSpec_cases (f : Nat) (s den : Int) (hden : 0 < den) :
    ∃ r : Int, s * 2 ^ f = den * divSpec f s den + r ∧ -den < r ∧ r < den :=
  tdiv_rem (s * 2 ^ f) den hden

/-! ### facts about the generated table and gain (kernel-evaluated; a mutated entry breaks one of them) -/

/-- `Σ_{lo ≤ j < lo + k} angleOf j` -/
def angSum (lo : Nat) : Nat → Int
  | 0 => 0
  | k + 1 => angSum lo k + Trans.angleOf (lo + k)

theorem angSum_peel (lo : Nat) : ∀ k, angSum lo (k + 1) = angleOf lo + angSum (lo + 1) k
  | 0 => by
    show angSum lo 0 + angleOf (lo + 0) = angleOf lo + angSum (lo + 1) 0
    show 0 + angleOf (lo + 0) = angleOf lo + 0
    rw [Nat.add_zero]; omega
  | k + 1 => by
    show angSum lo (k + 1) + angleOf (lo + (k + 1)) = angleOf lo + (angSum (lo + 1) k + angleOf (lo + 1 + k))
    rw [angSum_peel lo k, show lo + 1 + k = lo + (k + 1) by omega]
    omega

theorem table_decreasing_all : ∀ i, i < 63 → Trans.angleOf (i + 1) < Trans.angleOf i := by decide +kernel

/-- (a) the entries used by the loop are strictly decreasing (in fact the whole table is) -/
theorem table_decreasing : ∀ i, i < 24 → Trans.angleOf (i + 1) < Trans.angleOf i :=
  fun i hi => table_decreasing_all i (Nat.lt_trans hi (by decide))

theorem table_pos : ∀ i, i < 64 → 0 < Trans.angleOf i := by decide +kernel

/-- (b) the CORDIC convergence condition `e_i ≤ Σ_{j=i+1}^{23} e_j + e_23` -/
theorem table_convergence : ∀ i, i < 23 → Trans.angleOf i ≤ angSum (i + 1) (23 - i) + Trans.angleOf 23 := by decide +kernel

/-- its usual sufficient form `e_i ≤ 2·e_{i+1}` -/
theorem table_halving : ∀ i, i < 24 → Trans.angleOf i ≤ 2 * Trans.angleOf (i + 1) := by decide +kernel

/-- (c) the reachable rotation covers `π/2` (`H` on the `U0F128` scale) -/
theorem table_covers : Trans.FRAC_PI_2 * 2 ^ 105 ≤ angSum 0 24 := by decide +kernel

theorem table_sum_lt : angSum 0 24 < 2 * 2 ^ 128 := by decide +kernel

/-- (d) entry 0 is `π/4 · 2^128 = consts::PI` (`U2F126` bits) truncated to its top 52 bits.
The low 76 bits are zero and the difference is about `2^73.1`, hence the bound `2^74`; `< 2^61` ("low 60 bits zeroed") is false
(`table_entry0_counterexample`) -/
theorem table_entry0 : Trans.angleOf 0 = Int.ofNat Generated.piSrc / 2 ^ 76 * 2 ^ 76 ∧
    0 ≤ Int.ofNat Generated.piSrc - Trans.angleOf 0 ∧ Int.ofNat Generated.piSrc - Trans.angleOf 0 < 2 ^ 74 := by decide +kernel

theorem table_entry0_counterexample : ¬ (Int.ofNat Generated.piSrc - Trans.angleOf 0 < 2 ^ 61) ∧
    ¬ (Trans.angleOf 0 - Int.ofNat Generated.piSrc < 2 ^ 61 ∧ Int.ofNat Generated.piSrc - Trans.angleOf 0 < 2 ^ 61) := by
  decide +kernel

/-- Gregory's series `atan(2^-i) = Σ_k (-1)^k 2^(-i(2k+1)) / (2k+1)`, scaled by `2^256`, each term floored, `m` terms -/
def atanSeries (i : Nat) : Nat → Int
  | 0 => 0
  | k + 1 => atanSeries i k + (if k % 2 = 0 then 1 else -1) * ((2 : Int) ^ (256 - i * (2 * k + 1)) / (2 * k + 1))

/-- every entry `1 ≤ i < 24` agrees with 70 terms of the series (truncation error `< 2^116`, flooring error `< 70`) to within
`2^(-54-i)`, i.e. about one unit in the 53rd significant bit: the entries are `atan(2^-i)` rounded to a double -/
theorem table_entries_pinned : ∀ i, 1 ≤ i → i < 24 →
    Trans.angleOf i * 2 ^ 128 - atanSeries i 70 < 2 ^ (202 - i) ∧ atanSeries i 70 - Trans.angleOf i * 2 ^ 128 < 2 ^ (202 - i) := by
  decide +kernel

/-- `∏_{i<k} (4^i + 1)`, the numerator of the squared CORDIC gain `∏ (1 + 4^-i)` written as a fraction -/
def gainNum : Nat → Int
  | 0 => 1
  | i + 1 => gainNum i * (4 ^ i + 1)

/-- `∏_{i<k} 4^i`, its denominator -/
def gainDen : Nat → Int
  | 0 => 1
  | i + 1 => gainDen i * 4 ^ i

/-- the start value `x0 = cordicGain / 2^128` compensates the gain of 24 steps to within `2^-31` relative (squared), from above:
`1 ≤ x0² · ∏_{i<24}(1 + 4^-i) < 1 + 2^-31`.  (The constant is `1 / 1.6467602578923106` as the source comment says; the exact
gain is `1.6467602581210…`, hence the error of about `1.4e-10` rather than `2^-52`.) -/
theorem gain_fact :
    2 ^ 256 * gainDen 24 ≤ (Int.ofNat Generated.cordicGain) ^ 2 * gainNum 24 ∧
    ((Int.ofNat Generated.cordicGain) ^ 2 * gainNum 24 - 2 ^ 256 * gainDen 24) * 2 ^ 31 < 2 ^ 256 * gainDen 24 := by
  decide +kernel

end Sfx.TrigPf

#print axioms Sfx.TrigPf.state_inv
#print axioms Sfx.TrigPf.Inv.bounds
#print axioms Sfx.TrigPf.table_decreasing
#print axioms Sfx.TrigPf.table_decreasing_all
#print axioms Sfx.TrigPf.table_pos
#print axioms Sfx.TrigPf.table_convergence
#print axioms Sfx.TrigPf.table_halving
#print axioms Sfx.TrigPf.table_covers
#print axioms Sfx.TrigPf.table_sum_lt
#print axioms Sfx.TrigPf.table_entry0
#print axioms Sfx.TrigPf.table_entry0_counterexample
#print axioms Sfx.TrigPf.table_entries_pinned
#print axioms Sfx.TrigPf.gain_fact
