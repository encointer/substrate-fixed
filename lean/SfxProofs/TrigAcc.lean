import SfxProofs.TrigAccBridge
/-
  TrigAcc.lean — C16 for `sin` and `cos`: accuracy over Mathlib's reals, without numeric hypotheses.

  For every valid signed layout `D` with `≥ 23` fractional and `≥ 9` integer bits (`TrigPf.Ok D`) and every operand `a` with
  `|a / 2^f| ≤ 200`:
      `sin_accuracy : |sinPure D a / 2^f − sin (a / 2^f)| ≤ 2^-16  ∧  |sinPure D a / 2^f| ≤ 1 + 2^-16`
      `cos_accuracy : |sinPure D (a + H D) / 2^f − cos (a / 2^f)| ≤ 2^-16  ∧  |…| ≤ 1 + 2^-16`
  where `sinPure` is the plain-integer function of `SfxProofs/Trig.lean` that `Trans.sin` is proved equal to in `SfxProofs/TrigModel.lean`
  (`run_sin`, `run_cos`); nothing in this file mentions the model, `sin_run_accuracy` / `cos_run_accuracy`
  (`SfxProofs/TrigAccRun.lean`) restate them on `Trans.run (Trans.sin D a)`.

  Both calls are first put in the STRUCTURED form `ρ·sin (x + Δ) + v` (`sinS`, `cosS`): range reduction modulo the 23-bit constants
  only moves the angle (`sin_reduce_angle`, `cos_reduce_angle`), the CORDIC part is `TailS`.  Error budget (in ulps of `I9F23`,
  `2^-23`; allowed: `128`): `sin_accuracy_94` proves `94`; the parts add up to `93.46`:
        17.28   range reduction modulo the 23-bit `TWO_PI` constant: `|q| ≤ 32` periods, `|T₂₃ − 2π| ≤ 0.54` ulp (`two_pi_23`)
         1.27   mirror step with the 23-bit `FRAC_PI_2`: `|2·H₂₃ − π| ≤ 1.27` ulp (`half_pi_23`)
        49      angle error of the CORDIC part (`etaMax`): 24 + 24·2^-30 floored/rounded table entries (`table_arctan`: every entry is
                `atan 2^-i` to `2^-53`), 1 + 24 residual angle (`|z₂₄| ≤ e₂₃ + 24 ulp` from `table_convergence`)
        25.9    vector error of the CORDIC part: truncated shifts + start value (`tailS_B`)
         2^-9   gain constant (`gain_fact`);
  `cos` adds `0.635` for `|H₂₃ − π/2|`.  `sin_accuracy_gen` (valid up to `|a / 2^f| ≤ 202`) and `cos_accuracy_gen` state the larger
  constants `104.65` and `105.29` that the property's budget quotes.
-/
namespace Sfx.TrigAccPf
open Sfx.TrigPf Real

/-- `a2`: the mirrored angle the CORDIC part runs on; `α`: whatever angle that part really rotates by -/
theorem sin_reduce_angle {D : Layout} (hD : Ok D) (a : Int) (hb : |(a : ℝ) / sc D| ≤ 202) :
    ∃ a2 : Int, -H D ≤ a2 ∧ a2 ≤ H D ∧ sinPure D a = tailPure D a2 ∧
      ∀ α : ℝ, ∃ Δ : ℝ, sin α = sin ((a : ℝ) / sc D + Δ) ∧ |Δ| ≤ rrErr + |α - (a2 : ℝ) / sc D| := by
  obtain ⟨q, hq, l1, l2, hm, m1, m2⟩ := red_spec D a
  have x1eq : ((red1 D a : Int) : ℝ) / sc D = (a : ℝ) / sc D + q * T23 := by rw [hq, cast_add_sc, cast_mul_sc, T_sc hD.hf]
  have x1b : |((red1 D a : Int) : ℝ) / sc D| ≤ 26353589 / 8388608 := abs_sc_le l1 l2 (P_sc hD.hf)
  have x2eq : ((red2 D (red1 D a) : Int) : ℝ) / sc D = ((red1 D a : Int) : ℝ) / sc D ∨
      ((red2 D (red1 D a) : Int) : ℝ) / sc D = 2 * H23 - ((red1 D a : Int) : ℝ) / sc D ∨
      ((red2 D (red1 D a) : Int) : ℝ) / sc D = -(2 * H23) - ((red1 D a : Int) : ℝ) / sc D := by
    rcases hm with h | h | h
    · exact Or.inl (by rw [h])
    · exact Or.inr (Or.inl (by rw [h, cast_sub_sc, cast_sub_sc, H_sc hD.hf]; ring))
    · exact Or.inr (Or.inr (by rw [h, cast_sub_sc, cast_add_sc, cast_neg_sc, H_sc hD.hf]; ring))
  exact ⟨_, m1, m2, rfl, fun α => reduce_struct _ _ _ α q (q_bound _ _ q hb x1b x1eq) x1eq x2eq⟩

theorem cos_shift {D : Layout} (hD : Ok D) (a : Int) (hb : |(a : ℝ) / sc D| ≤ 200) :
    |((a + H D : Int) : ℝ) / sc D| ≤ 202 ∧ ((a + H D : Int) : ℝ) / sc D = (a : ℝ) / sc D + H23 := by
  have xe : ((a + H D : Int) : ℝ) / sc D = (a : ℝ) / sc D + H23 := by rw [cast_add_sc, H_sc hD.hf]
  have hH : |H23| ≤ 2 := by unfold H23; rw [abs_of_nonneg (by norm_num)]; norm_num
  exact ⟨by rw [xe]; exact le_trans (abs_add_le _ _) (by linarith only [hb, hH]), xe⟩

theorem sin_add_H23 (x Δ : ℝ) : Real.sin (x + H23 + Δ) = Real.cos (x + (Δ + (H23 - π / 2))) := by
  rw [← cos_sub_pi_div_two]; congr 1; ring

/-- the inner call of `cos`: `0.635` ulp more for `|H₂₃ − π/2|` -/
theorem cos_reduce_angle {D : Layout} (hD : Ok D) (a : Int) (hb : |(a : ℝ) / sc D| ≤ 200) :
    ∃ a2 : Int, -H D ≤ a2 ∧ a2 ≤ H D ∧ sinPure D (a + H D) = tailPure D a2 ∧
      ∀ α : ℝ, ∃ Δ : ℝ, sin α = cos ((a : ℝ) / sc D + Δ) ∧ |Δ| ≤ rrErr + 127 / 200 / 8388608 + |α - (a2 : ℝ) / sc D| := by
  obtain ⟨hb2, xe⟩ := cos_shift hD a hb
  obtain ⟨a2, m1, m2, hsp, hred⟩ := sin_reduce_angle hD (a + H D) hb2
  refine ⟨a2, m1, m2, hsp, fun α => ?_⟩
  obtain ⟨Δ, hΔ1, hΔ2⟩ := hred α
  refine ⟨Δ + (H23 - π / 2), by rw [hΔ1, xe, sin_add_H23], le_trans (abs_add_le _ _) ?_⟩
  linarith only [H23_sub, hΔ2]

theorem struct_of_reduce {D : Layout} {cv c : ℝ} (hT : TailS D cv) {r : Int} {F : ℝ → ℝ}
    (h : ∃ a2 : Int, -H D ≤ a2 ∧ a2 ≤ H D ∧ r = tailPure D a2 ∧
      ∀ α : ℝ, ∃ Δ : ℝ, sin α = F Δ ∧ |Δ| ≤ c + |α - (a2 : ℝ) / sc D|) :
    ∃ Δ v : ℝ, (r : ℝ) / sc D = gR * Kp 24 * F Δ + v ∧ |v| ≤ cv / sc D ∧ |Δ| ≤ c + etaMax D := by
  obtain ⟨a2, m1, m2, hsp, hred⟩ := h
  obtain ⟨α, v, e, hv, hα⟩ := hT a2 m1 m2
  obtain ⟨Δ, hΔ1, hΔ2⟩ := hred α
  exact ⟨Δ, v, by rw [hsp, e, hΔ1], hv, by linarith only [hΔ2, hα]⟩

theorem sinS {D : Layout} (hD : Ok D) {cv : ℝ} (hT : TailS D cv) (a : Int) (hb : |(a : ℝ) / sc D| ≤ 202) :
    ∃ Δ v : ℝ, ((sinPure D a : Int) : ℝ) / sc D = gR * Kp 24 * sin ((a : ℝ) / sc D + Δ) + v ∧ |v| ≤ cv / sc D ∧
      |Δ| ≤ rrErr + etaMax D :=
  struct_of_reduce hT (sin_reduce_angle hD a hb)

theorem cosS {D : Layout} (hD : Ok D) {cv : ℝ} (hT : TailS D cv) (a : Int) (hb : |(a : ℝ) / sc D| ≤ 200) :
    ∃ Δ v : ℝ, ((sinPure D (a + H D) : Int) : ℝ) / sc D = gR * Kp 24 * cos ((a : ℝ) / sc D + Δ) + v ∧ |v| ≤ cv / sc D ∧
      |Δ| ≤ rrErr + 127 / 200 / 8388608 + etaMax D :=
  struct_of_reduce hT (cos_reduce_angle hD a hb)

theorem sin_accuracy_94 {D : Layout} (hD : Ok D) (a : Int) (hb : |(a : ℝ) / sc D| ≤ 202) :
    |((sinPure D a : Int) : ℝ) / sc D - sin ((a : ℝ) / sc D)| ≤ 94 / 2 ^ 23 := by
  obtain ⟨Δ, v, e, hv, hΔ⟩ := sinS hD (tailS_B hD) a hb
  rw [e]
  refine le_trans (sin_struct_err (gR * Kp 24) _ Δ v _ _ _ gain_close hΔ hv) ?_
  have hη := etaMax_le D 23 hD.hf
  have hτ := div_sc_le D 23 hD.hf (259 / 10) (by norm_num)
  unfold rrErr
  linarith only [hη, hτ]

/-- `sin_accuracy_94` with the larger constant `104.65` that the property's budget quotes -/
theorem sin_accuracy_gen {D : Layout} (hD : Ok D) (a : Int) (hb : |(a : ℝ) / sc D| ≤ 202) :
    |((sinPure D a : Int) : ℝ) / sc D - sin ((a : ℝ) / sc D)| ≤ (10465 / 100) / 2 ^ 23 :=
  le_trans (sin_accuracy_94 hD a hb) (by norm_num)

theorem acc_pair {r s e : ℝ} (hs : |s| ≤ 1) (h : |r - s| ≤ e) : |r - s| ≤ e ∧ |r| ≤ 1 + e := by
  refine ⟨h, ?_⟩
  rw [show r = (r - s) + s by ring]
  refine le_trans (abs_add_le _ _) ?_
  linarith only [h, hs]

/-- C16 for `sin`, on the plain-integer function `sinPure` (`= Trans.sin` by `TrigPf.run_sin`) -/
theorem sin_accuracy (D : Layout) (hD : Ok D) (a : Int) (hb : |(a : ℝ) / 2 ^ D.f| ≤ 200) :
    |((sinPure D a : Int) : ℝ) / 2 ^ D.f - Real.sin ((a : ℝ) / 2 ^ D.f)| ≤ 1 / 2 ^ 16 ∧
      |((sinPure D a : Int) : ℝ) / 2 ^ D.f| ≤ 1 + 1 / 2 ^ 16 :=
  acc_pair (abs_sin_le_one _) (le_trans (sin_accuracy_gen hD a (le_trans hb (by norm_num))) (by norm_num))

/-- `105.29` ulps of `I9F23`: built on the stated `104.65` of `sin_accuracy_gen`, not on the proved `94` -/
theorem cos_accuracy_gen {D : Layout} (hD : Ok D) (a : Int) (hb : |(a : ℝ) / sc D| ≤ 200) :
    |((sinPure D (a + H D) : Int) : ℝ) / sc D - cos ((a : ℝ) / sc D)| ≤ (10529 / 100) / 2 ^ 23 := by
  obtain ⟨hb2, xe⟩ := cos_shift hD a hb
  have h := sin_accuracy_gen hD (a + H D) hb2
  have c1 : |sin (((a + H D : Int) : ℝ) / sc D) - cos ((a : ℝ) / sc D)| ≤ 127 / 200 / 8388608 := by
    have := sin_add_H23 ((a : ℝ) / sc D) 0
    rw [add_zero, zero_add] at this
    rw [xe, this]
    refine le_trans (abs_cos_sub_cos_le _ _) ?_
    rw [add_sub_cancel_left]; exact H23_sub
  refine le_trans (abs_sub_le _ (sin (((a + H D : Int) : ℝ) / sc D)) _) ?_
  linarith only [h, c1]

/-- C16 for `cos`, on the plain-integer function (`Trans.cos D a = sinPure D (a + H D)` by `TrigPf.run_cos`) -/
theorem cos_accuracy (D : Layout) (hD : Ok D) (a : Int) (hb : |(a : ℝ) / 2 ^ D.f| ≤ 200) :
    |((sinPure D (a + H D) : Int) : ℝ) / 2 ^ D.f - Real.cos ((a : ℝ) / 2 ^ D.f)| ≤ 1 / 2 ^ 16 ∧
      |((sinPure D (a + H D) : Int) : ℝ) / 2 ^ D.f| ≤ 1 + 1 / 2 ^ 16 :=
  acc_pair (abs_cos_le_one _) (le_trans (cos_accuracy_gen hD a hb) (by norm_num))

end Sfx.TrigAccPf

#print axioms Sfx.TrigAccPf.sin_accuracy_gen
#print axioms Sfx.TrigAccPf.cos_accuracy_gen
#print axioms Sfx.TrigAccPf.sin_accuracy
#print axioms Sfx.TrigAccPf.cos_accuracy
