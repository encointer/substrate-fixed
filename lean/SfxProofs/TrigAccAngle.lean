import Mathlib.Analysis.SpecialFunctions.Trigonometric.Bounds
import Mathlib.Analysis.Real.Pi.Bounds
/-
  TrigAccAngle.lean — `π` against the 23-bit constants and the table's entry 0 (`pi_grid` … `quarter_pi_tab`), range reduction over the
  reals, and the STRUCTURED form of a computed sine; no model definitions.
  A computed `sin x` is written `ρ·sin (x + Δ) + v` with `ρ ≈ 1` a gain, `Δ` an ANGLE error and `v` a VECTOR error.  Range
  reduction with the 23-bit constants `T23 ≈ 2π`, `H23 ≈ π/2` only moves the angle (`reduce_struct`: `|Δ| ≤ rrErr = 18.55 ulp₂₃` over
  `32` periods and one mirror step).  Against the true value the angle error counts once for `sin` (`sin_struct_err`) and is
  weighted by `|sin y|` for `cos` (`cos_struct_err`, from `cos_pert`), which is what the `tan` quotient needs near its poles.
-/
namespace Sfx.TrigAccPf
open Real

/-- `TWO_PI` of `I9F23` as a real -/
noncomputable def T23 : ℝ := 52707178 / 8388608
/-- `FRAC_PI_2` of `I9F23` as a real -/
noncomputable def H23 : ℝ := 13176794 / 8388608

/-- `π` on the grid of `I9F23`: `π·2^23 = 26353589.26…` -/
theorem pi_grid : 2635358926 / 100 / 8388608 < π ∧ π < 2635358927 / 100 / 8388608 := by
  constructor <;> linarith only [pi_gt_d20, pi_lt_d20]

theorem two_pi_23 : |T23 - 2 * π| ≤ 54 / 100 / 8388608 := by
  obtain ⟨h1, h2⟩ := pi_grid
  unfold T23
  rw [abs_le]; constructor <;> linarith only [h1, h2]

theorem half_pi_23 : |2 * H23 - π| ≤ 127 / 100 / 8388608 := by
  obtain ⟨h1, h2⟩ := pi_grid
  unfold H23
  rw [abs_le]; constructor <;> linarith only [h1, h2]

theorem H23_le : H23 ≤ π / 2 := by
  unfold H23
  linarith only [pi_grid.1]

theorem H23_sub : |H23 - π / 2| ≤ 127 / 200 / 8388608 := by
  have e : H23 - π / 2 = (2 * H23 - π) / 2 := by ring
  rw [e, abs_div, abs_two]
  linarith only [half_pi_23]

theorem d_bounds : 0 ≤ π / 2 - H23 ∧ π / 2 - H23 ≤ (64 / 100) / 8388608 := by
  have h1 := H23_le
  have h2 := (abs_le.1 H23_sub).1
  constructor <;> linarith only [h1, h2]

/-- entry 0 of the table is `π/4` to `2^-53` -/
theorem quarter_pi_tab : |(267257146016241676546777306890156113920 : ℝ) / 2 ^ 128 - π / 4| ≤ 1 / 2 ^ 53 := by
  rw [abs_le]
  constructor <;> linarith only [pi_gt_d20, pi_lt_d20]

theorem q_bound (x x1 : ℝ) (q : ℤ) (hx : |x| ≤ 202) (hx1 : |x1| ≤ 26353589 / 8388608) (h : x1 = x + q * T23) :
    |(q : ℝ)| ≤ 32 := by
  rcases le_or_gt |q| 32 with hq | hq
  · have : ((|q| : ℤ) : ℝ) ≤ 32 := by exact_mod_cast hq
    rwa [Int.cast_abs] at this
  · exfalso
    have h33 : ((33 : ℤ) : ℝ) ≤ ((|q| : ℤ) : ℝ) := by exact_mod_cast (by omega : (33 : ℤ) ≤ |q|)
    rw [Int.cast_abs] at h33
    have e : (q : ℝ) * T23 = x1 - x := by rw [h]; ring
    have a1 : |(q : ℝ) * T23| ≤ |x1| + |x| := by rw [e]; exact abs_sub _ _
    have hT : (0 : ℝ) ≤ T23 := by unfold T23; norm_num
    rw [abs_mul, abs_of_nonneg hT] at a1
    have := mul_le_mul_of_nonneg_right h33 hT
    unfold T23 at a1 this
    linarith only [a1, this, hx, hx1]

/-- `32` periods of `two_pi_23` and one mirror step of `half_pi_23` -/
noncomputable def rrErr : ℝ := (32 * (54 / 100) + 127 / 100) / 8388608

theorem rr_le (q : ℤ) (hq : |(q : ℝ)| ≤ 32) (s : ℝ) (hs : |s| ≤ 1) : |s * (2 * H23 - π) + q * (T23 - 2 * π)| ≤ rrErr := by
  refine le_trans (abs_add_le _ _) ?_
  rw [abs_mul, abs_mul]
  have h1 := mul_le_mul hs half_pi_23 (abs_nonneg _) zero_le_one
  have h2 := mul_le_mul hq two_pi_23 (abs_nonneg _) (by norm_num)
  unfold rrErr
  linarith only [h1, h2]

/-- `α`: whatever angle the CORDIC part really rotated by -/
theorem reduce_struct (x x1 x2 α : ℝ) (q : ℤ) (hq : |(q : ℝ)| ≤ 32) (h1 : x1 = x + q * T23)
    (h2 : x2 = x1 ∨ x2 = 2 * H23 - x1 ∨ x2 = -(2 * H23) - x1) :
    ∃ Δ : ℝ, sin α = sin (x + Δ) ∧ |Δ| ≤ rrErr + |α - x2| := by
  rcases h2 with h | h | h
  · refine ⟨α - x - q * (2 * π), ?_, ?_⟩
    · rw [show x + (α - x - q * (2 * π)) = α - q * (2 * π) by ring, sin_sub_int_mul_two_pi]
    · rw [show α - x - q * (2 * π) = (α - x2) + (0 * (2 * H23 - π) + q * (T23 - 2 * π)) by rw [h, h1]; ring]
      refine le_trans (abs_add_le _ _) ?_
      linarith only [rr_le q hq 0 (by norm_num)]
  · refine ⟨π - α - x - q * (2 * π), ?_, ?_⟩
    · rw [show x + (π - α - x - q * (2 * π)) = (π - α) - q * (2 * π) by ring, sin_sub_int_mul_two_pi, sin_pi_sub]
    · rw [show π - α - x - q * (2 * π) = -(α - x2) + (-1 * (2 * H23 - π) + q * (T23 - 2 * π)) by rw [h, h1]; ring]
      refine le_trans (abs_add_le _ _) ?_
      rw [abs_neg]
      linarith only [rr_le q hq (-1) (by norm_num)]
  · refine ⟨-π - α - x - q * (2 * π), ?_, ?_⟩
    · rw [show x + (-π - α - x - q * (2 * π)) = -(α + π) - q * (2 * π) by ring, sin_sub_int_mul_two_pi, sin_neg, sin_add_pi,
        neg_neg]
    · rw [show -π - α - x - q * (2 * π) = -(α - x2) + (1 * (2 * H23 - π) + q * (T23 - 2 * π)) by rw [h, h1]; ring]
      refine le_trans (abs_add_le _ _) ?_
      rw [abs_neg]
      linarith only [rr_le q hq 1 (by norm_num)]

theorem cos_pert (y Δ : ℝ) : |cos (y + Δ) - cos y| ≤ |Δ| * (|sin y| + |Δ| / 2) := by
  rw [cos_sub_cos, show (y + Δ + y) / 2 = y + Δ / 2 by ring, show (y + Δ - y) / 2 = Δ / 2 by ring, abs_mul, abs_mul, abs_neg,
    abs_two]
  have h1 : |sin (y + Δ / 2)| ≤ |sin y| + |Δ| / 2 := by
    have := abs_sin_sub_sin_le (y + Δ / 2) y
    rw [add_sub_cancel_left, abs_div, abs_two] at this
    have t := abs_sub_abs_le_abs_sub (sin (y + Δ / 2)) (sin y)
    linarith only [this, t]
  have h2 : |sin (Δ / 2)| ≤ |Δ| / 2 := by
    have := abs_sin_le_abs (x := Δ / 2)
    rwa [abs_div, abs_two] at this
  calc 2 * |sin (y + Δ / 2)| * |sin (Δ / 2)| ≤ 2 * (|sin y| + |Δ| / 2) * (|Δ| / 2) :=
        mul_le_mul (by linarith only [h1]) h2 (abs_nonneg _) (by positivity)
    _ = |Δ| * (|sin y| + |Δ| / 2) := by ring

theorem gain_err {e γ s : ℝ} (he : |e| ≤ γ) (hs : |s| ≤ 1) : |e * s| ≤ γ := by
  rw [abs_mul]
  exact le_trans (mul_le_of_le_one_right (abs_nonneg _) hs) he

theorem sin_struct_err (ρ y Δ v γ Θ τ : ℝ) (hρ : |ρ - 1| ≤ γ) (hΔ : |Δ| ≤ Θ) (hv : |v| ≤ τ) :
    |ρ * sin (y + Δ) + v - sin y| ≤ γ + Θ + τ := by
  rw [show ρ * sin (y + Δ) + v - sin y = (ρ - 1) * sin (y + Δ) + (sin (y + Δ) - sin y) + v by ring]
  refine le_trans (abs_add_three _ _ _) ?_
  have a1 := gain_err hρ (abs_sin_le_one (y + Δ))
  have a2 := abs_sin_sub_sin_le (y + Δ) y
  rw [add_sub_cancel_left] at a2
  linarith only [a1, a2, hΔ, hv]

theorem cos_struct_err (ρ y Δ v γ Θ τ : ℝ) (hρ : |ρ - 1| ≤ γ) (hΔ : |Δ| ≤ Θ) (hv : |v| ≤ τ) :
    |ρ * cos (y + Δ) + v - cos y| ≤ (γ + τ + Θ ^ 2 / 2) + Θ * |sin y| := by
  have hΘ0 : 0 ≤ Θ := le_trans (abs_nonneg _) hΔ
  rw [show ρ * cos (y + Δ) + v - cos y = (ρ - 1) * cos (y + Δ) + (cos (y + Δ) - cos y) + v by ring]
  refine le_trans (abs_add_three _ _ _) ?_
  have a1 := gain_err hρ (abs_cos_le_one (y + Δ))
  have a2 := cos_pert y Δ
  have n := abs_nonneg Δ
  have : |Δ| * (|sin y| + |Δ| / 2) ≤ Θ * (|sin y| + Θ / 2) :=
    mul_le_mul hΔ (by linarith only [hΔ]) (by positivity) hΘ0
  linarith only [a1, a2, this, hv]

end Sfx.TrigAccPf
