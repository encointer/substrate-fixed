import Mathlib.Analysis.SpecialFunctions.Complex.Arctan
import Mathlib.Analysis.SpecificLimits.Normed
/-
  TrigAccAtan.lean — the enclosure of an alternating series with decreasing terms (`alt_enclosure`), and with it the enclosures of
  `Real.arctan` by the partial sums of Gregory's series (Mathlib's `Real.hasSum_arctan`).  No model definitions here.
-/
namespace Sfx.TrigAccPf
open Real Finset Filter

/-- the `k`-th term of Gregory's series without its sign -/
noncomputable def gterm (x : ℝ) (k : ℕ) : ℝ := x ^ (2 * k + 1) / ((2 * k + 1 : ℕ) : ℝ)

/-- the first `n` terms of Gregory's series for `arctan x` -/
noncomputable def gsum (x : ℝ) (n : ℕ) : ℝ := ∑ k ∈ range n, (-1 : ℝ) ^ k * gterm x k

theorem gsum_zero (x : ℝ) : gsum x 0 = 0 := sum_range_zero _
theorem gsum_succ (x : ℝ) (n : ℕ) : gsum x (n + 1) = gsum x n + (-1 : ℝ) ^ n * gterm x n := sum_range_succ _ _

theorem gterm_antitone (x : ℝ) (h0 : 0 ≤ x) (h1 : x ≤ 1) : Antitone (gterm x) := by
  refine antitone_nat_of_succ_le (fun n => ?_)
  unfold gterm
  have hp : x ^ (2 * (n + 1) + 1) ≤ x ^ (2 * n + 1) := pow_le_pow_of_le_one h0 h1 (by omega)
  have hd : ((2 * n + 1 : ℕ) : ℝ) ≤ ((2 * (n + 1) + 1 : ℕ) : ℝ) := by exact_mod_cast (by omega : 2 * n + 1 ≤ 2 * (n + 1) + 1)
  have hpos : (0 : ℝ) < ((2 * n + 1 : ℕ) : ℝ) := by exact_mod_cast (by omega : 0 < 2 * n + 1)
  exact div_le_div₀ (pow_nonneg h0 _) hp hpos hd

theorem alt_enclosure {f g : ℕ → ℝ} {L : ℝ} (hf : Antitone f) (h : HasSum g L) (hg : ∀ n, g n = (-1) ^ n * f n) (k : ℕ) :
    ∑ i ∈ range (2 * k), (-1 : ℝ) ^ i * f i ≤ L ∧ L ≤ ∑ i ∈ range (2 * k + 1), (-1 : ℝ) ^ i * f i := by
  have ht : Tendsto (fun n => ∑ i ∈ range n, (-1 : ℝ) ^ i * f i) atTop (nhds L) :=
    h.tendsto_sum_nat.congr fun n => sum_congr rfl fun i _ => hg i
  exact ⟨hf.alternating_series_le_tendsto ht k, hf.tendsto_le_alternating_series ht k⟩

theorem arctan_enclosure (x : ℝ) (h0 : 0 ≤ x) (h1 : x < 1) (k : ℕ) :
    gsum x (2 * k) ≤ arctan x ∧ arctan x ≤ gsum x (2 * k + 1) :=
  alt_enclosure (gterm_antitone x h0 h1.le)
    (Real.hasSum_arctan (x := x) (by rw [Real.norm_eq_abs, abs_of_nonneg h0]; exact h1)) (fun _ => mul_div_assoc _ _ _) k

theorem arctan_enclosure_70 (x : ℝ) (h0 : 0 ≤ x) (h1 : x < 1) :
    gsum x 70 ≤ arctan x ∧ arctan x ≤ gsum x 70 + x ^ 141 / 141 := by
  obtain ⟨a, b⟩ := arctan_enclosure x h0 h1 35
  refine ⟨a, ?_⟩
  rw [show 2 * 35 + 1 = 70 + 1 by rfl, gsum_succ] at b
  rwa [show (-1 : ℝ) ^ 70 * gterm x 70 = x ^ 141 / 141 by unfold gterm; norm_num] at b

end Sfx.TrigAccPf
