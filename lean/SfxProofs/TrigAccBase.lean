import SfxProofs.Trig
/-
  TrigAccBase.lean — integer facts behind the accuracy proofs that `SfxProofs/Trig.lean` does not state: the start value `x0` and the
  gain literal `Gc`, the convergence budget `tauI` of the table, Gregory's series one term at a time, the gain as a fraction.
  `p2 k`, `p4 k` name `2 ^ k`, `4 ^ k` in the statements that are written with them; they unfold by `rfl`.  `Monoid.toNPow` is erased here
  so that `2 ^ k` is core's `Int.pow`, as in `Trig.lean`; the real-analysis files use these statements through `exact_mod_cast`.
-/
attribute [-instance] Monoid.toNPow

namespace Sfx.TrigAccPf
open Sfx.Trans Sfx.TrigPf

/-- `2 ^ k` under a name, for the statements below that are written with it -/
def p2 (k : Nat) : Int := 2 ^ k
/-- `4 ^ k` under a name -/
def p4 (k : Nat) : Int := 4 ^ k

/-- the gain literal `1 / 1.6467602578923106` of the source as a `U0F128` bit pattern -/
def Gc : Int := Int.ofNat Generated.cordicGain

theorem Gc_nonneg : 0 ≤ Gc := Int.natCast_nonneg _

theorem p2_128 {D : Layout} (hD : Ok D) : p2 128 = p2 D.f * p2 (128 - D.f) :=
  hD.split128

/-- anything below `202` in magnitude is representable (the shifted operand `a + H` of `cos` on `|a| ≤ 200` is below it; the proofs use
`TrigPf.shift_inRange` for that) -/
theorem inRange_202 {D : Layout} (hD : Ok D) (a : Int) (h1 : -(202 * p2 D.f) ≤ a) (h2 : a ≤ 202 * p2 D.f) : inRange D a := by
  have hU : p2 D.f = 8388608 * W D := U_eq hD.hf
  have hW := W_pos D
  exact inR hD (by omega) (by omega)

theorem inRange_255 {D : Layout} (hD : Ok D) (a : Int) (h1 : -(255 * 2 ^ D.f) ≤ a) (h2 : a ≤ 255 * 2 ^ D.f) : inRange D a := by
  have hU := U_eq hD.hf
  have hW := W_pos D
  exact inR hD (by omega) (by omega)

/-- the start value of `x` -/
def x0 (D : Layout) : Int := Gc / 2 ^ (128 - D.f)

theorem tailPure_state (D : Layout) (a2 : Int) : tailPure D a2 = (statePure D.f 24 0 (x0 D) 0 a2).2.1 := by
  unfold tailPure x0 Gc
  rw [cordicPure_eq_state]

/-- the convergence budget on the `U0F128` scale: `Σ_{j ≥ i} A_j + A_23` -/
def tauI (i : Nat) : Int := angSum i (24 - i) + angleOf 23

theorem tauI_step (i : Nat) (hi : i < 24) : tauI i = angleOf i + tauI (i + 1) := by
  unfold tauI
  have h1 : 24 - i = (23 - i) + 1 := by omega
  have h2 : 24 - (i + 1) = 23 - i := by omega
  rw [h1, angSum_peel, h2]; omega

theorem tauI_conv (i : Nat) (hi : i < 24) : angleOf i ≤ tauI (i + 1) := by
  unfold tauI
  by_cases h : i < 23
  · have := table_convergence i h
    rw [show 24 - (i + 1) = 23 - i by omega]; exact this
  · have : i = 23 := by omega
    subst this
    show angleOf 23 ≤ 0 + angleOf 23
    omega

theorem tauI_24 : tauI 24 = angleOf 23 := by
  show 0 + angleOf 23 = angleOf 23
  omega

theorem tauI_0 : Trans.FRAC_PI_2 * 2 ^ 105 ≤ tauI 0 := by
  have := table_covers
  have h := angle_nonneg 23
  unfold tauI
  show _ ≤ angSum 0 24 + angleOf 23
  omega

theorem angle_lt_p2 (i : Nat) (hi : i < 24) : angleOf i < p2 (128 - i) := angle_lt i hi

theorem angle0_val : angleOf 0 = 267257146016241676546777306890156113920 := by decide +kernel

theorem atanSeries_succ (i k : Nat) :
    atanSeries i (k + 1) = atanSeries i k + (if k % 2 = 0 then 1 else -1) * (p2 (256 - i * (2 * k + 1)) / (2 * k + 1)) := rfl

theorem atanSeries_step (i k : Nat) :
    ∃ q : Int, q * (2 * (k : Int) + 1) ≤ 2 ^ (256 - i * (2 * k + 1)) ∧
      2 ^ (256 - i * (2 * k + 1)) < q * (2 * (k : Int) + 1) + (2 * (k : Int) + 1) ∧
      atanSeries i (k + 1) = atanSeries i k + (if k % 2 = 0 then 1 else -1) * q := by
  have hd : (0 : Int) < 2 * (k : Int) + 1 := by omega
  obtain ⟨h1, h2⟩ := floor_bracket (2 ^ (256 - i * (2 * k + 1))) hd
  exact ⟨_, h1, h2, rfl⟩

theorem gainNum_zero : gainNum 0 = 1 := rfl
theorem gainDen_zero : gainDen 0 = 1 := rfl
theorem gainNum_succ (i : Nat) : gainNum (i + 1) = gainNum i * (p4 i + 1) := rfl
theorem gainDen_succ (i : Nat) : gainDen (i + 1) = gainDen i * p4 i := rfl

/-- `K² = ∏ (1 + 4^-i) ≤ 2.71195 = 1.6468²` -/
theorem gain_sq_le : gainNum 24 * 100000 ≤ 271195 * gainDen 24 := by decide +kernel
theorem gainDen_pos : 0 < gainDen 24 := by decide +kernel

theorem Gc_val : Gc = 206637466073213388609029924831434375168 := by decide +kernel

end Sfx.TrigAccPf
