import SfxProofs.TrigAccTable
import SfxProofs.TrigAccReal
import SfxProofs.TrigAccAngle
import SfxProofs.GridReal
/-
  TrigAccBridge.lean — the plain-integer CORDIC iteration of `SfxProofs/Trig.lean` (`stepPure`, `statePure`, `tailPure`) on the unit
  scale: every step is a `Step` of `TrigAccReal.lean` (`stepPure_Step`), so the iteration is a run `Steps` (`statePure_Steps`) and
  `cordic_real` applies.  Consequence, the STRUCTURED accuracy of the CORDIC part (`tailS_B : TailS D 25.9`): for every mirrored
  angle `|a2| ≤ H` the result is `ρ·sin α + v` with `ρ = gain·K`, `|ρ - 1| ≤ 2^-32` (`gain_close`), a VECTOR error
  `|v| ≤ (24.25 + Kp 24)·2^-f` (truncated shifts, start value) and an ANGLE error `|α − a2/2^f| ≤ etaMax D` (table flooring, residual
  angle).
-/
namespace Sfx.TrigAccPf
open Sfx.Trans Sfx.TrigPf Real

/-- the scale of `D`: a grid integer `a` stands for the real `a / sc D` -/
noncomputable def sc (D : Layout) : ℝ := (2 : ℝ) ^ D.f

theorem sc_pos (D : Layout) : 0 < sc D := by unfold sc; positivity

theorem inv_sc_le (D : Layout) (F : ℕ) (hF : F ≤ D.f) : 1 / sc D ≤ 1 / 2 ^ F :=
  one_div_le_one_div_of_le (by positivity) (pow_le_pow_right₀ (by norm_num) hF)

theorem div_sc_le (D : Layout) (F : ℕ) (hF : F ≤ D.f) (c : ℝ) (hc : 0 ≤ c) : c / sc D ≤ c / 2 ^ F := by
  rw [div_eq_mul_one_div c, div_eq_mul_one_div c ((2 : ℝ) ^ F)]
  exact mul_le_mul_of_nonneg_left (inv_sc_le D F hF) hc

theorem sc_split {D : Layout} (h : D.f ≤ 128) : (2 : ℝ) ^ 128 = sc D * 2 ^ (128 - D.f) := by
  unfold sc
  rw [pow_mul_pow_sub (2 : ℝ) h]

theorem div_split {D : Layout} (h : D.f ≤ 128) (A : ℝ) : A / 2 ^ (128 - D.f) / sc D = A / 2 ^ 128 := by
  rw [div_div, mul_comm, ← sc_split h]

theorem sc_f23 {D : Layout} (hf : D.f = 23) : sc D = 8388608 := by
  unfold sc; rw [hf]; norm_num

theorem cast_add_sc (D : Layout) (a b : Int) : ((a + b : Int) : ℝ) / sc D = (a : ℝ) / sc D + (b : ℝ) / sc D := by
  push_cast; exact add_div _ _ _
theorem cast_sub_sc (D : Layout) (a b : Int) : ((a - b : Int) : ℝ) / sc D = (a : ℝ) / sc D - (b : ℝ) / sc D := by
  push_cast; exact sub_div _ _ _
theorem cast_neg_sc (D : Layout) (a : Int) : ((-a : Int) : ℝ) / sc D = -((a : ℝ) / sc D) := by
  push_cast; exact neg_div _ _
theorem cast_mul_sc (D : Layout) (q a : Int) : ((q * a : Int) : ℝ) / sc D = (q : ℝ) * ((a : ℝ) / sc D) := by
  push_cast; exact mul_div_assoc _ _ _

theorem two_mul_sc (D : Layout) (a : Int) (hb : |(a : ℝ) / sc D| ≤ 100) :
    ((2 * a : Int) : ℝ) / sc D = 2 * ((a : ℝ) / sc D) ∧ |((2 * a : Int) : ℝ) / sc D| ≤ 200 := by
  have e2 : ((2 * a : Int) : ℝ) / sc D = 2 * ((a : ℝ) / sc D) := by push_cast; ring
  refine ⟨e2, ?_⟩
  rw [e2, abs_mul, abs_two]; linarith only [hb]

theorem sc_cast (D : Layout) : sc D = (((2 : Int) ^ D.f : Int) : ℝ) := by unfold sc; push_cast; rfl

theorem two_pow_sc (D : Layout) : (((2 : Int) ^ D.f : Int) : ℝ) / sc D = 1 := by
  rw [← sc_cast]; exact div_self (sc_pos D).ne'

theorem const_sc {D : Layout} (hf : 23 ≤ D.f) (c : Int) : ((c * W D : Int) : ℝ) / sc D = (c : ℝ) / 8388608 := by
  exact (GridReal.cast_widen 23 D.f hf c).trans (by norm_num)

theorem H_sc {D : Layout} (hf : 23 ≤ D.f) : ((H D : Int) : ℝ) / sc D = H23 := by
  rw [H_eq, const_sc hf]; unfold H23; norm_num

theorem T_sc {D : Layout} (hf : 23 ≤ D.f) : ((T D : Int) : ℝ) / sc D = T23 := by
  rw [T_eq, const_sc hf]; unfold T23; norm_num

theorem P_sc {D : Layout} (hf : 23 ≤ D.f) : ((P D : Int) : ℝ) / sc D = 26353589 / 8388608 := by
  rw [P_eq, const_sc hf]; norm_num

theorem abs_sc_le {D : Layout} {a lo : Int} {c : ℝ} (h1 : -lo ≤ a) (h2 : a ≤ lo) (hc : (lo : ℝ) / sc D = c) :
    |(a : ℝ) / sc D| ≤ c := by
  have hs := sc_pos D
  have b1 : -(lo : ℝ) ≤ (a : ℝ) := by exact_mod_cast h1
  have b2 : (a : ℝ) ≤ (lo : ℝ) := by exact_mod_cast h2
  rw [← hc, abs_le, ← neg_div]
  exact ⟨div_le_div_of_nonneg_right b1 hs.le, div_le_div_of_nonneg_right b2 hs.le⟩

theorem int_bounds (D : Layout) (a : Int) (c : ℤ) (hb : |(a : ℝ) / sc D| ≤ (c : ℝ)) :
    -(c * 2 ^ D.f) ≤ a ∧ a ≤ c * 2 ^ D.f := by
  have hs := sc_pos D
  rw [abs_le] at hb
  obtain ⟨b1, b2⟩ := hb
  rw [le_div_iff₀ hs] at b1
  rw [div_le_iff₀ hs] at b2
  rw [sc_cast] at b1 b2
  constructor
  · have : ((-(c * 2 ^ D.f) : ℤ) : ℝ) ≤ (a : ℝ) := by push_cast at b1 ⊢; linarith
    exact_mod_cast this
  · have : (a : ℝ) ≤ ((c * 2 ^ D.f : ℤ) : ℝ) := by push_cast at b2 ⊢; linarith
    exact_mod_cast this

theorem floor_div_cast (s : ℝ) (hs : 0 < s) (k : ℕ) (X : Int) :
    (X : ℝ) / 2 ^ k / s - 1 / s ≤ ((X / 2 ^ k : Int) : ℝ) / s ∧ ((X / 2 ^ k : Int) : ℝ) / s ≤ (X : ℝ) / 2 ^ k / s := by
  have h := GridReal.floor_val hs X (2 ^ k) (by positivity)
  push_cast at h
  exact ⟨h.1.le, h.2⟩

/-- the start gain on the unit scale -/
noncomputable def gR : ℝ := ((Gc : Int) : ℝ) / 2 ^ 128
/-- the convergence budget on the unit scale -/
noncomputable def tauR (i : ℕ) : ℝ := ((tauI i : Int) : ℝ) / 2 ^ 128

theorem tauR_step (i : ℕ) (hi : i < 24) : tauR i = ((angleOf i : Int) : ℝ) / 2 ^ 128 + tauR (i + 1) := by
  unfold tauR; rw [tauI_step i hi]; push_cast; ring

theorem tauR_conv (i : ℕ) (hi : i < 24) : ((angleOf i : Int) : ℝ) / 2 ^ 128 ≤ tauR (i + 1) := by
  unfold tauR
  apply div_le_div_of_nonneg_right _ (by positivity)
  exact_mod_cast tauI_conv i hi

theorem tau24_le : tauR 24 ≤ 1 / 2 ^ 23 := by
  unfold tauR
  rw [tauI_24]
  have : ((angleOf 23 : Int) : ℝ) < 2 ^ 105 := by exact_mod_cast angle_lt 23 (by decide)
  rw [div_le_div_iff₀ (by positivity) (by positivity)]
  linarith only [this]

theorem Kp24_sq : Kp 24 ^ 2 * ((gainDen 24 : Int) : ℝ) = ((gainNum 24 : Int) : ℝ) := by
  refine Kp_sq_frac (fun i => ((gainNum i : Int) : ℝ)) (fun i => ((gainDen i : Int) : ℝ)) ?_ ?_ ?_ ?_ 24
  · simp [gainNum_zero]
  · simp [gainDen_zero]
  · intro i; show ((gainNum i * (4 ^ i + 1) : Int) : ℝ) = _; push_cast; rfl
  · intro i; show ((gainDen i * 4 ^ i : Int) : ℝ) = _; push_cast; rfl

theorem gainDen_posR : (0 : ℝ) < ((gainDen 24 : Int) : ℝ) := by exact_mod_cast gainDen_pos

theorem Kp24_le : Kp 24 ≤ 16468 / 10000 := by
  have h2 : ((gainNum 24 : Int) : ℝ) * 100000 ≤ 271195 * ((gainDen 24 : Int) : ℝ) := by exact_mod_cast gain_sq_le
  rw [← Kp24_sq] at h2
  have h3 : Kp 24 ^ 2 * 100000 ≤ 271195 := by
    refine le_of_mul_le_mul_right ?_ gainDen_posR
    linarith only [h2]
  refine (pow_le_pow_iff_left₀ (Kp_pos 24).le (by norm_num) two_ne_zero).1 ?_
  norm_num
  linarith only [h3]

theorem abs_sub_one_le {v ε : ℝ} (hv : 0 ≤ v) (h1 : 1 ≤ v ^ 2) (h2 : v ^ 2 ≤ 1 + 2 * ε) : |v - 1| ≤ ε := by
  rw [abs_of_nonneg (sub_nonneg.2 ((one_le_sq_iff₀ hv).1 h1))]
  linarith only [h2, sq_nonneg (v - 1)]

theorem gain_close : |gR * Kp 24 - 1| ≤ 1 / 2 ^ 32 := by
  obtain ⟨g1, g2⟩ := gain_fact
  have c1 : (2 : ℝ) ^ 256 * ((gainDen 24 : Int) : ℝ) ≤ ((Gc : Int) : ℝ) ^ 2 * ((gainNum 24 : Int) : ℝ) := by
    exact_mod_cast g1
  have c2 : (((Gc : Int) : ℝ) ^ 2 * ((gainNum 24 : Int) : ℝ) - (2 : ℝ) ^ 256 * ((gainDen 24 : Int) : ℝ)) * 2 ^ 31 <
      (2 : ℝ) ^ 256 * ((gainDen 24 : Int) : ℝ) := by
    exact_mod_cast g2
  have hg : 0 ≤ gR := by unfold gR; apply div_nonneg _ (by positivity); exact_mod_cast Gc_nonneg
  have hsq : (gR * Kp 24) ^ 2 * ((2 : ℝ) ^ 256 * ((gainDen 24 : Int) : ℝ)) =
      ((Gc : Int) : ℝ) ^ 2 * ((gainNum 24 : Int) : ℝ) := by
    have hg2 : gR ^ 2 * 2 ^ 256 = ((Gc : Int) : ℝ) ^ 2 := by
      unfold gR
      rw [div_pow, ← pow_mul, div_mul_cancel₀ _ (by positivity)]
    rw [← Kp24_sq, ← hg2]; ring
  have hDD0 : 0 < (2 : ℝ) ^ 256 * ((gainDen 24 : Int) : ℝ) := mul_pos (by positivity) gainDen_posR
  rw [← hsq] at c1 c2
  generalize (2 : ℝ) ^ 256 * ((gainDen 24 : Int) : ℝ) = DD at *
  refine abs_sub_one_le (mul_nonneg hg (Kp_pos 24).le) (le_of_mul_le_mul_right (by rwa [one_mul]) hDD0) ?_
  have : ((gR * Kp 24) ^ 2 - 1) * 2 ^ 31 * DD < 1 * DD := by linarith only [c2]
  have := lt_of_mul_lt_mul_right this hDD0.le
  norm_num at this ⊢
  linarith only [this]

theorem stepPure_Step {D : Layout} (hD : Ok D) (i : ℕ) (X Y Z : Int) :
    Step (1 / sc D) (((angleOf i : Int) : ℝ) / 2 ^ 128) i ((X : ℝ) / sc D) ((Y : ℝ) / sc D) ((Z : ℝ) / sc D)
      (((stepPure D.f i X Y Z).1 : ℝ) / sc D) (((stepPure D.f i X Y Z).2.1 : ℝ) / sc D)
      (((stepPure D.f i X Y Z).2.2 : ℝ) / sc D) := by
  rw [stepPure_eq]
  have hs := sc_pos D
  obtain ⟨dx1, dx0⟩ := floor_div_cast (sc D) hs i X
  obtain ⟨dy1, dy0⟩ := floor_div_cast (sc D) hs i Y
  obtain ⟨ee1, ee2⟩ := floor_div_cast (sc D) hs (128 - D.f) (angleOf i)
  rw [div_split hD.f128] at ee1 ee2
  have hσR : ((sgnZ Z : ℝ) = 1 ∧ 0 ≤ (Z : ℝ) / sc D) ∨ ((sgnZ Z : ℝ) = -1 ∧ (Z : ℝ) / sc D < 0) := by
    rcases sgnZ_cases Z with ⟨h1, h2⟩ | ⟨h1, h2⟩
    · left; refine ⟨by rw [h1]; norm_num, div_nonneg (by exact_mod_cast h2) hs.le⟩
    · right; refine ⟨by rw [h1]; norm_num, div_neg_of_neg_of_pos (by exact_mod_cast h2) hs⟩
  refine ⟨(sgnZ Z : ℝ), (X : ℝ) / 2 ^ i / sc D - ((X / 2 ^ i : Int) : ℝ) / sc D,
    (Y : ℝ) / 2 ^ i / sc D - ((Y / 2 ^ i : Int) : ℝ) / sc D, ((angleOf i / 2 ^ (128 - D.f) : Int) : ℝ) / sc D,
    hσR, sub_nonneg.2 dx0, sub_le_comm.1 dx1, sub_nonneg.2 dy0, sub_le_comm.1 dy1, ?_, ?_, ?_, ?_, ee1, ee2⟩
  · rintro rfl
    simp
  · push_cast; ring
  · push_cast; ring
  · push_cast; ring

theorem statePure_Steps {D : Layout} (hD : Ok D) : ∀ (k i : ℕ) (X Y Z : Int), i + k = 24 →
    Steps 24 (1 / sc D) (fun i => ((angleOf i : Int) : ℝ) / 2 ^ 128) i ((X : ℝ) / sc D) ((Y : ℝ) / sc D) ((Z : ℝ) / sc D)
      (((statePure D.f k i X Y Z).1 : ℝ) / sc D) (((statePure D.f k i X Y Z).2.1 : ℝ) / sc D)
      (((statePure D.f k i X Y Z).2.2 : ℝ) / sc D)
  | 0, i, X, Y, Z, h => by
    obtain rfl : i = 24 := by omega
    exact Steps.done _ _ _
  | k + 1, i, X, Y, Z, h =>
    Steps.cons (by omega) (stepPure_Step hD i X Y Z) (statePure_Steps hD k (i + 1) _ _ _ (by omega))

theorem x0_sc {D : Layout} (hD : Ok D) : gR - 1 / sc D ≤ ((x0 D : Int) : ℝ) / sc D ∧ ((x0 D : Int) : ℝ) / sc D ≤ gR := by
  have := floor_div_cast (sc D) (sc_pos D) (128 - D.f) Gc
  rwa [div_split hD.f128] at this

theorem start_angle {D : Layout} (hD : Ok D) (a2 : Int) (h1 : -H D ≤ a2) (h2 : a2 ≤ H D) : |(a2 : ℝ) / sc D| ≤ tauR 0 := by
  refine le_trans (abs_sc_le h1 h2 (H_sc hD.hf)) ?_
  have t0 : (13176794 : ℝ) * 2 ^ 105 ≤ ((tauI 0 : Int) : ℝ) := by
    have : (13176794 : Int) * 2 ^ 105 ≤ tauI 0 := tauI_0
    exact_mod_cast this
  unfold tauR H23
  rw [div_le_div_iff₀ (by norm_num) (by positivity)]
  linarith only [t0]

/-- the angle error of the CORDIC part: `|α − z₀| ≤ etaMax` -/
noncomputable def etaMax (D : Layout) : ℝ := 24 * (1 / sc D + 1 / 2 ^ 53) + (tauR 24 + 24 * (1 / sc D))

theorem etaMax_le (D : Layout) (F : ℕ) (hF : F ≤ D.f) :
    etaMax D ≤ 48 / 2 ^ F + 24 / 2 ^ 53 + 1 / 2 ^ 23 := by
  have hu := inv_sc_le D F hF
  have ht := tau24_le
  unfold etaMax
  rw [show (48 : ℝ) / 2 ^ F = 48 * (1 / 2 ^ F) by ring]
  linarith only [hu, ht]

/-- structured accuracy of the CORDIC part with vector-error coefficient `cv` -/
def TailS (D : Layout) (cv : ℝ) : Prop :=
  ∀ a2 : Int, -H D ≤ a2 → a2 ≤ H D → ∃ α v : ℝ,
    ((tailPure D a2 : Int) : ℝ) / sc D = gR * Kp 24 * sin α + v ∧ |v| ≤ cv / sc D ∧ |α - (a2 : ℝ) / sc D| ≤ etaMax D

theorem TailS.mono {D : Layout} {c c' : ℝ} (h : TailS D c) (hc : c ≤ c') : TailS D c' := by
  intro a2 h1 h2
  obtain ⟨α, v, e, hv, hα⟩ := h a2 h1 h2
  exact ⟨α, v, e, le_trans hv (div_le_div_of_nonneg_right hc (sc_pos D).le), hα⟩

/-- the vector error of the `y` output is at most `24.25 + Kp 24 ≤ 25.9` ulps (`B`: by the backward invariant `BI`) -/
theorem tailS_B {D : Layout} (hD : Ok D) : TailS D (259 / 10) := by
  intro a2 h1 h2
  have hu : (0 : ℝ) ≤ 1 / sc D := (one_div_pos.2 (sc_pos D)).le
  obtain ⟨β, v, e, hv, hβ⟩ := cordic_real hu table_arctan tauR_step tauR_conv Kp24_le (x0_sc hD).1 (x0_sc hD).2
    (by simpa using statePure_Steps hD 24 0 (x0 D) 0 a2 rfl) (start_angle hD a2 h1 h2)
  rw [tailPure_state]
  -- the number of steps goes in here: `N + 1/4 + G₀ = 24.25 + 1.6468`
  refine ⟨β, v, e, hv.trans ?_, by simpa [etaMax] using hβ⟩
  rw [div_eq_mul_one_div (259 / 10 : ℝ)]
  exact mul_le_mul_of_nonneg_right (by norm_num) hu

end Sfx.TrigAccPf

#print axioms Sfx.TrigAccPf.tailS_B
