import SfxProofs.TrigAccTan3
import SfxProofs.TrigAccRun
import SfxProps.C16
/-
  TrigAccC16.lean — where the tan clause for every supported layout (`tan_accuracy`, which needs the window of `TrigAccTan3.lean`) meets the
  model (`TanAccP.run` of `TrigAccRun.lean`, which deliberately does not import the window): `tan_accuracy_run`, from which
  `C16.holds` (SfxProps/C16Acc.lean) takes its tan clause.  Beside it, in the vocabulary of C16's statement (`C12.Supp`, `C16.val`), two weaker
  readings (`C16_tan_8`: `|tan x| ≤ 8`; `C12_tan_total`: totality for `|tan x| ≤ 64`) and the threshold `tanT` (the numbers of
  `tan_accuracy_B24` / `tan_accuracy_B23`).
-/
namespace Sfx.TrigAccPf
open Sfx.C16 Sfx.C12

/-- the tan clause of C16 for every supported layout, on the model -/
theorem tan_accuracy_run {D : Layout} (hD : TrigPf.Ok D) (a : Int) (hb : |(a : ℝ) / sc D| ≤ 100)
    (ht : |Real.tan ((a : ℝ) / sc D)| ≤ 64) : TanAcc D a := (tan_accuracy hD a hb ht).run hD hb ht

/-- the tan clause of `C16.C16_statement` with `|tan x| ≤ 8` in place of `|tan x| ≤ 64` -/
theorem C16_tan_8 (D : Layout) (hS : Supp D) (a : Int) (hb : |val D.f a| ≤ 100) (ht : |Real.tan (val D.f a)| ≤ 8) :
    ∀ r it dbg, Trans.run (Trans.tan D a) = .ok (some r, it) dbg →
      |val D.f r - Real.tan (val D.f a)| ≤ (1 + Real.tan (val D.f a) ^ 2) / (2 : ℝ) ^ 14 :=
  (tan_accuracy_run hS.ok a hb (le_trans ht (by norm_num))).run

/-- `tan` is `Total` (C12) wherever the true tangent is at most 64 in magnitude -/
theorem C12_tan_total (D : Layout) (hS : Supp D) (a : Int) (hb : |val D.f a| ≤ 100) (ht : |Real.tan (val D.f a)| ≤ 64) :
    ∃ r it, Trans.run (Trans.tan D a) = .ok (some r, it) false ∧ it ≤ 50 := by
  obtain ⟨r, it, h1, h2, _⟩ := tan_total_64 hS.ok a hb ht
  exact ⟨r, it, h1, h2⟩

/-- the thresholds of `tan_accuracy_B24` / `tan_accuracy_B23`: what real analysis alone reaches on the plain-integer quotient (64 from 24
fractional bits on, 30 for 23).  No theorem here is stated with it; the statements of `SfxProps/C16Acc.lean` that carry it (`tan_holds`,
`C16_statement_partial`) are proved from the full clause, so they rest on the enumeration like `holds`.  The statements on the model that
do not are `tan_accuracy_A23/A24/A25` (`TrigAccRun.lean`, thresholds 21 / 46 / 64 at `f ≥ 23 / 24 / 25`) -/
def tanT (f : Nat) : ℝ := if 24 ≤ f then 64 else 30

end Sfx.TrigAccPf

#print axioms Sfx.TrigAccPf.C16_tan_8
#print axioms Sfx.TrigAccPf.C12_tan_total
