import Mathlib.Analysis.SpecialFunctions.Trigonometric.Arctan
import Mathlib.Analysis.SpecialFunctions.Trigonometric.Bounds
/-
  TrigAccReal.lean — the real-analysis core of the CORDIC accuracy proof; no model definitions here.
  A rotation-mode CORDIC step with truncated shifts and a perturbed angle table (`Step`) is
      x' = x − σ(t·y − δy),  y' = y + σ(t·x − δx),  z' = z − σ·e,       t = 2^-i, σ = sign z, 0 ≤ δ ≤ u, a − u ≤ e ≤ a ≈ atan t.
  The invariant `BI` is a BACKWARD one: from the state `(x, y, z)` before step `i`, the FINAL `y'` is `c_i·(x sin β + y cos β)` up to
  `EYb N i` ulps (`N` the number of steps, a variable here; the model has 24), where `c_i = Kp N / Kp i` is the remaining gain (`Kp i = ∏_{j<i} √(1+4^-j)` the true gain) and `β` (`|β| ≤ 2/2^i`)
  the remaining true rotation.  Only the `y` component of each truncation error vector, rotated by the REMAINING (small) angle,
  enters: a step costs `c_{i+1}(|sin β'| + |cos β'|) ≤ (1 + 4^-i/5)(1 + 2^-i)` ulps instead of `√2·c_{i+1}`, in total
  `EYb N 0 = N + 1/4`.  Its last component is the convergence of the residual angle: `|z| ≤ tau i + c` gives `|z'| ≤ tau N + c + (N−i)u`.
  `cordic_real` is the statement the other files use.
-/
namespace Sfx.TrigAccPf
open Real

/-- the true CORDIC gain after `i` steps -/
noncomputable def Kp : ℕ → ℝ
  | 0 => 1
  | i + 1 => Kp i * √(1 + (((2 : ℝ) ^ i)⁻¹) ^ 2)

theorem Kp_succ (i : ℕ) : Kp (i + 1) = Kp i * √(1 + (((2 : ℝ) ^ i)⁻¹) ^ 2) := rfl

theorem Kp_pos : ∀ i, 0 < Kp i
  | 0 => one_pos
  | i + 1 => mul_pos (Kp_pos i) (Real.sqrt_pos.2 (by positivity))

theorem Kp_sq_succ (i : ℕ) : Kp (i + 1) ^ 2 = Kp i ^ 2 * (1 + (((2 : ℝ) ^ i)⁻¹) ^ 2) := by
  rw [Kp_succ, mul_pow, Real.sq_sqrt (by positivity)]

theorem Kp_sq_frac (N D : ℕ → ℝ) (hN0 : N 0 = 1) (hD0 : D 0 = 1) (hN : ∀ i, N (i + 1) = N i * ((4 : ℝ) ^ i + 1))
    (hD : ∀ i, D (i + 1) = D i * (4 : ℝ) ^ i) : ∀ i, Kp i ^ 2 * D i = N i
  | 0 => by simp [Kp, hN0, hD0]
  | i + 1 => by
    have ih := Kp_sq_frac N D hN0 hD0 hN hD i
    rw [Kp_sq_succ, hN, hD, ← ih]
    have h4 : ((4 : ℝ) ^ i) = ((2 : ℝ) ^ i) ^ 2 := by rw [← pow_mul, mul_comm, pow_mul]; norm_num
    have h2 : ((2 : ℝ) ^ i) ≠ 0 := by positivity
    rw [h4]; field_simp

theorem sqrt_one_add_le (p : ℝ) (hp : 0 ≤ p) : √(1 + p) ≤ 1 + p / 2 := by
  rw [Real.sqrt_le_iff]
  constructor
  · positivity
  · nlinarith [sq_nonneg p]

/-- by `√(1+p) ≤ 1 + p/2` and `(1 + p/2)(1 + p/5) ≤ 1 + 4p/5` for `p = 4^-i ≤ 1` -/
theorem Kp_rest : ∀ k i : ℕ, Kp (i + k) ≤ Kp i * (1 + 4 / 5 / (4 : ℝ) ^ i)
  | 0, i => le_mul_of_one_le_right (Kp_pos i).le (le_add_of_nonneg_right (by positivity))
  | k + 1, i => by
    have ih := Kp_rest k (i + 1)
    rw [show i + 1 + k = i + (k + 1) by omega, Kp_succ, mul_assoc] at ih
    refine le_trans ih (mul_le_mul_of_nonneg_left ?_ (Kp_pos i).le)
    have h4 : (((2 : ℝ) ^ i)⁻¹) ^ 2 = 1 / (4 : ℝ) ^ i := by
      rw [inv_pow, ← pow_mul, mul_comm, pow_mul, one_div]; norm_num
    have e : 4 / 5 / (4 : ℝ) ^ (i + 1) = 1 / (4 : ℝ) ^ i / 5 := by rw [pow_succ]; field_simp
    have e' : 4 / 5 / (4 : ℝ) ^ i = 4 / 5 * (1 / (4 : ℝ) ^ i) := by ring
    rw [h4, e, e']
    have hp0 : 0 < 1 / (4 : ℝ) ^ i := by positivity
    have hp1 : 1 / (4 : ℝ) ^ i ≤ 1 := by
      rw [div_le_one (by positivity)]; exact one_le_pow₀ (by norm_num)
    generalize 1 / (4 : ℝ) ^ i = p at *
    have hs := sqrt_one_add_le p hp0.le
    calc √(1 + p) * (1 + p / 5) ≤ (1 + p / 2) * (1 + p / 5) := mul_le_mul_of_nonneg_right hs (by positivity)
      _ ≤ 1 + 4 / 5 * p := by linarith only [mul_le_mul_of_nonneg_left hp1 hp0.le]

theorem Kp_ratio {N i : ℕ} (hi : i < N) : Kp N / Kp (i + 1) ≤ 1 + 1 / (4 : ℝ) ^ i / 5 := by
  rw [div_le_iff₀ (Kp_pos (i + 1)), mul_comm]
  have h := Kp_rest (N - 1 - i) (i + 1)
  rw [show i + 1 + (N - 1 - i) = N by omega] at h
  refine le_trans h (le_of_eq ?_)
  rw [pow_succ]; field_simp

/-- one CORDIC step from `(x, y, z)` to `(x', y', z')`: shifts truncated by `δx`, `δy ∈ [0, u]` (none at step `0`), the table entry
`e` floored from the angle `a` on the grid of `u` -/
def Step (u a : ℝ) (i : ℕ) (x y z x' y' z' : ℝ) : Prop :=
  ∃ σ δx δy e : ℝ, ((σ = 1 ∧ 0 ≤ z) ∨ (σ = -1 ∧ z < 0)) ∧ 0 ≤ δx ∧ δx ≤ u ∧ 0 ≤ δy ∧ δy ≤ u ∧ (i = 0 → δx = 0 ∧ δy = 0) ∧
    x' = x - σ * (((2 : ℝ) ^ i)⁻¹ * y - δy) ∧ y' = y + σ * (((2 : ℝ) ^ i)⁻¹ * x - δx) ∧ z' = z - σ * e ∧ a - u ≤ e ∧ e ≤ a

theorem arctan_le_self {t : ℝ} (h : 0 ≤ t) : arctan t ≤ t := by
  have := Real.le_tan (Real.arctan_nonneg.2 h) (Real.arctan_lt_pi_div_two t)
  rwa [Real.tan_arctan] at this

theorem abs_sign {σ : ℝ} (hσ : σ = 1 ∨ σ = -1) : |σ| = 1 := by
  rcases hσ with rfl | rfl <;> simp

theorem back_rot (x y t σ β : ℝ) (hσ : σ = 1 ∨ σ = -1) :
    (x - σ * (t * y)) * sin β + (y + σ * (t * x)) * cos β =
      √(1 + t ^ 2) * (x * sin (β + σ * arctan t) + y * cos (β + σ * arctan t)) := by
  have hs : 0 < √(1 + t ^ 2) := Real.sqrt_pos.2 (by positivity)
  have hc : cos (σ * arctan t) = 1 / √(1 + t ^ 2) := by
    rcases hσ with rfl | rfl <;> simp [cos_arctan]
  have hsn : sin (σ * arctan t) = σ * t / √(1 + t ^ 2) := by
    rcases hσ with rfl | rfl <;> simp [sin_arctan, neg_div]
  rw [sin_add, cos_add, hc, hsn]
  field_simp
  ring

/-- what the truncation of one step adds to `x sin β + y cos β` -/
theorem trunc_y {σ β δx δy u : ℝ} (hσ : σ = 1 ∨ σ = -1) (hx0 : 0 ≤ δx) (hx1 : δx ≤ u) (hy0 : 0 ≤ δy) (hy1 : δy ≤ u) :
    |σ * (δy * sin β - δx * cos β)| ≤ u * (1 + |β|) := by
  rw [abs_mul, abs_sign hσ, one_mul]
  refine le_trans (abs_sub _ _) ?_
  rw [abs_mul, abs_mul, abs_of_nonneg hy0, abs_of_nonneg hx0]
  have s1 := mul_le_mul hy1 (abs_sin_le_abs (x := β)) (abs_nonneg _) (le_trans hy0 hy1)
  have c1 := mul_le_mul hx1 (abs_cos_le_one β) (abs_nonneg _) (le_trans hx0 hx1)
  linarith only [s1, c1]

/-- the `y` output seen from one step earlier: gain `c` becomes `c·√(1+t²)`, angle `β` becomes `β + σ atan t` -/
theorem back_y {c t σ β x y x1 y1 δx δy u E y' : ℝ} (hσ : σ = 1 ∨ σ = -1) (hc : 0 ≤ c)
    (hx0 : 0 ≤ δx) (hx1 : δx ≤ u) (hy0 : 0 ≤ δy) (hy1 : δy ≤ u)
    (hx' : x1 = x - σ * (t * y - δy)) (hy' : y1 = y + σ * (t * x - δx))
    (h : |y' - c * (x1 * sin β + y1 * cos β)| ≤ E) :
    |y' - c * √(1 + t ^ 2) * (x * sin (β + σ * arctan t) + y * cos (β + σ * arctan t))| ≤ E + c * (u * (1 + |β|)) := by
  have e : y' - c * √(1 + t ^ 2) * (x * sin (β + σ * arctan t) + y * cos (β + σ * arctan t)) =
      (y' - c * (x1 * sin β + y1 * cos β)) + c * (σ * (δy * sin β - δx * cos β)) := by
    rw [mul_assoc, ← back_rot x y t σ β hσ, hx', hy']; ring
  rw [e]
  refine le_trans (abs_add_le _ _) (add_le_add h ?_)
  rw [abs_mul, abs_of_nonneg hc]
  exact mul_le_mul_of_nonneg_left (trunc_y hσ hx0 hx1 hy0 hy1) hc

theorem entry_err {σ e a θ u κ : ℝ} (hσ : σ = 1 ∨ σ = -1) (he1 : a - u ≤ e) (he2 : e ≤ a) (ha : |a - θ| ≤ κ) :
    |σ * (e - θ)| ≤ u + κ := by
  rw [abs_mul, abs_sign hσ, one_mul]
  rw [abs_le] at ha ⊢
  constructor <;> linarith only [ha.1, ha.2, he1, he2]

theorem resid_step {σ z e a u c t' : ℝ} (hσz : (σ = 1 ∧ 0 ≤ z) ∨ (σ = -1 ∧ z < 0)) (he1 : a - u ≤ e) (he2 : e ≤ a)
    (hconv : a ≤ t') (hc : 0 ≤ c) (hzc : |z| ≤ a + t' + c) : |z - σ * e| ≤ t' + (c + u) := by
  rw [abs_le] at hzc ⊢
  rcases hσz with ⟨rfl, hz0⟩ | ⟨rfl, hz0⟩ <;> constructor <;> linarith only [hzc.1, hzc.2, he1, he2, hconv, hc, hz0]

/-- the error budget (ulps) of the steps `≥ i` for the final `y` -/
noncomputable def EYb (N i : ℕ) : ℝ := if i = 0 then (N : ℝ) + 1 / 4 else ((N : ℝ) - (i : ℝ)) + 5 / 2 / 2 ^ i

theorem EYb_one (N : ℕ) : EYb N 1 = EYb N 0 := by unfold EYb; norm_num; ring

theorem EYb_end (N : ℕ) : 0 ≤ EYb N N := by
  unfold EYb; split
  · positivity
  · rw [sub_self, zero_add]; positivity

theorem EYb_step (N i : ℕ) (hi : 1 ≤ i) : EYb N (i + 1) + (1 + 1 / (4 : ℝ) ^ i / 5) * (1 + 1 / 2 ^ i) ≤ EYb N i := by
  unfold EYb
  rw [if_neg (by omega), if_neg (by omega)]
  have hs : (1 : ℝ) / 2 ^ i ≤ 1 / 2 := by
    apply one_div_le_one_div_of_le (by norm_num)
    calc (2 : ℝ) = 2 ^ 1 := by norm_num
      _ ≤ 2 ^ i := pow_le_pow_right₀ (by norm_num) hi
  have hs0 : (0 : ℝ) < 1 / 2 ^ i := by positivity
  have e1 : 1 / (4 : ℝ) ^ i = 1 / 2 ^ i * (1 / 2 ^ i) := by
    rw [show (4 : ℝ) = 2 * 2 by norm_num, mul_pow, one_div_mul_one_div]
  have e2 : (5 : ℝ) / 2 / 2 ^ (i + 1) = 5 / 4 * (1 / 2 ^ i) := by rw [pow_succ]; ring
  have e3 : (5 : ℝ) / 2 / 2 ^ i = 5 / 2 * (1 / 2 ^ i) := by ring
  rw [e1, e2, e3]
  push_cast
  generalize (1 : ℝ) / 2 ^ i = s at *
  have h2 := mul_le_mul_of_nonneg_left hs hs0.le
  have h3 := mul_le_mul_of_nonneg_left hs (mul_nonneg hs0.le hs0.le)
  linarith only [h2, h3, hs0]

/-- the backward invariant between the state `(x, y, z)` before step `i` and the final `y'`, `z'`: `y'` is the remaining gain times
`x sin β + y cos β` up to `EYb i` units, for a remaining rotation `β` that `z − z'` tracks up to the table errors; and the residual
angle stays within the budget `tau` -/
def BI (N : ℕ) (u κ : ℝ) (tau : ℕ → ℝ) (i : ℕ) (x y z y' z' : ℝ) : Prop :=
  (∃ β : ℝ, |β| ≤ 2 / 2 ^ i ∧ |y' - Kp N / Kp i * (x * sin β + y * cos β)| ≤ EYb N i * u ∧
    |(z - z') - β| ≤ ((N : ℝ) - (i : ℝ)) * (u + κ)) ∧
  ∀ c : ℝ, 0 ≤ c → |z| ≤ tau i + c → |z'| ≤ tau N + (c + ((N : ℝ) - (i : ℝ)) * u)

theorem BI_base (N : ℕ) (u κ : ℝ) (tau : ℕ → ℝ) (x y z : ℝ) (hu : 0 ≤ u) : BI N u κ tau N x y z y z := by
  refine ⟨⟨0, by rw [abs_zero]; positivity, ?_, ?_⟩, fun c _ h => ?_⟩
  · rw [div_self (Kp_pos N).ne', sin_zero, cos_zero, mul_zero, mul_one, zero_add, one_mul, sub_self, abs_zero]
    exact mul_nonneg (EYb_end N) hu
  · simp
  · simpa using h

theorem BI_step {N : ℕ} {u κ a : ℝ} {tau : ℕ → ℝ} {i : ℕ} {x y z x1 y1 z1 y' z' : ℝ} (hi : i < N) (hu : 0 ≤ u)
    (hst : Step u a i x y z x1 y1 z1) (ha : |a - arctan (((2 : ℝ) ^ i)⁻¹)| ≤ κ)
    (htau : tau i = a + tau (i + 1)) (hconv : a ≤ tau (i + 1))
    (h : BI N u κ tau (i + 1) x1 y1 z1 y' z') : BI N u κ tau i x y z y' z' := by
  obtain ⟨σ, δx, δy, e, hσz, hx0, hx1, hy0, hy1, h0, hx', hy', hz', he1, he2⟩ := hst
  obtain ⟨⟨β, hβ, hy, hz⟩, hres⟩ := h
  have hσ : σ = 1 ∨ σ = -1 := hσz.imp And.left And.left
  have hβ' : |β| ≤ ((2 : ℝ) ^ i)⁻¹ := by
    have : (2 : ℝ) / 2 ^ (i + 1) = ((2 : ℝ) ^ i)⁻¹ := by rw [pow_succ]; field_simp
    rw [← this]; exact hβ
  have ht0 : (0 : ℝ) ≤ ((2 : ℝ) ^ i)⁻¹ := by positivity
  have hc0 : 0 ≤ Kp N / Kp (i + 1) := (div_pos (Kp_pos N) (Kp_pos (i + 1))).le
  have hgain : Kp N / Kp (i + 1) * √(1 + (((2 : ℝ) ^ i)⁻¹) ^ 2) = Kp N / Kp i := by
    have hs : √(1 + (((2 : ℝ) ^ i)⁻¹) ^ 2) ≠ 0 := (Real.sqrt_pos.2 (by positivity)).ne'
    rw [Kp_succ i, div_mul_eq_mul_div, mul_div_mul_right _ _ hs]
  refine ⟨⟨β + σ * arctan (((2 : ℝ) ^ i)⁻¹), ?_, ?_, ?_⟩, fun c hc hzc => ?_⟩
  · refine le_trans (abs_add_le _ _) ?_
    rw [abs_mul, abs_sign hσ, one_mul, abs_of_nonneg (Real.arctan_nonneg.2 ht0)]
    have := arctan_le_self ht0
    have e2 : (2 : ℝ) / 2 ^ i = ((2 : ℝ) ^ i)⁻¹ + ((2 : ℝ) ^ i)⁻¹ := by rw [← two_mul, div_eq_mul_inv]
    rw [e2]; linarith only [this, hβ']
  · -- at step 0 nothing is truncated, later the step costs `c_{i+1}·(1 + |β|)` ulps
    rw [← hgain]
    rcases Nat.eq_zero_or_pos i with hi0 | hi0
    · obtain ⟨d1, d2⟩ := h0 hi0
      have := back_y hσ hc0 hx0 (le_of_eq d1) hy0 (le_of_eq d2) hx' hy' hy
      rw [zero_mul, mul_zero, add_zero] at this
      subst hi0
      rw [← EYb_one]; exact this
    · refine le_trans (back_y hσ hc0 hx0 hx1 hy0 hy1 hx' hy' hy) ?_
      have hb1 : u * (1 + |β|) ≤ u * (1 + 1 / 2 ^ i) :=
        mul_le_mul_of_nonneg_left (by rw [one_div]; linarith only [hβ']) hu
      have hcu : Kp N / Kp (i + 1) * (u * (1 + |β|)) ≤ (1 + 1 / (4 : ℝ) ^ i / 5) * (u * (1 + 1 / 2 ^ i)) :=
        mul_le_mul (Kp_ratio hi) hb1 (mul_nonneg hu (by positivity)) (by positivity)
      have := mul_le_mul_of_nonneg_right (EYb_step N i hi0) hu
      linarith only [this, hcu]
  · have e1 : (z - z') - (β + σ * arctan (((2 : ℝ) ^ i)⁻¹)) = ((z1 - z') - β) + σ * (e - arctan (((2 : ℝ) ^ i)⁻¹)) := by
      rw [hz']; ring
    rw [e1]
    refine le_trans (abs_add_le _ _) ?_
    have := entry_err hσ he1 he2 ha
    push_cast at hz
    linarith only [this, hz]
  · -- `σ = sign z` and `a ≤ tau (i+1)` keep `|z1| ≤ tau (i+1) + c + u`
    rw [htau] at hzc
    have := hres (c + u) (add_nonneg hc hu) (hz' ▸ resid_step hσz he1 he2 hconv hc hzc)
    push_cast at this
    linarith only [this]

/-- the start value `x ∈ [g − u, g]` in place of `g` costs `G·u`, `G` the gain -/
theorem start_err {G G₀ c g x s Y u : ℝ} (hG0 : 0 ≤ G) (hG : G ≤ G₀) (hx1 : g - u ≤ x) (hx2 : x ≤ g)
    (hs : |s| ≤ 1) (hy : |Y - G * (x * s)| ≤ c * u) : |Y - g * G * s| ≤ (c + G₀) * u := by
  rw [show Y - g * G * s = (Y - G * (x * s)) + G * ((x - g) * s) by ring]
  refine le_trans (abs_add_le _ _) ?_
  have d1 : |x - g| ≤ u := by rw [abs_le]; constructor <;> linarith only [hx1, hx2]
  have d3 : |G * ((x - g) * s)| ≤ G₀ * u := by
    rw [abs_mul, abs_of_nonneg hG0]
    refine mul_le_mul hG ?_ (abs_nonneg _) (hG0.trans hG)
    rw [abs_mul]
    exact le_trans (mul_le_of_le_one_right (abs_nonneg _) hs) d1
  rw [add_mul]
  exact add_le_add hy d3

/-- a run of CORDIC steps `i, …, N - 1` with table `a` and truncation unit `u` -/
inductive Steps (N : ℕ) (u : ℝ) (a : ℕ → ℝ) : ℕ → ℝ → ℝ → ℝ → ℝ → ℝ → ℝ → Prop
  | done (x y z : ℝ) : Steps N u a N x y z x y z
  | cons {i : ℕ} {x y z x1 y1 z1 x' y' z' : ℝ} : i < N → Step u (a i) i x y z x1 y1 z1 →
      Steps N u a (i + 1) x1 y1 z1 x' y' z' → Steps N u a i x y z x' y' z'

section
variable {N : ℕ} {u κ : ℝ} {a tau : ℕ → ℝ} (hu : 0 ≤ u) (ha : ∀ i, i < N → |a i - arctan (((2 : ℝ) ^ i)⁻¹)| ≤ κ)
  (htau : ∀ i, i < N → tau i = a i + tau (i + 1)) (hconv : ∀ i, i < N → a i ≤ tau (i + 1))
include hu ha htau hconv

theorem Steps.BI {i : ℕ} {x y z x' y' z' : ℝ} (h : Steps N u a i x y z x' y' z') : BI N u κ tau i x y z y' z' := by
  induction h with
  | done x y z => exact BI_base N u κ tau x y z hu
  | cons hi hst _ ih => exact BI_step hi hu hst (ha _ hi) (htau _ hi) (hconv _ hi) ih

/-- the final `y'` of `N` steps is `g·Kp N·sin β` up to a VECTOR error of `N + 1/4 + G₀` units (`G₀` any bound of the gain `Kp N`),
where `β` is `z` up to an ANGLE error -/
theorem cordic_real {g G₀ x z x' y' z' : ℝ} (hG : Kp N ≤ G₀) (hx1 : g - u ≤ x) (hx2 : x ≤ g)
    (h : Steps N u a 0 x 0 z x' y' z') (hz : |z| ≤ tau 0) :
    ∃ β v : ℝ, y' = g * Kp N * sin β + v ∧ |v| ≤ ((N : ℝ) + 1 / 4 + G₀) * u ∧
      |β - z| ≤ (N : ℝ) * (u + κ) + (tau N + (N : ℝ) * u) := by
  obtain ⟨⟨β, _, hy, hzz⟩, hres⟩ := h.BI hu ha htau hconv
  have g3 := hres 0 le_rfl (by rw [add_zero]; exact hz)
  rw [show EYb N 0 = (N : ℝ) + 1 / 4 from if_pos rfl, show Kp 0 = 1 from rfl, div_one, zero_mul, add_zero] at hy
  refine ⟨β, y' - g * Kp N * sin β, by ring, start_err (Kp_pos N).le hG hx1 hx2 (abs_sin_le_one β) hy, ?_⟩
  rw [show β - z = -((z - z') - β) - z' by ring]
  refine le_trans (abs_sub _ _) ?_
  rw [abs_neg]
  push_cast at hzz g3
  linarith only [hzz, g3]
end


end Sfx.TrigAccPf

#print axioms Sfx.TrigAccPf.cordic_real
