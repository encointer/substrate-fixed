import SfxProofs.TrigModel
import SfxProofs.TrigAccTan
/-
  TrigAccRun.lean — the accuracy theorems, proved of the plain-integer functions `sinPure` and `tanPure`, read on the model's `Trans.run`:
  the only file of the accuracy development that uses the model proofs (`run_sin`, `run_cos`, `run_tan`).  For `tan` the call has to be
  shown TOTAL first: a positive denominator and a plain-integer quotient within `B` of `tan x` (`|tan x| + B ≤ 255`) make the quotient
  representable, with no debug check and at most 50 loop iterations (`tan_run_of_pure`); for `|a / 2^f| ≤ 100` and `|tan (a / 2^f)| ≤ 64`
  that follows from the worst-case bounds `104.65`/`105.29` on the inner calls alone (`tan_total_64`).  The `A` forms of the tan clause
  (thresholds 21 / 46 / 64 at `f ≥ 23 / 24 / 25`) are smaller than the `B` forms they follow from.
-/
namespace Sfx.TrigAccPf
open Sfx.TrigPf Real

theorem run_val {α : Type} {x : Outcome (Option α × Nat)} {r r' : α} {it it' : Nat} {dbg dbg' : Bool}
    (h' : x = .ok (some r', it') dbg') (h : x = .ok (some r, it) dbg) : r = r' := by
  rw [h'] at h
  injection h with h1 _
  injection h1 with h2 _
  injection h2 with h3
  exact h3.symm

theorem tan_shape {D : Layout} (hD : Ok D) (a : Int) (h1 : -(100 * 2 ^ D.f) ≤ a) (h2 : a ≤ 100 * 2 ^ D.f)
    (hpos : 0 < 2 ^ D.f + sinPure D (2 * a + H D)) (hin : inRange D (tanPure D a)) :
    ∃ it, it ≤ 50 ∧ Trans.run (Trans.tan D a) = .ok (some (tanPure D a), it) false := by
  refine ⟨_, ?_, run_tan hD a h1 h2 (by omega) hin⟩
  have := redTicks_le D (2 * a)
  have := redTicks_le D (2 * a + H D)
  omega

/-- on the model's `run`, the shape of `C16_statement` -/
theorem sin_run_accuracy {D : Layout} (hD : Ok D)
    (a : Int) (ha : inRange D a) (hb : |(a : ℝ) / 2 ^ D.f| ≤ 200) (r : Int) (it : Nat) (dbg : Bool)
    (hrun : Trans.run (Trans.sin D a) = .ok (some r, it) dbg) :
    |(r : ℝ) / 2 ^ D.f - Real.sin ((a : ℝ) / 2 ^ D.f)| ≤ 1 / 2 ^ 16 ∧ |(r : ℝ) / 2 ^ D.f| ≤ 1 + 1 / 2 ^ 16 := by
  rw [run_val (run_sin hD a ha) hrun]
  exact sin_accuracy D hD a hb

theorem cos_run_accuracy {D : Layout} (hD : Ok D)
    (a : Int) (hb : |(a : ℝ) / 2 ^ D.f| ≤ 200) (r : Int) (it : Nat) (dbg : Bool)
    (hrun : Trans.run (Trans.cos D a) = .ok (some r, it) dbg) :
    |(r : ℝ) / 2 ^ D.f - Real.cos ((a : ℝ) / 2 ^ D.f)| ≤ 1 / 2 ^ 16 ∧ |(r : ℝ) / 2 ^ D.f| ≤ 1 + 1 / 2 ^ 16 := by
  obtain ⟨i1, i2⟩ := int_bounds D a 200 (by push_cast; exact hb)
  rw [run_val (run_cos hD a (shift_inRange hD a i1 i2)) hrun]
  exact cos_accuracy D hD a hb

/-- `tan` at `a` is total (no panic, no debug-only check, at most 50 loop iterations) and its result meets the C16 bound -/
def TanAcc (D : Layout) (a : Int) : Prop :=
  ∃ r it, Trans.run (Trans.tan D a) = .ok (some r, it) false ∧ it ≤ 50 ∧
    |(r : ℝ) / sc D - tan ((a : ℝ) / sc D)| ≤ (1 + tan ((a : ℝ) / sc D) ^ 2) / 2 ^ 14

theorem TanAcc.run {D : Layout} {a : Int} (h : TanAcc D a) (r : Int) (it : Nat) (dbg : Bool)
    (hrun : Trans.run (Trans.tan D a) = .ok (some r, it) dbg) :
    |(r : ℝ) / sc D - tan ((a : ℝ) / sc D)| ≤ (1 + tan ((a : ℝ) / sc D) ^ 2) / 2 ^ 14 := by
  obtain ⟨r', it', h1, _, h3⟩ := h
  rw [run_val h1 hrun]; exact h3

theorem tan_run_of_pure {D : Layout} (hD : Ok D) (a : Int) (hb : |(a : ℝ) / sc D| ≤ 100) (B : ℝ)
    (hpos : 0 < 2 ^ D.f + sinPure D (2 * a + H D)) (hacc : |((tanPure D a : Int) : ℝ) / sc D - tan ((a : ℝ) / sc D)| ≤ B)
    (hB : |tan ((a : ℝ) / sc D)| + B ≤ 255) :
    ∃ r it, Trans.run (Trans.tan D a) = .ok (some r, it) false ∧ it ≤ 50 ∧ |(r : ℝ) / sc D - tan ((a : ℝ) / sc D)| ≤ B := by
  obtain ⟨i1, i2⟩ := int_bounds D a 100 (by push_cast; exact hb)
  obtain ⟨j1, j2⟩ := int_bounds D (tanPure D a) 255 (by push_cast; exact abs_le_of_near hacc hB)
  obtain ⟨it, hit, hr⟩ := tan_shape hD a i1 i2 hpos (inRange_255 hD _ j1 j2)
  exact ⟨_, it, hr, hit, hacc⟩

/-- `tan` is total wherever the true tangent is at most 64 in magnitude: no panic (the computed denominator `1 + cos 2a` is positive),
no debug-only check (the quotient is representable), at most 50 loop iterations -/
theorem tan_total_64 {D : Layout} (hD : Ok D) (a : Int) (hb : |(a : ℝ) / sc D| ≤ 100) (ht : |tan ((a : ℝ) / sc D)| ≤ 64) :
    ∃ r it, Trans.run (Trans.tan D a) = .ok (some r, it) false ∧ it ≤ 50 ∧
      |(r : ℝ) / sc D - tan ((a : ℝ) / sc D)| ≤ 3 ∧ |(r : ℝ) / sc D| ≤ 67 := by
  obtain ⟨e2, b2⟩ := two_mul_sc D a hb
  have hcx : cos ((a : ℝ) / sc D) ≠ 0 := cos_ne_zero_dyadic a D.f
  have hS := sin_accuracy_gen hD (2 * a) (le_trans b2 (by norm_num))
  have hC := le_trans (cos_accuracy_gen hD (2 * a) b2) (by norm_num : _ ≤ (10529 / 100 : ℝ) / 2 ^ 23)
  rw [e2] at hS hC
  obtain ⟨hpos, hq⟩ := tan_quot_crude _ _ _ _ hcx (le_trans hS (by norm_num)) hC (by norm_num) ht
  have hu := le_trans (inv_sc_le D 23 hD.hf) (by norm_num : _ ≤ (1 : ℝ))
  obtain ⟨hden, hacc⟩ := tan_pure_core a 3 hpos (by linarith only [hq, hu])
  obtain ⟨r, it, h1, h2, h3⟩ := tan_run_of_pure hD a hb 3 hden hacc (by linarith only [ht])
  exact ⟨r, it, h1, h2, h3, abs_le_of_near h3 (by linarith only [ht])⟩

theorem TanAccP.run {D : Layout} (hD : Ok D) {a : Int} (hb : |(a : ℝ) / sc D| ≤ 100) (ht : |tan ((a : ℝ) / sc D)| ≤ 64)
    (h : TanAccP D a) : TanAcc D a := by
  have h2 : tan ((a : ℝ) / sc D) ^ 2 ≤ 64 ^ 2 := sq_le_sq' (neg_le_of_abs_le ht) (le_of_abs_le ht)
  have h1 : (1 + tan ((a : ℝ) / sc D) ^ 2) / 2 ^ 14 ≤ 1 := (div_le_one (by norm_num)).2 (by linarith only [h2])
  exact tan_run_of_pure hD a hb _ h.1 h.2 (by linarith only [h1, ht])

theorem tan_accuracy_A23 {D : Layout} (hD : Ok D) (a : Int) (hb : |(a : ℝ) / sc D| ≤ 100) (ht : |tan ((a : ℝ) / sc D)| ≤ 21) :
    ∃ r it, Trans.run (Trans.tan D a) = .ok (some r, it) false ∧ it ≤ 50 ∧
      |(r : ℝ) / sc D - tan ((a : ℝ) / sc D)| ≤ (1 + tan ((a : ℝ) / sc D) ^ 2) / 2 ^ 14 :=
  (tan_accuracy_B23 hD a hb (le_trans ht (by norm_num))).run hD hb (le_trans ht (by norm_num))

theorem tan_accuracy_A24 {D : Layout} (hD : Ok D) (hf : 24 ≤ D.f) (a : Int) (hb : |(a : ℝ) / sc D| ≤ 100)
    (ht : |tan ((a : ℝ) / sc D)| ≤ 46) :
    ∃ r it, Trans.run (Trans.tan D a) = .ok (some r, it) false ∧ it ≤ 50 ∧
      |(r : ℝ) / sc D - tan ((a : ℝ) / sc D)| ≤ (1 + tan ((a : ℝ) / sc D) ^ 2) / 2 ^ 14 :=
  (tan_accuracy_B24 hD hf a hb (le_trans ht (by norm_num))).run hD hb (le_trans ht (by norm_num))

theorem tan_accuracy_A25 {D : Layout} (hD : Ok D) (hf : 25 ≤ D.f) (a : Int) (hb : |(a : ℝ) / sc D| ≤ 100)
    (ht : |tan ((a : ℝ) / sc D)| ≤ 64) :
    ∃ r it, Trans.run (Trans.tan D a) = .ok (some r, it) false ∧ it ≤ 50 ∧
      |(r : ℝ) / sc D - tan ((a : ℝ) / sc D)| ≤ (1 + tan ((a : ℝ) / sc D) ^ 2) / 2 ^ 14 :=
  (tan_accuracy_B24 hD (le_trans (by norm_num) hf) a hb ht).run hD hb ht

end Sfx.TrigAccPf

#print axioms Sfx.TrigAccPf.sin_run_accuracy
#print axioms Sfx.TrigAccPf.cos_run_accuracy
#print axioms Sfx.TrigAccPf.tan_run_of_pure
#print axioms Sfx.TrigAccPf.tan_total_64
#print axioms Sfx.TrigAccPf.tan_accuracy_A23
#print axioms Sfx.TrigAccPf.tan_accuracy_A24
#print axioms Sfx.TrigAccPf.tan_accuracy_A25
