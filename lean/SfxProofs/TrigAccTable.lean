import SfxProofs.TrigAccBase
import SfxProofs.TrigAccAtan
import SfxProofs.TrigAccAngle
/-
  TrigAccTable.lean — the generated `ARCTAN_ANGLES` table against Mathlib's `Real.arctan`:
      `table_arctan : ∀ i < 24, |angleOf i / 2^128 − arctan (2^-i)| ≤ 2^-53`.
  Entries `1 … 23` go through the kernel-evaluated `table_entries_pinned` (70 floored terms of Gregory's series on the `2^256`
  scale) and the alternating-series enclosure `arctan_enclosure_70`; entry 0 is `π/4` (`Real.arctan_one`, `Real.pi_gt_d20`).
-/
namespace Sfx.TrigAccPf
open Sfx.Trans Sfx.TrigPf Real

theorem sgn_cast (k : ℕ) : (((if k % 2 = 0 then 1 else -1 : Int)) : ℝ) = (-1 : ℝ) ^ k := by
  by_cases h : k % 2 = 0
  · rw [if_pos h, (Nat.even_iff.2 h).neg_one_pow]; norm_num
  · rw [if_neg h, (Nat.odd_iff.2 (by omega)).neg_one_pow]; norm_num

theorem pow_trunc (n : ℕ) : 0 ≤ (2 : ℝ) ^ (256 - n) - 2 ^ 256 / 2 ^ n ∧ (2 : ℝ) ^ (256 - n) - 2 ^ 256 / 2 ^ n < 1 := by
  have hn : (0 : ℝ) < 2 ^ n := by positivity
  by_cases h : n ≤ 256
  · have : (2 : ℝ) ^ 256 = 2 ^ (256 - n) * 2 ^ n := (pow_sub_mul_pow 2 h).symm
    rw [this, mul_div_assoc, div_self hn.ne', mul_one, sub_self]; norm_num
  · have h0 : 256 - n = 0 := by omega
    have hlt : (2 : ℝ) ^ 256 < 2 ^ n := pow_lt_pow_right₀ (by norm_num) (by omega)
    have h1 : (2 : ℝ) ^ 256 / 2 ^ n < 1 := (div_lt_one hn).2 hlt
    have h2 : (0 : ℝ) < 2 ^ 256 / 2 ^ n := by positivity
    rw [h0, pow_zero]; constructor <;> linarith only [h1, h2]

theorem term_err (P r d q : ℝ) (hd : 1 ≤ d) (h1 : q * d ≤ P) (h2 : P < q * d + d) (h3 : 0 ≤ P - r) (h4 : P - r < 1) :
    |q - r / d| ≤ 1 := by
  have hd0 : 0 < d := by linarith
  have e : q - r / d = (q * d - r) / d := by field_simp
  rw [e, abs_le]
  constructor
  · rw [le_div_iff₀ hd0]; linarith only [h2, h3]
  · rw [div_le_iff₀ hd0]; linarith only [h1, h4, hd]

theorem gterm_scaled (i k : ℕ) :
    (2 : ℝ) ^ 256 * gterm (((2 : ℝ) ^ i)⁻¹) k = 2 ^ 256 / 2 ^ (i * (2 * k + 1)) / ((2 * (k : ℝ) + 1)) := by
  unfold gterm
  rw [inv_pow, ← pow_mul]
  push_cast
  field_simp

theorem series_err (i : ℕ) : ∀ k : ℕ, |((atanSeries i k : Int) : ℝ) - 2 ^ 256 * gsum (((2 : ℝ) ^ i)⁻¹) k| ≤ (k : ℝ)
  | 0 => by rw [show atanSeries i 0 = 0 from rfl, gsum_zero]; norm_num
  | k + 1 => by
    have ih := series_err i k
    obtain ⟨q, h1, h2, h3⟩ := atanSeries_step i k
    have c1 : (q : ℝ) * (2 * (k : ℝ) + 1) ≤ (2 : ℝ) ^ (256 - i * (2 * k + 1)) := by
      exact_mod_cast h1
    have c2 : (2 : ℝ) ^ (256 - i * (2 * k + 1)) < (q : ℝ) * (2 * (k : ℝ) + 1) + (2 * (k : ℝ) + 1) := by
      exact_mod_cast h2
    obtain ⟨t1, t2⟩ := pow_trunc (i * (2 * k + 1))
    have hk : (1 : ℝ) ≤ 2 * (k : ℝ) + 1 := by have : (0 : ℝ) ≤ k := Nat.cast_nonneg k; linarith
    have te := term_err _ _ _ _ hk c1 c2 t1 t2
    rw [h3, gsum_succ, Int.cast_add, Int.cast_mul, sgn_cast, mul_add, add_sub_add_comm, mul_left_comm, ← mul_sub,
      gterm_scaled]
    refine le_trans (abs_add_le _ _) ?_
    rw [abs_mul, abs_pow, abs_neg, abs_one, one_pow, one_mul]
    push_cast
    linarith only [ih, te]

theorem gaps_add {A S G T P k r B : ℝ} (h1 : A - S < P) (h2 : S - A < P) (h3 : |S - G| ≤ k) (h4 : G ≤ T) (h5 : T ≤ G + r)
    (hB : P + k + r ≤ B) : |A - T| ≤ B := by
  rw [abs_le] at h3 ⊢
  constructor <;> linarith only [h1, h2, h3.1, h3.2, h4, h5, hB]

/-- entries `1 … 23`: on the `2^256` scale the gaps are `2^(202-i) ≤ 2^201` (`table_entries_pinned`), `70` (flooring of the terms) and
`2^256·t^141/141 ≤ 2^115` (tail of the series at `t ≤ 1/2`), together below `2^203 = 2^256·2^-53` -/
theorem table_arctan_pos (i : ℕ) (h1 : 1 ≤ i) (h2 : i < 24) :
    |((angleOf i : Int) : ℝ) / 2 ^ 128 - arctan (((2 : ℝ) ^ i)⁻¹)| ≤ 1 / 2 ^ 53 := by
  obtain ⟨p1, p2'⟩ := table_entries_pinned i h1 h2
  have q1 : ((angleOf i : Int) : ℝ) * 2 ^ 128 - ((atanSeries i 70 : Int) : ℝ) < 2 ^ (202 - i) := by
    exact_mod_cast p1
  have q2 : ((atanSeries i 70 : Int) : ℝ) - ((angleOf i : Int) : ℝ) * 2 ^ 128 < 2 ^ (202 - i) := by
    exact_mod_cast p2'
  have se := series_err i 70
  set t : ℝ := ((2 : ℝ) ^ i)⁻¹ with ht
  have ht0 : 0 ≤ t := by positivity
  have hthalf : t ≤ 1 / 2 := by
    rw [ht, inv_le_comm₀ (by positivity) (by norm_num)]
    calc ((1 : ℝ) / 2)⁻¹ = 2 ^ 1 := by norm_num
      _ ≤ 2 ^ i := pow_le_pow_right₀ (by norm_num) h1
  obtain ⟨e1, e2⟩ := arctan_enclosure_70 t ht0 (by linarith only [hthalf])
  have h256 : (0 : ℝ) < 2 ^ 256 := by positivity
  have hp : (2 : ℝ) ^ (202 - i) ≤ 2 ^ 201 := pow_le_pow_right₀ (by norm_num) (by omega)
  have hr : (2 : ℝ) ^ 256 * (t ^ 141 / 141) ≤ 2 ^ 115 :=
    calc (2 : ℝ) ^ 256 * (t ^ 141 / 141) ≤ 2 ^ 256 * ((1 / 2) ^ 141 / 141) := by gcongr
      _ ≤ 2 ^ 115 := by norm_num
  have key := gaps_add q1 q2 se (mul_le_mul_of_nonneg_left e1 h256.le)
    (le_of_le_of_eq (mul_le_mul_of_nonneg_left e2 h256.le) (mul_add _ _ _))
    (show (2 : ℝ) ^ (202 - i) + ((70 : ℕ) : ℝ) + 2 ^ 256 * (t ^ 141 / 141) ≤ 2 ^ 203 by
      have : (2 : ℝ) ^ 201 + ((70 : ℕ) : ℝ) + 2 ^ 115 ≤ 2 ^ 203 := by norm_num
      linarith only [hp, hr, this])
  rw [show ((angleOf i : Int) : ℝ) / 2 ^ 128 - arctan t =
      (((angleOf i : Int) : ℝ) * 2 ^ 128 - 2 ^ 256 * arctan t) / 2 ^ 256 by field_simp,
    abs_div, abs_of_pos h256, div_le_iff₀ h256]
  exact le_of_le_of_eq key (by norm_num)

theorem table_arctan (i : ℕ) (hi : i < 24) :
    |((angleOf i : Int) : ℝ) / 2 ^ 128 - arctan (((2 : ℝ) ^ i)⁻¹)| ≤ 1 / 2 ^ 53 := by
  rcases Nat.eq_zero_or_pos i with h | h
  · subst h
    rw [angle0_val, pow_zero, inv_one, arctan_one]
    push_cast
    exact quarter_pi_tab
  · exact table_arctan_pos i h hi

end Sfx.TrigAccPf

#print axioms Sfx.TrigAccPf.table_arctan
