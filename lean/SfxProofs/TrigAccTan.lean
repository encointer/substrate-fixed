import SfxProofs.TrigAcc
import SfxProofs.TrigAccTanReal
/-
  TrigAccTan.lean — `tan a = sin 2a / (1 + cos 2a)` (truncating division) from the accuracy of the two inner calls, on the plain-integer
  quotient `tanPure D a` (what `Trans.tan D a` returns when it returns).
  `tan_struct`: the tan clause of C16 from the STRUCTURED accuracy of the two inner calls (`sinS`, `cosS`, `tan_struct_real`): with `Θ`
  bounding both angle errors, `τ` both vector errors, `γ = 2^-32` the gain error and `|tan x| ≤ M` the bound `(1+t²)/2^14` holds as
  soon as two NUMERIC side conditions hold.  They hold with `M = 64` from `24 ≤ D.f` on (`tan_accuracy_B24`, the full C16 clause) and with
  `M = 30` for every supported `D` (`tan_accuracy_B23`); the digits name the least `f`.
  What worst-case constants cannot reach is `D.f = 23` with `30 < |tan x| ≤ 64`: the vector error of the `cos` call enters multiplied
  by `|tan x|`, and `64 · 22 ulp > 2^-13` (`TrigAccTan3.lean`).  With `f = 23` the first side condition reads, in ulps of `2^-23`,
  `232.5 + 25.9·M + … ≤ 1024` and fails from `M = 30.5` on; the shift truncations `δ ∈ [0, u)` enter `y` with the sign of the step, and
  up to 17 of the steps `6 … 23` can have one sign, so no bound on the vector error below `≈ 21` ulps holds for arbitrary `δ`.
-/
namespace Sfx.TrigAccPf
open Sfx.TrigPf Real

/-- the value `tan` returns when it returns (`tan_shape`), as a plain-integer function -/
def tanPure (D : Layout) (a : Int) : Int := divSpec D.f (sinPure D (2 * a)) (2 ^ D.f + sinPure D (2 * a + H D))

/-- the truncating division in isolation: `tanPure D a` is within one ulp of `S / (1 + C)`, `S`, `C` the two inner results on the unit
scale -/
theorem tan_pure_core {D : Layout} (a : Int) (B : ℝ)
    (hpos : 0 < 1 + ((sinPure D (2 * a + H D) : Int) : ℝ) / sc D)
    (hq : |((sinPure D (2 * a) : Int) : ℝ) / sc D / (1 + ((sinPure D (2 * a + H D) : Int) : ℝ) / sc D) -
      tan ((a : ℝ) / sc D)| + 1 / sc D ≤ B) :
    0 < 2 ^ D.f + sinPure D (2 * a + H D) ∧ |((tanPure D a : Int) : ℝ) / sc D - tan ((a : ℝ) / sc D)| ≤ B := by
  have hs := sc_pos D
  unfold tanPure
  generalize sinPure D (2 * a + H D) = c at *
  generalize sinPure D (2 * a) = s at *
  have hdenR : ((2 ^ D.f + c : Int) : ℝ) / sc D = 1 + (c : ℝ) / sc D := by rw [cast_add_sc, two_pow_sc]
  rw [← hdenR] at hpos hq
  have hdpos : (0 : ℝ) < ((2 ^ D.f + c : Int) : ℝ) := (div_pos_iff_of_pos_right hs).1 hpos
  have hdenpos : 0 < 2 ^ D.f + c := by exact_mod_cast hdpos
  obtain ⟨r0, hdiv, hr1, hr2'⟩ := divSpec_cases D.f s (2 ^ D.f + c) hdenpos
  generalize divSpec D.f s (2 ^ D.f + c) = q at *
  have hdivR : (s : ℝ) * sc D = ((2 ^ D.f + c : Int) : ℝ) * (q : ℝ) + (r0 : ℝ) := by
    rw [sc_cast]; exact_mod_cast hdiv
  have h1 := trunc_div_real hs hdpos hdivR (by exact_mod_cast hr1) (by exact_mod_cast hr2')
  exact ⟨hdenpos, le_trans (abs_sub_le _ (↑s / sc D / (↑(2 ^ D.f + c) / sc D)) _) (by linarith only [h1, hq])⟩

/-- the C16 bound for `tan` on the plain-integer function -/
def TanAccP (D : Layout) (a : Int) : Prop :=
  0 < 2 ^ D.f + sinPure D (2 * a + H D) ∧
    |((tanPure D a : Int) : ℝ) / sc D - tan ((a : ℝ) / sc D)| ≤ (1 + tan ((a : ℝ) / sc D) ^ 2) / 2 ^ 14

theorem tan_of_calls {D : Layout} (hf : 23 ≤ D.f) (a : Int) (εs w Θ M : ℝ) (hw0 : 0 ≤ w) (hΘ0 : 0 ≤ Θ)
    (hS : |((sinPure D (2 * a) : Int) : ℝ) / sc D - sin (2 * ((a : ℝ) / sc D))| ≤ εs)
    (hC : |((sinPure D (2 * a + H D) : Int) : ℝ) / sc D - cos (2 * ((a : ℝ) / sc D))| ≤ w + Θ * |sin (2 * ((a : ℝ) / sc D))|)
    (ht : |tan ((a : ℝ) / sc D)| ≤ M)
    (hC1 : εs + (M * w + 2 * Θ) + 2 * (1 / 2 ^ 23) ≤ (2 - (w * (1 + M ^ 2) + 2 * M * Θ)) / 2 ^ 14)
    (hC2 : w + Θ < 2 / (1 + M ^ 2)) : TanAccP D a := by
  have hcx : cos ((a : ℝ) / sc D) ≠ 0 := cos_ne_zero_dyadic a D.f
  obtain ⟨hpos, hmain⟩ := tan_struct_real _ _ _ _ _ Θ M (1 / sc D) hcx hw0 hΘ0 hS hC ht (one_div_pos.2 (sc_pos D)).le
    (inv_sc_le D 23 hf) hC1 hC2
  exact tan_pure_core a _ hpos hmain

theorem tan_struct {D : Layout} (hD : Ok D) {cv : ℝ} (hT : TailS D cv) (Θ τ M : ℝ)
    (hΘ : rrErr + (127 / 200) / 8388608 + etaMax D ≤ Θ) (hτ : cv / sc D ≤ τ)
    (hC1 : (1 / 2 ^ 32 + Θ + τ) + (M * (1 / 2 ^ 32 + τ + Θ ^ 2 / 2) + 2 * Θ) + 2 * (1 / 2 ^ 23) ≤
      (2 - ((1 / 2 ^ 32 + τ + Θ ^ 2 / 2) * (1 + M ^ 2) + 2 * M * Θ)) / 2 ^ 14)
    (hC2 : (1 / 2 ^ 32 + τ + Θ ^ 2 / 2) + Θ < 2 / (1 + M ^ 2))
    (a : Int) (hb : |(a : ℝ) / sc D| ≤ 100) (ht : |tan ((a : ℝ) / sc D)| ≤ M) : TanAccP D a := by
  obtain ⟨e2, b2⟩ := two_mul_sc D a hb
  obtain ⟨Δs, vs, eS, hvs, hΔs⟩ := sinS hD hT (2 * a) (le_trans b2 (by norm_num))
  obtain ⟨Δc, vc, eC, hvc, hΔc⟩ := cosS hD hT (2 * a) b2
  rw [e2] at eS eC
  have hΘ0 : 0 ≤ Θ := le_trans (abs_nonneg _) (le_trans hΔc hΘ)
  have hτ0 : 0 ≤ τ := le_trans (abs_nonneg _) (le_trans hvs hτ)
  have hS := sin_struct_err (gR * Kp 24) (2 * ((a : ℝ) / sc D)) Δs vs _ Θ τ gain_close
    (le_trans hΔs (le_trans (by norm_num) hΘ)) (le_trans hvs hτ)
  have hC := cos_struct_err (gR * Kp 24) (2 * ((a : ℝ) / sc D)) Δc vc _ Θ τ gain_close (le_trans hΔc hΘ) (le_trans hvc hτ)
  rw [← eS] at hS
  rw [← eC] at hC
  exact tan_of_calls hD.hf a _ _ Θ M (by positivity) hΘ0 hS hC ht hC1 hC2

theorem theta_le (D : Layout) (F : ℕ) (hF : F ≤ D.f) :
    rrErr + (127 / 200) / 8388608 + etaMax D ≤ (20185 / 1000) / 2 ^ 23 + 48 / 2 ^ F + 24 / 2 ^ 53 := by
  have := etaMax_le D F hF
  unfold rrErr
  linarith only [this]

/-- `24 ≤ D.f`: the full tan clause of C16 (`|tan x| ≤ 64`).  In these names the digits are the least `f`; `B` marks the thresholds real
analysis reaches on `tanPure` (30 / 64), `A` a second, smaller series (21 / 46 / 64) stated on the model in `TrigAccRun.lean` -/
theorem tan_accuracy_B24 {D : Layout} (hD : Ok D) (hf : 24 ≤ D.f) (a : Int) (hb : |(a : ℝ) / sc D| ≤ 100)
    (ht : |tan ((a : ℝ) / sc D)| ≤ 64) : TanAccP D a := by
  refine tan_struct hD (tailS_B hD) ((20185 / 1000) / 2 ^ 23 + 48 / 2 ^ 24 + 24 / 2 ^ 53) (259 / 10 / 2 ^ 24) 64
    (theta_le D 24 hf) (div_sc_le D 24 hf _ (by norm_num)) ?_ ?_ a hb ht
  · norm_num
  · norm_num

theorem tan_accuracy_B23 {D : Layout} (hD : Ok D) (a : Int) (hb : |(a : ℝ) / sc D| ≤ 100) (ht : |tan ((a : ℝ) / sc D)| ≤ 30) :
    TanAccP D a := by
  refine tan_struct hD (tailS_B hD) ((20185 / 1000) / 2 ^ 23 + 48 / 2 ^ 23 + 24 / 2 ^ 53) (259 / 10 / 2 ^ 23) 30
    (theta_le D 23 hD.hf) (div_sc_le D 23 hD.hf _ (by norm_num)) ?_ ?_ a hb ht
  · norm_num
  · norm_num

end Sfx.TrigAccPf

#print axioms Sfx.TrigAccPf.tan_struct
#print axioms Sfx.TrigAccPf.tan_accuracy_B24
#print axioms Sfx.TrigAccPf.tan_accuracy_B23
