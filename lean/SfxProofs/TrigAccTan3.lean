import SfxProofs.TrigAccTan
import SfxProofs.TrigAccTan3Corr
import SfxProofs.TrigAccTan3Enum
import SfxProofs.TrigAccTan3Real
/-
  TrigAccTan3.lean — the tan clause of C16 where worst-case constants do not reach: `D.f = 23` (any width: I9F23, I41F23, I105F23),
  `30 < |tan x| ≤ 64`.
  Near a pole of `tan` the reduced angle of the inner `cos` call lies in a window next to `−π/2` (`window`); on that window the CORDIC part
  has been checked EXHAUSTIVELY by the kernel (`enum_all`, 299 000 angles walked as intervals, `TrigAccTan3Enum.lean`) against a certified polynomial
  reference, which bounds the total error of the `cos` call's CORDIC part by `11.05` ulps (`cos_tail_f23`) instead of the worst-case
  `≈ 75`; only the range-reduction ANGLE error (`≤ 19.2` ulp, weighted by `|sin 2x|`) is added analytically (`cos_call_f23`).
  The `sin` call keeps its analytic bound (`sin_accuracy_94`).  `tan_of_calls` then gives the C16 bound for `|tan x| ≤ 64`
  (`tan_accuracy_f23`), and with the two analytic cases of `TrigAccTan.lean` the tan clause for every supported layout (`tan_accuracy`).
-/
namespace Sfx.TrigAccPf
open Sfx.TrigPf Real

theorem cos_tail_f23 {D : Layout} (hf : D.f = 23) (a2 : Int)
    (hw1 : 261000 / 8388608 ≤ (a2 : ℝ) / sc D + H23) (hw2 : (a2 : ℝ) / sc D + H23 < 560000 / 8388608) :
    |((tailPure D a2 : Int) : ℝ) / sc D - sin ((a2 : ℝ) / sc D)| ≤ (1105 / 100) / 8388608 := by
  have hsc := sc_f23 hf
  rw [hsc] at hw1 hw2 ⊢
  -- the offset from −H as a natural number
  have h0 : (0 : Int) ≤ a2 + 13176794 := by
    have : (0 : ℝ) ≤ (a2 : ℝ) + 13176794 := by unfold H23 at hw1; linarith only [hw1]
    exact_mod_cast this
  obtain ⟨s, hs⟩ : ∃ s : Nat, (s : Int) = a2 + 13176794 := ⟨(a2 + 13176794).toNat, by omega⟩
  have hsR : (s : ℝ) = (a2 : ℝ) + 13176794 := by exact_mod_cast hs
  have hσ : (a2 : ℝ) / 8388608 + H23 = (s : ℝ) / 8388608 := by rw [hsR]; unfold H23; ring
  rw [hσ] at hw1 hw2
  have hs1 : (261000 : ℝ) ≤ (s : ℝ) := by
    have := (div_le_div_iff_of_pos_right (by norm_num : (0 : ℝ) < 8388608)).1 hw1; exact this
  have hs2 : (s : ℝ) < 560000 := by
    have := (div_lt_div_iff_of_pos_right (by norm_num : (0 : ℝ) < 8388608)).1 hw2; exact this
  have hn1 : 261000 ≤ s := by exact_mod_cast hs1
  have hn2 : s < 560000 := by exact_mod_cast hs2
  have hg := good_int hf s (by omega) (enum_all s hn1 hn2)
  rw [show -13176794 + (s : Int) = a2 by omega] at hg
  have hen := chkInt_cast _ s hg
  obtain ⟨hd0, hd1⟩ := d_bounds
  have hsin := sin_as_cos ((a2 : ℝ) / 8388608)
  rw [hσ] at hsin
  have hσ0 : (0 : ℝ) ≤ (s : ℝ) / 8388608 := by positivity
  have hσ1 : (s : ℝ) / 8388608 ≤ 7 / 100 := by
    rw [div_le_iff₀ (by norm_num)]; norm_num; linarith only [hs2]
  have hp := poly_vs_cos ((s : ℝ) / 8388608) (π / 2 - H23) hσ0 hσ1 hd0 hd1
  -- `tail + cos = (tail + P) + (cos − P)` for the reference polynomial `P`
  rw [hsin, sub_neg_eq_add, ← add_add_sub_cancel _ _ (1 - ((s : ℝ) / 8388608) ^ 2 / 2 + ((s : ℝ) / 8388608) ^ 4 / 24)]
  exact le_trans (abs_add_le _ _) (le_trans (add_le_add hen hp) (by norm_num))

/-- the angle allowance of the `cos` call (range reduction only: `18.55 + 0.635 ≤ 19.2` units) -/
noncomputable def thC : ℝ := (192 / 10) / 8388608
/-- the vector-like part of its error: the enumerated `11.05` units and the second-order term of the angle error -/
noncomputable def wC : ℝ := (1105 / 100) / 8388608 + thC ^ 2 / 2

theorem cos_call_f23 {D : Layout} (hD : Ok D) (hf : D.f = 23) (a : Int) (hb : |(a : ℝ) / sc D| ≤ 100)
    (ht30 : 30 < |tan ((a : ℝ) / sc D)|) (ht : |tan ((a : ℝ) / sc D)| ≤ 64) :
    |((sinPure D (2 * a + H D) : Int) : ℝ) / sc D - cos (2 * ((a : ℝ) / sc D))| ≤
      wC + thC * |sin (2 * ((a : ℝ) / sc D))| := by
  have hcx : cos ((a : ℝ) / sc D) ≠ 0 := cos_ne_zero_dyadic a D.f
  obtain ⟨e2, b2⟩ := two_mul_sc D a hb
  obtain ⟨a2, m1, m2, hsp, hred⟩ := cos_reduce_angle hD (2 * a) b2
  obtain ⟨Δ, hsin, hΔ⟩ := hred ((a2 : ℝ) / sc D)
  rw [sub_self, abs_zero, add_zero] at hΔ
  rw [e2] at hsin
  rw [hsp]
  have hΔ' : |Δ| ≤ thC := le_trans hΔ (by unfold rrErr thC; norm_num)
  generalize (a : ℝ) / sc D = x at *
  -- 1 + cos 2x between 2/4097 and 2/901, so the reduced angle lies in the window
  obtain ⟨hmlo, hmhi⟩ := m_bounds x hcx ht30 ht
  have hlip : |cos (2 * x + Δ) - cos (2 * x)| ≤ thC := by
    refine le_trans (abs_cos_sub_cos_le _ _) ?_
    rw [add_sub_cancel_left]; exact hΔ'
  obtain ⟨l1, l2⟩ := abs_le.1 hlip
  obtain ⟨y1, y2⟩ := abs_le.1 (abs_sc_le m1 m2 (H_sc hD.hf))
  obtain ⟨w1, w2⟩ := window ((a2 : ℝ) / sc D) thC y1 y2 (le_refl _) (by rw [hsin]; linarith only [hmhi, l2])
    (by rw [hsin]; linarith only [hmlo, l1])
  -- the enumerated error of the CORDIC part is a vector error of `cos (2x + Δ)`: the structured form with gain `ρ = 1` exactly
  -- (`γ = 0`), angle error `Δ` from range reduction alone, and `v` = computed − true sine of the reduced angle
  have h := cos_struct_err 1 (2 * x) Δ (((tailPure D a2 : Int) : ℝ) / sc D - sin ((a2 : ℝ) / sc D)) 0 thC _
    (by rw [sub_self, abs_zero]) hΔ' (cos_tail_f23 hf a2 w1 w2)
  rw [hsin, one_mul, add_sub_cancel, zero_add] at h
  exact h

theorem tan_accuracy_f23 {D : Layout} (hD : Ok D) (hf : D.f = 23) (a : Int) (hb : |(a : ℝ) / sc D| ≤ 100)
    (ht30 : 30 < |tan ((a : ℝ) / sc D)|) (ht : |tan ((a : ℝ) / sc D)| ≤ 64) : TanAccP D a := by
  obtain ⟨e2, b2⟩ := two_mul_sc D a hb
  have hS := sin_accuracy_94 hD (2 * a) (le_trans b2 (by norm_num))
  rw [e2] at hS
  exact tan_of_calls hD.hf a _ wC thC 64 (by unfold wC thC; positivity) (by unfold thC; positivity) hS
    (cos_call_f23 hD hf a hb ht30 ht) ht (by unfold wC thC; norm_num) (by unfold wC thC; norm_num)

/-- the tan clause of C16 for every supported layout -/
theorem tan_accuracy {D : Layout} (hD : Ok D) (a : Int) (hb : |(a : ℝ) / sc D| ≤ 100) (ht : |tan ((a : ℝ) / sc D)| ≤ 64) :
    TanAccP D a := by
  by_cases h : 24 ≤ D.f
  · exact tan_accuracy_B24 hD h a hb ht
  · by_cases h30 : |tan ((a : ℝ) / sc D)| ≤ 30
    · exact tan_accuracy_B23 hD a hb h30
    · exact tan_accuracy_f23 hD (by have := hD.hf; omega) a hb (not_le.1 h30) ht

end Sfx.TrigAccPf

#print axioms Sfx.TrigAccPf.cos_tail_f23
#print axioms Sfx.TrigAccPf.tan_accuracy_f23
#print axioms Sfx.TrigAccPf.tan_accuracy
