import SfxProofs.TrigAccBase
import SfxProofs.TrigAccTan3Def
/-
  TrigAccTan3Corr.lean — the Nat-encoded CORDIC of `TrigAccTan3Def.lean` IS the plain-integer iteration of `SfxProofs/Trig.lean` for 23
  fractional bits: `run_start : ↑(Window.run es23 … Z) = (statePure 23 24 0 5094006 0 z).2.1 + B` whenever `↑Z = z + B`, `|z| ≤ H` (`B = 2^27`).
  The bounds that make the biased naturals exact come from the loop invariant `Inv` of `Trig.lean`, instantiated at `D0 = I9F23`.
  WIDTH INDEPENDENCE: `sinPure D a` depends on the layout only through `D.f` (`sinPure_width_indep`), so for `D.f = 23`
  (`I9F23`, `I41F23`, `I105F23`) the CORDIC part is the same `statePure 23 …` (`tail_f23`), and the quotient of `tan` is the same integer expression
  (`tan_quotient_f23`); the width enters only through the range checks, which `TrigPf`/`TrigAccPf` discharge for every `Ok D`.
  `good_int` turns the kernel-checked Boolean `good s` into integer inequalities about `tailPure D (-13176794 + s)`.
-/
attribute [-instance] Monoid.toNPow

namespace Sfx.TrigAccPf
open Sfx.Trans Sfx.TrigPf Window

/-- `I9F23`, the layout at which the invariant `Inv` is used for every width with 23 fractional bits -/
abbrev D0 : Layout := ⟨true, 32, 23⟩

theorem ok_D0 : Ok D0 := ⟨by decide, rfl, by decide, by decide⟩

theorem shr_cast (Y i b B : Nat) (y : Int) (hY : (Y : Int) = y + (B : Int)) (hb : b * 2 ^ i = B) :
    ((Y >>> i : Nat) : Int) = y / 2 ^ i + b := by
  subst hb
  rw [Nat.shiftRight_eq_div_pow, Int.natCast_ediv, Int.natCast_pow, hY, Int.natCast_mul, Int.natCast_pow]
  exact Int.add_mul_ediv_right _ _ (Int.ne_of_gt (two_pow_pos i))

theorem Window.run_spec : ∀ (k i b X Y Z : Nat) (x y z : Int), i + k ≤ 24 → b = 2 ^ (27 - i) →
    (X : Int) = x + 134217728 → (Y : Int) = y + 134217728 → (Z : Int) = z + 134217728 → Inv D0 i x y z →
    ((Window.run ((List.range' i k).map fun j => (angleOf j / 2 ^ (128 - 23)).toNat) i b X Y Z : Nat) : Int) =
      (statePure 23 k i x y z).2.1 + 134217728
  | 0, _, _, _, _, _, _, _, _, _, _, _, hY, _, _ => hY
  | k + 1, i, b, X, Y, Z, x, y, z, hik, hb, hX, hY, hZ, hinv => by
    obtain ⟨x', y', z', hp, hinv1⟩ : ∃ x' y' z', stepPure D0.f i x y z = (x', y', z') ∧ Inv D0 (i + 1) x' y' z' :=
      ⟨_, _, _, rfl, hinv.step ok_D0 (by omega)⟩
    have hp' : stepPure 23 i x y z = (x', y', z') := hp
    have hst : statePure 23 (k + 1) i x y z = statePure 23 k (i + 1) x' y' z' := by
      show statePure 23 k (i + 1) (stepPure 23 i x y z).1 (stepPure 23 i x y z).2.1 (stepPure 23 i x y z).2.2 = _
      rw [hp']
    have hb2 : b * 2 ^ i = 134217728 := by
      rw [hb, ← Nat.pow_add, show 27 - i + i = 27 by omega]
    have hb1 : b >>> 1 = 2 ^ (27 - (i + 1)) := by
      rw [hb, Nat.shiftRight_eq_div_pow, show 27 - i = 27 - (i + 1) + 1 by omega, Nat.pow_succ, Nat.pow_one,
        Nat.mul_div_cancel _ (by decide)]
    have he : (((angleOf i / 2 ^ (128 - 23)).toNat : Nat) : Int) = angleOf i / 2 ^ (128 - 23) :=
      Int.toNat_of_nonneg (Int.ediv_nonneg (Int.natCast_nonneg _) (Int.le_of_lt (two_pow_pos _)))
    rw [hst, List.range'_succ, List.map_cons]
    obtain ⟨b1, b2, b3, b4, b5, b6⟩ := Inv.bounds ok_D0 (by omega : i + 1 ≤ 24) hinv1
    have h23 : (2 : Int) ^ D0.f = 8388608 := by decide
    rw [h23] at b1 b2 b3 b4 b5 b6
    have sx := shr_cast X i b _ x hX hb2
    have sy := shr_cast Y i b _ y hY hb2
    have hq := (stepPure_eq 23 i x y z).symm.trans hp'
    simp only [Prod.mk.injEq] at hq
    unfold Window.run
    generalize x / 2 ^ i = qx at *
    generalize y / 2 ^ i = qy at *
    generalize angleOf i / 2 ^ (128 - 23) = ang at *
    generalize (ang.toNat : Nat) = e at *
    obtain ⟨e1, e2, e3⟩ := hq
    rcases sgnZ_cases z with ⟨hσ, hz⟩ | ⟨hσ, hz⟩ <;> rw [hσ] at e1 e2 e3
    · have hblt : Nat.blt Z 134217728 = false := by
        rw [← Bool.not_eq_true, Nat.blt_eq]; omega
      rw [hblt, cond_false]
      exact run_spec k (i + 1) _ _ _ _ x' y' z' (by omega) hb1 (by omega) (by omega) (by omega) hinv1
    · have hblt : Nat.blt Z 134217728 = true := by rw [Nat.blt_eq]; omega
      rw [hblt, cond_true]
      exact run_spec k (i + 1) _ _ _ _ x' y' z' (by omega) hb1 (by omega) (by omega) (by omega) hinv1

/-- the start value of the evaluator, tied to the generated gain literal: a change in the source breaks this line -/
theorem x0_f23 : Gc / 2 ^ (128 - 23) = 5094006 := by decide +kernel

theorem es23_eq : es23 = (List.range' 0 24).map fun j => (angleOf j / 2 ^ (128 - 23)).toNat := by decide +kernel

theorem Window.run_start (z : Int) (h1 : -13176794 ≤ z) (h2 : z ≤ 13176794) (Z : Nat) (hZ : (Z : Int) = z + 134217728) :
    ((Window.run es23 0 134217728 139311734 134217728 Z : Nat) : Int) = (statePure 23 24 0 5094006 0 z).2.1 + 134217728 := by
  have hH : H D0 = 13176794 := by decide
  have hinv : Inv D0 0 (Gc / 2 ^ (128 - 23)) 0 z := start_inv_pure ok_D0 z (by rw [hH]; exact h1) (by rw [hH]; exact h2)
  rw [x0_f23] at hinv
  rw [es23_eq]
  exact run_spec 24 0 _ _ _ Z 5094006 0 z (by decide) (by decide) (by decide) (by decide) hZ hinv

theorem sinPure_width_indep (D D' : Layout) (h : D.f = D'.f) (a : Int) : sinPure D a = sinPure D' a := by
  unfold sinPure tailPure red2 red1 pick H T P
  rw [h]

theorem tail_f23 {D : Layout} (hf : D.f = 23) (a2 : Int) : tailPure D a2 = (statePure 23 24 0 5094006 0 a2).2.1 := by
  rw [tailPure_state]
  unfold x0
  rw [hf, x0_f23]

theorem tan_quotient_f23 (D : Layout) (hf : D.f = 23) (a : Int) :
    divSpec D.f (sinPure D (2 * a)) (p2 D.f + sinPure D (2 * a + H D)) =
      divSpec 23 (sinPure D0 (2 * a)) (p2 23 + sinPure D0 (2 * a + H D0)) := by
  have hH : H D = H D0 := by unfold H; rw [hf]
  rw [sinPure_width_indep D D0 hf, sinPure_width_indep D D0 hf, hH, hf]

theorem good_int {D : Layout} (hf : D.f = 23) (s : Nat) (hs : s ≤ 26353588) (h : good s = true) :
    ChkInt (tailPure D (-13176794 + (s : Int))) s := by
  have hrun := run_start (-13176794 + (s : Int)) (by omega) (by omega) (121040934 + s) (by omega)
  rw [← tail_f23 (D := D) hf] at hrun
  unfold good chk bound at h
  simp only [Bool.and_eq_true, Nat.ble_eq] at h
  obtain ⟨g1, g2⟩ := h
  unfold ChkInt
  have hq : s * s ≤ 844424930131968 := Nat.le_trans (Nat.mul_le_mul hs hs) (by decide)
  have e4 : s * s * s * s = s * s * (s * s) := Nat.mul_assoc _ _ _
  generalize tailPure D (-13176794 + (s : Int)) = y at *
  generalize Window.run es23 0 134217728 139311734 134217728 (121040934 + s) = Y at *
  rw [e4]
  generalize s * s = q at *
  have e5 : ((q * (844424930131968 - q) : Nat) : Int) = (q : Int) * 844424930131968 - ((q * q : Nat) : Int) := by
    rw [Int.natCast_mul, Int.natCast_mul, Int.natCast_sub hq, Int.mul_sub]; rfl
  generalize q * (844424930131968 - q) = r at *
  generalize q * q = q4 at *
  omega

end Sfx.TrigAccPf
