/-
  TrigAccTan3Def.lean — first of the chain Def → Enum (the kernel evaluation) / Corr (equality with the model) → TrigAccTan3.
  A Nat-encoded copy of the 24 CORDIC steps of `sin` for 23 fractional bits, written so that the kernel evaluates it fast (literal
  constants, only GMP-accelerated `Nat` operations).  Every coordinate carries the bias `2^27 = 134217728` (`X = x + 2^27`, …), so
  `z < 0 ↔ Z < 2^27` and `x >> i = (X >>> i) - (2^27 >>> i)`.  `run` is one start angle; `walk` is a whole interval of start angles at once,
  through the first 20 steps; the last four do not change `y` in the window walked (`run_tail`).  No imports.  The names live in the
  namespace `Sfx.TrigAccPf.Window`, so that `run` and `chk` here do not clash with `Trans.run`, `TanAcc.run`, `Layout.chk`.
-/
namespace Sfx.TrigAccPf.Window

/-- the right-hand side of `chk` (see there for the literals); increasing in `s` while `s² ≤ 3·2^47`, i.e. `s ≤ 20547809 = ⌊√(3·2^47)⌋`
(`bound_mono`) -/
def bound (s : Nat) : Nat := (fun q => 1901475900342344102245054808064 + q * (844424930131968 - q)) (s * s)

/-- `|y + 2^23·(1 - σ²/2 + σ⁴/24)| ≤ 11` for the biased final `Y` of the start angle `-13176794 + s`, `σ = s / 2^23`, in exact
integer arithmetic (everything scaled by `24·2^69`).  The literals, with `U = 2^23` and the bias `2^27`:
`14167099448608935641088 = 24·2^69 = 24·U³`; `118842399609490441088607977472 = (U + 11)·24·2^69` (the term `24·U⁴` and the allowance
`11` moved to the left); `311676187869396584103936 = 22·24·2^69` (the width of the two-sided test);
`1901475900342344102245054808064 = 2^27·24·2^69` (the bias of `Y`); `844424930131968 = 24·2^45 = 12·U²` (so `q (12U² − q)` is
`12 U² s² − s⁴` for `q = s²`). -/
def chk (Y s : Nat) : Bool :=
  (fun l r => Nat.ble r l && Nat.ble l (r + 311676187869396584103936))
    (Y * 14167099448608935641088 + 118842399609490441088607977472) (bound s)

/-- what `chk (y + 2^27) s` says of the unbiased `y` (`good_int`): `|24U³·y + 24U⁴ − 12U²s² + s⁴| ≤ 11·24U³`, `U = 2^23`
(`118842243771396506390315925504 = 24U⁴`, `155838093934698292051968 = 11·24U³`) -/
def ChkInt (y : Int) (s : Nat) : Prop :=
  -155838093934698292051968 ≤ y * 14167099448608935641088 + 118842243771396506390315925504 -
      ((s * s : Nat) : Int) * 844424930131968 + ((s * s * s * s : Nat) : Int) ∧
    y * 14167099448608935641088 + 118842243771396506390315925504 - ((s * s : Nat) : Int) * 844424930131968 +
      ((s * s * s * s : Nat) : Int) ≤ 155838093934698292051968

/-- the remaining steps `i, i+1, …` (table angles `es`, `b = 2^27 >>> i`) from the biased state `X Y Z`: the final biased `y` -/
def run : List Nat → Nat → Nat → Nat → Nat → Nat → Nat
  | [], _, _, _, Y, _ => Y
  | e :: es, i, b, X, Y, Z =>
    bif Nat.blt Z 134217728 then run es (i + 1) (b >>> 1) (X + (Y >>> i) - b) (Y + b - (X >>> i)) (Z + e)
    else run es (i + 1) (b >>> 1) (X + b - (Y >>> i)) (Y + (X >>> i) - b) (Z - e)

/-- the table angles `arctan 2^-i` in units of `2^-23` (`TrigAccTan3Corr.es23_eq`) -/
def es23 : List Nat :=
  [6588397, 3889358, 2055029, 1043165, 523606, 262058, 131061, 65534, 32767, 16383, 8191, 4095, 2047, 1023, 511, 255, 127, 63, 31, 15,
    7, 3, 1, 0]

/-- the per-angle check: start state `x = ⌊gain·2^23⌋ = 5094006`, `y = 0`, `z = -13176794 + s`, biased: `139311734 = 5094006 + 2^27`,
`134217728 = 2^27`, `121040934 = 2^27 − 13176794` (`13176794` is `FRAC_PI_2` of `I9F23`) -/
def good (s : Nat) : Bool := chk (run es23 0 134217728 139311734 134217728 (121040934 + s)) s

/-- the first 20 table angles, those `walk` decides on -/
def es20 : List Nat :=
  [6588397, 3889358, 2055029, 1043165, 523606, 262058, 131061, 65534, 32767, 16383, 8191, 4095, 2047, 1023, 511, 255, 127, 63, 31, 15]
/-- the last four: `es23 = es20 ++ tail4` -/
def tail4 : List Nat := [7, 3, 1, 0]

/-- the test of the `n ≥ 1` start angles with offsets `s, …, s+n-1` that have reached the same biased `X Y` after the first 20 steps.
The last four steps do not change `y`: `0 ≤ x < 2^20`, so `x >> i = 0` for `i ≥ 20`, and `x` itself moves by `|y >> i| ≤ 9` in each of
them (hence the margins `64` on `X`, and the bounds `-9·2^20 ≤ y ≤ 0`).  `bound` is increasing, so the two-sided test of `chk` holds
for all the offsets iff its lower half holds at the last one and its upper half at the first.
The literals: `134217792 = 2^27 + 64`, `135266240 = 2^27 + 2^20 − 64`, `124780544 = 2^27 − 9·2^20`. -/
def leaf (X Y s n : Nat) : Bool :=
  Nat.ble 134217792 X && Nat.ble X 135266240 && Nat.ble 124780544 Y && Nat.ble Y 134217728 &&
  (fun l => Nat.ble (bound (s + n - 1)) l && Nat.ble l (bound s + 311676187869396584103936))
    (Y * 14167099448608935641088 + 118842399609490441088607977472)

/-- `run` over the first 20 steps and `chk` for the `n` start angles `Z, Z+1, …` (offsets `s, s+1, …`) together.  `x` and `y` depend on
the angle only through the sign decisions, and one step moves all residual angles of one sign by the same amount: the `m` angles below
the bias stay consecutive, so do the others, and each half is walked once.  (20 decisions separate 299 000 angles into 9 345 leaves of
18 707 tree nodes, against 7 200 000 single steps.) -/
def walk : List Nat → Nat → Nat → Nat → Nat → Nat → Nat → Nat → Bool
  | [], _, _, X, Y, _, s, n => leaf X Y s n
  | e :: es, i, b, X, Y, Z, s, n =>
    (fun m =>
      (Nat.ble m 0 || walk es (i + 1) (b >>> 1) (X + (Y >>> i) - b) (Y + b - (X >>> i)) (Z + e) s m) &&
      (Nat.ble n m || walk es (i + 1) (b >>> 1) (X + b - (Y >>> i)) (Y + (X >>> i) - b) (Z + m - e) (s + m) (n - m)))
    (bif Nat.ble (Z + n) 134217728 then n else 134217728 - Z)

theorem chk_eq (Y s : Nat) :
    chk Y s = (Nat.ble (bound s) (Y * 14167099448608935641088 + 118842399609490441088607977472) &&
      Nat.ble (Y * 14167099448608935641088 + 118842399609490441088607977472) (bound s + 311676187869396584103936)) := rfl

theorem bound_mono {s t : Nat} (h : s ≤ t) (ht : t * t ≤ 422212465065984) : bound s ≤ bound t := by
  unfold bound
  have hq : s * s ≤ t * t := Nat.mul_le_mul h h
  generalize s * s = q at *
  generalize t * t = q' at *
  -- with `u = B - q - q'`: `q (u + q') ≤ q' (u + q)`
  obtain ⟨u, hu⟩ : ∃ u, 844424930131968 = u + q + q' := ⟨844424930131968 - q - q', by omega⟩
  apply Nat.add_le_add_left
  rw [show 844424930131968 - q = u + q' by omega, show 844424930131968 - q' = u + q by omega, Nat.mul_add, Nat.mul_add,
    Nat.mul_comm q q']
  exact Nat.add_le_add_right (Nat.mul_le_mul_right u hq) _

/-- a step with `x >> i = 0` leaves `y` as it is -/
theorem run_keep (e : Nat) (es : List Nat) (i b X Y Z : Nat) (h : X >>> i = b) :
    ∃ X' Z', run (e :: es) i b X Y Z = run es (i + 1) (b >>> 1) X' Y Z' ∧
      (X' = X + (Y >>> i) - b ∨ X' = X + b - (Y >>> i)) := by
  rw [run.eq_2]
  cases Nat.blt Z 134217728
  · exact ⟨_, _, by rw [cond_false, h, Nat.add_sub_cancel], Or.inr rfl⟩
  · exact ⟨_, _, by rw [cond_true, h, Nat.add_sub_cancel], Or.inl rfl⟩

theorem shr_eq (X i b : Nat) (h1 : b * 2 ^ i ≤ X) (h2 : X < (b + 1) * 2 ^ i) : X >>> i = b := by
  rw [Nat.shiftRight_eq_div_pow]; exact Nat.div_eq_of_lt_le h1 h2

theorem shr_bounds (Y i lo hi : Nat) (h1 : lo * 2 ^ i ≤ Y) (h2 : Y < (hi + 1) * 2 ^ i) : lo ≤ Y >>> i ∧ Y >>> i ≤ hi := by
  have hp : 0 < 2 ^ i := Nat.pow_pos (by decide)
  rw [Nat.shiftRight_eq_div_pow]
  exact ⟨(Nat.le_div_iff_mul_le hp).2 h1, Nat.lt_succ_iff.1 ((Nat.div_lt_iff_lt_mul hp).2 h2)⟩

theorem run_tail (X Y Z : Nat) (hX1 : 134217792 ≤ X) (hX2 : X ≤ 135266240) (hY1 : 124780544 ≤ Y) (hY2 : Y ≤ 134217728) :
    run tail4 20 128 X Y Z = Y := by
  have hY3 : Y < 135266304 := Nat.lt_of_le_of_lt hY2 (by decide)
  have y20 := shr_bounds Y 20 119 128 hY1 hY3
  have y21 := shr_bounds Y 21 59 64 (Nat.le_trans (by decide) hY1) (Nat.lt_of_lt_of_le hY3 (by decide))
  have y22 := shr_bounds Y 22 29 32 (Nat.le_trans (by decide) hY1) (Nat.lt_of_lt_of_le hY3 (by decide))
  have y23 := shr_bounds Y 23 14 16 (Nat.le_trans (by decide) hY1) (Nat.lt_of_lt_of_le hY3 (by decide))
  obtain ⟨X1, Z1, e1, h1⟩ := run_keep 7 [3, 1, 0] 20 128 X Y Z
    (shr_eq X 20 128 (Nat.le_trans (by decide) hX1) (Nat.lt_of_le_of_lt hX2 (by decide)))
  have b1 : 134217783 ≤ X1 ∧ X1 ≤ 135266249 := by omega
  obtain ⟨X2, Z2, e2, h2⟩ := run_keep 3 [1, 0] 21 64 X1 Y Z1
    (shr_eq X1 21 64 (Nat.le_trans (by decide) b1.1) (Nat.lt_of_le_of_lt b1.2 (by decide)))
  have b2 : 134217778 ≤ X2 ∧ X2 ≤ 135266254 := by omega
  obtain ⟨X3, Z3, e3, h3⟩ := run_keep 1 [0] 22 32 X2 Y Z2
    (shr_eq X2 22 32 (Nat.le_trans (by decide) b2.1) (Nat.lt_of_le_of_lt b2.2 (by decide)))
  have b3 : 134217775 ≤ X3 ∧ X3 ≤ 135266257 := by omega
  obtain ⟨X4, Z4, e4, _⟩ := run_keep 0 [] 23 16 X3 Y Z3
    (shr_eq X3 23 16 (Nat.le_trans (by decide) b3.1) (Nat.lt_of_le_of_lt b3.2 (by decide)))
  exact e1.trans (e2.trans (e3.trans e4))

/-- `s + n ≤ 20547809`: all offsets of the leaf lie where `bound` is increasing -/
theorem leaf_spec (X Y Z s n : Nat) (hs : s + n ≤ 20547809) (h : leaf X Y s n = true) (j : Nat) (hj : j < n) :
    chk (run tail4 20 128 X Y Z) (s + j) = true := by
  unfold leaf at h
  simp only [Bool.and_eq_true, Nat.ble_eq] at h
  obtain ⟨⟨⟨⟨hX1, hX2⟩, hY1⟩, hY2⟩, hlo, hhi⟩ := h
  have hsq : ∀ t, t ≤ 20547809 → t * t ≤ 422212465065984 := fun t ht => Nat.le_trans (Nat.mul_le_mul ht ht) (by decide)
  have m1 := bound_mono (show s ≤ s + j by omega) (hsq _ (by omega))
  have m2 := bound_mono (show s + j ≤ s + n - 1 by omega) (hsq _ (by omega))
  rw [run_tail X Y Z hX1 hX2 hY1 hY2, chk_eq]
  simp only [Bool.and_eq_true, Nat.ble_eq]
  generalize Y * 14167099448608935641088 + 118842399609490441088607977472 = l at *
  exact ⟨Nat.le_trans m2 hlo, Nat.le_trans hhi (Nat.add_le_add_right m1 _)⟩

/-- `∀ e ∈ es, e ≤ 2^27`: a table angle does not exceed the bias, and the upper half starts at or above it (`Z + m ≥ 2^27`), so the
natural-number subtraction `Z + m - e` is exact -/
theorem walk_spec : ∀ (es : List Nat) (i b X Y Z s n : Nat), (∀ e ∈ es, e ≤ 134217728) → i + es.length = 20 →
    b = 134217728 >>> i → s + n ≤ 20547809 → walk es i b X Y Z s n = true →
    ∀ j, j < n → chk (run (es ++ tail4) i b X Y (Z + j)) (s + j) = true
  | [], i, b, X, Y, Z, s, n, _, hi, hb, hs, h, j, hj => by
    obtain rfl : i = 20 := hi
    obtain rfl : b = 128 := hb
    exact leaf_spec X Y (Z + j) s n hs h j hj
  | e :: es, i, b, X, Y, Z, s, n, he, hi, hb, hs, h, j, hj => by
    have he' : ∀ e ∈ es, e ≤ 134217728 := fun a ha => he a (List.mem_cons_of_mem _ ha)
    have hee : e ≤ 134217728 := he e List.mem_cons_self
    have hi' : i + 1 + es.length = 20 := by rw [List.length_cons] at hi; omega
    have hb' : b >>> 1 = 134217728 >>> (i + 1) := by rw [hb, Nat.shiftRight_add]
    clear hi hb he
    unfold walk at h
    rw [List.cons_append]
    unfold run
    generalize hm : (bif Nat.ble (Z + n) 134217728 then n else 134217728 - Z) = m at h
    have hm' : (Z + n ≤ 134217728 ∧ m = n) ∨ (134217728 < Z + n ∧ m = 134217728 - Z) := by
      cases hb : Nat.ble (Z + n) 134217728
      · rw [hb, cond_false] at hm
        have : ¬ Z + n ≤ 134217728 := by rw [← Nat.ble_eq, hb]; decide
        exact Or.inr ⟨by omega, hm.symm⟩
      · rw [hb, cond_true] at hm
        exact Or.inl ⟨Nat.ble_eq ▸ hb, hm.symm⟩
    simp only [Bool.and_eq_true, Bool.or_eq_true, Nat.ble_eq] at h
    obtain ⟨h1, h2⟩ := h
    by_cases hjm : j < m
    · have hlt : Nat.blt (Z + j) 134217728 = true := by rw [Nat.blt_eq]; omega
      rw [hlt, cond_true]
      have hw := h1.resolve_left (by omega)
      have e1 : Z + j + e = Z + e + j := by omega
      rw [e1]
      exact walk_spec es _ _ _ _ _ s m he' hi' hb' (by omega) hw j hjm
    · have hlt : Nat.blt (Z + j) 134217728 = false := by
        rw [← Bool.not_eq_true, Nat.blt_eq]; omega
      rw [hlt, cond_false]
      have hw := h2.resolve_left (by omega)
      have e1 : Z + j - e = Z + m - e + (j - m) := by omega
      have e2 : s + j = s + m + (j - m) := by omega
      rw [e1, e2]
      exact walk_spec es _ _ _ _ _ (s + m) (n - m) he' hi' hb' (by omega) hw (j - m) (by omega)

end Sfx.TrigAccPf.Window
