import SfxProofs.TrigAccTan3Def
/-
  TrigAccTan3Enum.lean — second of the chain Def → Enum → TrigAccTan3 (beside Corr): the one heavy kernel evaluation.
  The kernel evaluates `walk` over the window `261000 ≤ s < 560000` of start angles next to `-π/2` (the `cos` call of `tan` near a pole).
  The ends: `s / 2^23` is the distance of the reduced angle from `-π₂₃/2`, and `30 < |tan x| ≤ 64` puts `1 + cos 2x = 2 / (1 + tan² x)`
  between `2/4097` and `2/901`, i.e. that distance between `0.0312` and `0.0667`, up to the range-reduction error (`window` in
  `TrigAccTan3Real.lean`).
-/
namespace Sfx.TrigAccPf
open Window

theorem enum_w : walk es20 0 134217728 139311734 134217728 (121040934 + 261000) 261000 299000 = true := by decide +kernel

theorem enum_all (s : Nat) (h1 : 261000 ≤ s) (h2 : s < 560000) : good s = true := by
  have := walk_spec es20 0 134217728 139311734 134217728 (121040934 + 261000) 261000 299000 (by decide) rfl rfl (by decide) enum_w
    (s - 261000) (by omega)
  rw [show 121040934 + 261000 + (s - 261000) = 121040934 + s by omega, show 261000 + (s - 261000) = s by omega] at this
  exact this

end Sfx.TrigAccPf
