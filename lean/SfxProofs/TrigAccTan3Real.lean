import SfxProofs.TrigAccAngle
import SfxProofs.TrigAccAtan
import SfxProofs.TrigAccTan3Def
import Mathlib.Analysis.SpecialFunctions.Trigonometric.Series
/-
  TrigAccTan3Real.lean — real-analysis lemmas for the kernel-enumeration route (`D.f = 23`, `30 < |tan x| ≤ 64`); no model definitions.
    * `poly_vs_cos`  : the reference polynomial of `good` against `cos (σ + d)`, `d = π/2 − H₂₃`, within `0.05` ulp on the window;
    * `window`       : the reduced angle `y₂` of the `cos` call lies in the enumerated window when `30 < |tan x| ≤ 64`;
    * `chkInt_cast`    : the integer test `Window.ChkInt` (what `good_int` concludes) on the unit scale.
-/
namespace Sfx.TrigAccPf
open Real Finset

/-- the `n`-th term of the cosine series without its sign -/
noncomputable def cterm (x : ℝ) (n : ℕ) : ℝ := x ^ (2 * n) / ((2 * n).factorial : ℝ)

theorem cterm_antitone (x : ℝ) (hx : |x| ≤ 1) : Antitone (cterm x) := by
  refine antitone_nat_of_succ_le (fun n => ?_)
  unfold cterm
  have hx2 : x ^ 2 ≤ 1 := by
    have := sq_le_sq' (neg_le_of_abs_le hx) (le_of_abs_le hx)
    simpa using this
  have e : x ^ (2 * (n + 1)) = x ^ (2 * n) * x ^ 2 := by rw [← pow_add]; congr 1
  have hp : 0 ≤ x ^ (2 * n) := by rw [pow_mul]; positivity
  have hle : x ^ (2 * (n + 1)) ≤ x ^ (2 * n) := by rw [e]; exact mul_le_of_le_one_right hp hx2
  have hf : ((2 * n).factorial : ℝ) ≤ ((2 * (n + 1)).factorial : ℝ) := by
    exact_mod_cast Nat.factorial_le (by omega)
  have hf0 : (0 : ℝ) < ((2 * n).factorial : ℝ) := by exact_mod_cast Nat.factorial_pos _
  have hp' : 0 ≤ x ^ (2 * (n + 1)) := by rw [pow_mul]; positivity
  exact div_le_div₀ hp hle hf0 hf

theorem cos_taylor4 (x : ℝ) (hx : |x| ≤ 1) :
    1 - x ^ 2 / 2 + x ^ 4 / 24 - x ^ 6 / 720 ≤ cos x ∧ cos x ≤ 1 - x ^ 2 / 2 + x ^ 4 / 24 := by
  have lo := (alt_enclosure (cterm_antitone x hx) (Real.hasSum_cos x) (fun _ => mul_div_assoc _ _ _) 2).1
  have hi := (alt_enclosure (cterm_antitone x hx) (Real.hasSum_cos x) (fun _ => mul_div_assoc _ _ _) 1).2
  simp only [show 2 * 2 = 4 by rfl, show 2 * 1 + 1 = 3 by rfl, sum_range_succ, sum_range_zero, cterm] at lo hi
  norm_num [Nat.factorial] at lo hi
  constructor <;> linarith only [lo, hi]

theorem sin_as_cos (y : ℝ) : sin y = -cos ((y + H23) + (π / 2 - H23)) := by
  have : (y + H23) + (π / 2 - H23) = y + π / 2 := by ring
  rw [this, cos_add_pi_div_two, neg_neg]

theorem poly_vs_cos (σ d : ℝ) (h0 : 0 ≤ σ) (h1 : σ ≤ 7 / 100) (hd0 : 0 ≤ d) (hd1 : d ≤ (64 / 100) / 8388608) :
    |cos (σ + d) - (1 - σ ^ 2 / 2 + σ ^ 4 / 24)| ≤ (5 / 100) / 8388608 := by
  have a1 : |cos (σ + d) - cos σ| ≤ d * (σ + d / 2) := by
    refine le_trans (cos_pert σ d) ?_
    rw [abs_of_nonneg hd0]
    have : |sin σ| ≤ σ := by have := abs_sin_le_abs (x := σ); rwa [abs_of_nonneg h0] at this
    apply mul_le_mul_of_nonneg_left (by linarith only [this]) hd0
  obtain ⟨t1, t2⟩ := cos_taylor4 σ (by rw [abs_of_nonneg h0]; linarith only [h1])
  have hE : σ ^ 6 / 720 ≤ (7 / 100) ^ 6 / 720 := div_le_div_of_nonneg_right (pow_le_pow_left₀ h0 h1 6) (by norm_num)
  have dd : d * (σ + d / 2) ≤ (64 / 100) / 8388608 * (7 / 100 + (64 / 100) / 8388608 / 2) :=
    mul_le_mul hd1 (by linarith only [h1, hd1]) (by positivity) (by positivity)
  -- the two gaps `d (σ + d/2)` and `σ⁶/720` as numbers, the polynomial as one atom
  generalize 1 - σ ^ 2 / 2 + σ ^ 4 / 24 = P at t1 t2 ⊢
  generalize σ ^ 6 / 720 = E at t1 hE
  generalize d * (σ + d / 2) = δ at a1 dd
  rw [abs_le] at a1 ⊢
  norm_num at hE dd ⊢
  constructor <;> linarith only [a1.1, a1.2, t1, t2, hE, dd]

theorem window (y2 Θ : ℝ) (h1 : -H23 ≤ y2) (h2 : y2 ≤ H23) (hΘ : Θ ≤ (192 / 10) / 8388608)
    (hs1 : sin y2 < -1 + 2 / 901 + Θ) (hs2 : -1 + 2 / 4097 - Θ ≤ sin y2) :
    261000 / 8388608 ≤ y2 + H23 ∧ y2 + H23 < 560000 / 8388608 := by
  obtain ⟨hd0, hd1⟩ := d_bounds
  have hsin : sin y2 = -cos (y2 + π / 2) := by rw [cos_add_pi_div_two, neg_neg]
  rw [hsin] at hs1 hs2
  have hs0 : 0 ≤ y2 + π / 2 := by linarith only [h1, hd0]
  constructor
  · -- too close to −π/2 would make 1 + cos 2x smaller than 2/4097: `1 − s²/2 ≤ cos s` with `s = y2 + π/2`
    have hq := one_sub_sq_div_two_le_cos (x := y2 + π / 2)
    have hnum : ((261001 : ℝ) / 8388608) ^ 2 ≤ 2 * (2 / 4097 - (192 / 10) / 8388608) := by norm_num
    have : 261001 / 8388608 ≤ y2 + π / 2 :=
      (pow_le_pow_iff_left₀ (by norm_num) hs0 two_ne_zero).1 (by linarith only [hq, hs2, hΘ, hnum])
    linarith only [hd1, this]
  · -- too far from −π/2 would make 1 + cos 2x larger than 2/901: `cos s ≤ cos 0.06675 ≤` its Taylor polynomial
    by_contra hc
    rw [not_lt] at hc
    have hmono : cos (y2 + π / 2) ≤ cos (6675 / 100000) :=
      cos_le_cos_of_nonneg_of_le_pi (by norm_num) (by linarith only [H23_le, h2]) (by linarith only [hc, hd0])
    have t2 := (cos_taylor4 (6675 / 100000) (by rw [abs_of_nonneg (by norm_num)]; norm_num)).2
    have hnum : (1 : ℝ) - (6675 / 100000) ^ 2 / 2 + (6675 / 100000) ^ 4 / 24 ≤ 1 - 2 / 901 - (192 / 10) / 8388608 := by
      norm_num
    linarith only [t2, hΘ, hs1, hmono, hnum]

theorem chkInt_cast (y : ℤ) (s : ℕ) (h : Window.ChkInt y s) :
    |(y : ℝ) / 8388608 + (1 - ((s : ℝ) / 8388608) ^ 2 / 2 + ((s : ℝ) / 8388608) ^ 4 / 24)| ≤ 11 / 8388608 := by
  have r1 := (Int.cast_le (R := ℝ)).2 h.1
  have r2 := (Int.cast_le (R := ℝ)).2 h.2
  push_cast at r1 r2
  have e : (y : ℝ) / 8388608 + (1 - ((s : ℝ) / 8388608) ^ 2 / 2 + ((s : ℝ) / 8388608) ^ 4 / 24) =
      ((y : ℝ) * 14167099448608935641088 + 118842243771396506390315925504 - ((s : ℝ) * s) * 844424930131968 +
        ((s : ℝ) * s * s * s)) / 118842243771396506390315925504 := by
    field_simp; ring
  rw [e, abs_le]
  constructor
  · rw [le_div_iff₀ (by norm_num)]; norm_num; linarith only [r1]
  · rw [div_le_iff₀ (by norm_num)]; norm_num; linarith only [r2]

end Sfx.TrigAccPf
