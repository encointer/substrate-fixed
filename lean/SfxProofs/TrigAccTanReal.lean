import Mathlib.Analysis.SpecialFunctions.Trigonometric.Complex
import Mathlib.Analysis.Real.Pi.Irrational
/-
  TrigAccTanReal.lean — real-analysis lemmas for `tan x = sin 2x / (1 + cos 2x)`; no model definitions.
  With `S ≈ sin 2x`, `C ≈ cos 2x`, `t = tan x`, `m = 1 + cos 2x = 2/(1+t²)`:
      `S/(1+C) − t = ((S − sin 2x) − t·(C − cos 2x)) / (1 + C)`                                  (`tan_quot2`),
  so an error of `C` is paid `|t|` times.  An ANGLE-type error `Θ` of `C` enters as `Θ·|sin 2x|`, and `|t|·|sin 2x| ≤ 2`
  (`tan_mul_sin_two`), so it costs `2Θ` in the numerator whatever `t`; a VECTOR-type error `w` costs `|t|·w`.  `tan_struct_real`:
      numerator   `|S − t(1+C)| ≤ εs + M·w + 2Θ`,      denominator `1 + C ≥ m − (w + Θ|sin 2x|)`,      `|t| ≤ M`,
  and the C16 bound `(1+t²)/2^14` holds as soon as the two NUMERIC side conditions `hC1`, `hC2` hold.
-/
namespace Sfx.TrigAccPf
open Real

theorem cos_ne_zero_dyadic (a : ℤ) (s : ℕ) : cos ((a : ℝ) / 2 ^ s) ≠ 0 := by
  intro h
  obtain ⟨k, hk⟩ := Real.cos_eq_zero_iff.1 h
  have hk1 : (2 * (k : ℝ) + 1) ≠ 0 := by
    have : ((2 * k + 1 : ℤ) : ℝ) ≠ 0 := by exact_mod_cast (by omega : (2 * k + 1 : ℤ) ≠ 0)
    push_cast at this; exact this
  have hp : (0 : ℝ) < 2 ^ s := by positivity
  have : π = (((2 * a : ℤ) : ℚ) / ((2 : ℚ) ^ s * ((2 * k + 1 : ℤ) : ℚ)) : ℚ) := by
    push_cast
    rw [div_eq_iff hp.ne'] at hk
    rw [eq_div_iff (mul_ne_zero hp.ne' hk1), hk]
    ring
  exact irrational_pi ⟨_, this.symm⟩

theorem sin_two_eq (x : ℝ) (hc : cos x ≠ 0) : sin (2 * x) = tan x * (1 + cos (2 * x)) := by
  rw [sin_two_mul, cos_two_mul, tan_eq_sin_div_cos]; field_simp; ring

theorem one_add_cos_two (x : ℝ) (hc : cos x ≠ 0) : (1 + cos (2 * x)) * (1 + tan x ^ 2) = 2 := by
  have h := Real.inv_one_add_tan_sq hc
  have hp : 0 < 1 + tan x ^ 2 := by positivity
  rw [cos_two_mul, ← h]; field_simp; ring

theorem one_add_cos_two_nonneg (x : ℝ) : 0 ≤ 1 + cos (2 * x) := by linarith only [neg_one_le_cos (2 * x)]

theorem one_add_cos_two_ge (x M : ℝ) (hc : cos x ≠ 0) (ht : |tan x| ≤ M) : 2 / (1 + M ^ 2) ≤ 1 + cos (2 * x) := by
  have ht2 : tan x ^ 2 ≤ M ^ 2 := sq_le_sq' (neg_le_of_abs_le ht) (le_of_abs_le ht)
  rw [div_le_iff₀ (by positivity)]
  have := mul_le_mul_of_nonneg_left (show 1 + tan x ^ 2 ≤ 1 + M ^ 2 by linarith only [ht2]) (one_add_cos_two_nonneg x)
  linarith only [this, one_add_cos_two x hc]

/-- `1 + cos 2x = 2/(1+tan² x)` -/
theorem m_bounds (x : ℝ) (hcx : cos x ≠ 0) (ht30 : 30 < |tan x|) (ht : |tan x| ≤ 64) :
    2 / 4097 ≤ 1 + cos (2 * x) ∧ 1 + cos (2 * x) < 2 / 901 := by
  have hm := one_add_cos_two x hcx
  have ht3 : (901 : ℝ) < 1 + tan x ^ 2 := by
    have h30 : (30 : ℝ) ^ 2 < |tan x| ^ 2 := pow_lt_pow_left₀ ht30 (by norm_num) (by norm_num)
    rw [sq_abs] at h30; linarith only [h30]
  have hp : 0 < 1 + cos (2 * x) := (pos_iff_pos_of_mul_pos (hm ▸ two_pos)).2 (by positivity)
  constructor
  · linarith only [one_add_cos_two_ge x 64 hcx ht]
  · rw [lt_div_iff₀ (by norm_num)]
    exact lt_of_lt_of_eq (mul_lt_mul_of_pos_left ht3 hp) hm

theorem tan_mul_sin_two (x : ℝ) (hc : cos x ≠ 0) :
    |tan x| * |sin (2 * x)| ≤ 2 ∧ |sin (2 * x)| * (1 + tan x ^ 2) = 2 * |tan x| := by
  have hm := one_add_cos_two x hc
  have hm0 := one_add_cos_two_nonneg x
  have habs : |sin (2 * x)| = |tan x| * (1 + cos (2 * x)) := by rw [sin_two_eq x hc, abs_mul, abs_of_nonneg hm0]
  have ht2 : |tan x| * |tan x| = tan x ^ 2 := by rw [abs_mul_abs_self, sq]
  rw [habs]
  constructor
  · rw [← mul_assoc, ht2]; linarith only [hm, hm0, sq_nonneg (tan x), mul_nonneg hm0 (sq_nonneg (tan x))]
  · rw [mul_assoc, hm, mul_comm]

theorem tan_quot2 (x S C εs εc εtc : ℝ) (hc : cos x ≠ 0) (hS : |S - sin (2 * x)| ≤ εs) (hC : |C - cos (2 * x)| ≤ εc)
    (hCt : |tan x| * |C - cos (2 * x)| ≤ εtc) (hε : εc < 1 + cos (2 * x)) :
    0 < 1 + C ∧ |S / (1 + C) - tan x| ≤ (εs + εtc) / (1 + cos (2 * x) - εc) := by
  have hC' := abs_le.1 hC
  have hden : 1 + cos (2 * x) - εc ≤ 1 + C := by linarith only [hC'.1]
  have hpos : 0 < 1 + cos (2 * x) - εc := by linarith only [hε]
  have hC0 : 0 < 1 + C := lt_of_lt_of_le hpos hden
  refine ⟨hC0, ?_⟩
  have e : S / (1 + C) - tan x = ((S - sin (2 * x)) - tan x * (C - cos (2 * x))) / (1 + C) := by
    rw [sin_two_eq x hc]; field_simp; ring
  rw [e, abs_div, abs_of_pos hC0]
  have hnum : |(S - sin (2 * x)) - tan x * (C - cos (2 * x))| ≤ εs + εtc := by
    refine le_trans (abs_sub _ _) ?_
    rw [abs_mul]; linarith only [hS, hCt]
  exact div_le_div₀ (le_trans (abs_nonneg _) hnum) hnum hpos hden

/-- inner calls accurate to `e ≤ 1.3·10⁻⁵` keep the denominator positive (`1 + cos 2x ≥ 2/4097` for `|tan x| ≤ 64`)
and the quotient within `65e / (2/4097 − e) ≤ 2` of `tan x` -/
theorem tan_quot_crude (x S C e : ℝ) (hc : cos x ≠ 0) (hS : |S - sin (2 * x)| ≤ e) (hC : |C - cos (2 * x)| ≤ e)
    (he : e ≤ 13 / 1000000) (ht : |tan x| ≤ 64) : 0 < 1 + C ∧ |S / (1 + C) - tan x| ≤ 2 := by
  have he0 : 0 ≤ e := le_trans (abs_nonneg _) hS
  have hm := one_add_cos_two_ge x 64 hc ht
  have hpos : 0 < 1 + cos (2 * x) - e := by linarith only [hm, he]
  obtain ⟨h1, h2⟩ := tan_quot2 x S C e e (64 * e) hc hS hC (mul_le_mul ht hC (abs_nonneg _) (by norm_num))
    (by linarith only [hpos])
  refine ⟨h1, le_trans h2 ?_⟩
  rw [div_le_iff₀ hpos]
  linarith only [hm, he, he0]

/-- from the quotient bound to the C16 allowance `(1 + tan² x) / 2^14`, `u` = one ulp for the truncating division -/
theorem tan_final (m t2 εn εc u : ℝ) (hm : m * (1 + t2) = 2) (hm2 : m ≤ 2) (hu : 0 ≤ u) (hεc : 0 ≤ εc) (hpos : εc < m)
    (h : εn + 2 * u ≤ (2 - εc * (1 + t2)) / 2 ^ 14) :
    εn / (m - εc) + u ≤ (1 + t2) / 2 ^ 14 := by
  have hp : 0 < m - εc := by linarith only [hpos]
  rw [div_add' _ _ _ hp.ne', div_le_iff₀ hp,
    show (1 + t2) / 2 ^ 14 * (m - εc) = (m * (1 + t2) - εc * (1 + t2)) / 2 ^ 14 by ring, hm]
  have : u * (m - εc) ≤ u * 2 := mul_le_mul_of_nonneg_left (by linarith only [hm2, hεc]) hu
  linarith only [this, h]

theorem tan_struct_real (x S C εs w Θ M u : ℝ) (hc : cos x ≠ 0) (hw0 : 0 ≤ w) (hΘ0 : 0 ≤ Θ)
    (hS : |S - sin (2 * x)| ≤ εs) (hC : |C - cos (2 * x)| ≤ w + Θ * |sin (2 * x)|)
    (ht : |tan x| ≤ M) (hu0 : 0 ≤ u) (hu : u ≤ 1 / 2 ^ 23)
    (hC1 : εs + (M * w + 2 * Θ) + 2 * (1 / 2 ^ 23) ≤ (2 - (w * (1 + M ^ 2) + 2 * M * Θ)) / 2 ^ 14)
    (hC2 : w + Θ < 2 / (1 + M ^ 2)) :
    0 < 1 + C ∧ |S / (1 + C) - tan x| + u ≤ (1 + tan x ^ 2) / 2 ^ 14 := by
  have hm := one_add_cos_two x hc
  obtain ⟨hts, hs2⟩ := tan_mul_sin_two x hc
  have hm2 : 1 + cos (2 * x) ≤ 2 := by linarith only [cos_le_one (2 * x)]
  have habs0 := abs_nonneg (tan x)
  have ht2 : tan x ^ 2 ≤ M ^ 2 := sq_le_sq' (neg_le_of_abs_le ht) (le_of_abs_le ht)
  have hCt : |tan x| * |C - cos (2 * x)| ≤ M * w + 2 * Θ := by
    have h1 : |tan x| * |C - cos (2 * x)| ≤ |tan x| * (w + Θ * |sin (2 * x)|) := mul_le_mul_of_nonneg_left hC habs0
    have h3 : |tan x| * w ≤ M * w := mul_le_mul_of_nonneg_right ht hw0
    have h4 : Θ * (|tan x| * |sin (2 * x)|) ≤ Θ * 2 := mul_le_mul_of_nonneg_left hts hΘ0
    linarith only [h1, h3, h4]
  have hεc : w + Θ * |sin (2 * x)| < 1 + cos (2 * x) := by
    have : Θ * |sin (2 * x)| ≤ Θ * 1 := mul_le_mul_of_nonneg_left (abs_sin_le_one _) hΘ0
    linarith only [this, hC2, one_add_cos_two_ge x M hc ht]
  obtain ⟨hpos, hq⟩ := tan_quot2 x S C _ _ _ hc hS hC hCt hεc
  refine ⟨hpos, ?_⟩
  have hside : εs + (M * w + 2 * Θ) + 2 * u ≤ (2 - (w + Θ * |sin (2 * x)|) * (1 + tan x ^ 2)) / 2 ^ 14 := by
    rw [le_div_iff₀ (by positivity)] at hC1 ⊢
    have h1 : w * (1 + tan x ^ 2) ≤ w * (1 + M ^ 2) := mul_le_mul_of_nonneg_left (by linarith only [ht2]) hw0
    have h2 : Θ * (2 * |tan x|) ≤ Θ * (2 * M) := mul_le_mul_of_nonneg_left (by linarith only [ht]) hΘ0
    have e : Θ * (|sin (2 * x)| * (1 + tan x ^ 2)) = Θ * (2 * |tan x|) := by rw [hs2]
    linarith only [hC1, hu, h1, h2, e]
  have hfin := tan_final (1 + cos (2 * x)) (tan x ^ 2) (εs + (M * w + 2 * Θ)) (w + Θ * |sin (2 * x)|) u hm hm2 hu0
    (add_nonneg hw0 (mul_nonneg hΘ0 (abs_nonneg _))) hεc hside
  linarith only [hfin, hq]

theorem abs_le_of_near {r t B M : ℝ} (h : |r - t| ≤ B) (hM : |t| + B ≤ M) : |r| ≤ M := by
  linarith only [abs_sub_abs_le_abs_sub r t, h, hM]

theorem trunc_div_real {s d q r P : ℝ} (hP : 0 < P) (hd : 0 < d) (h : s * P = d * q + r) (h1 : -d < r) (h2 : r < d) :
    |q / P - s / P / (d / P)| ≤ 1 / P := by
  have e : q / P - s / P / (d / P) = -(r / d) / P := by
    have : q = (s * P - r) / d := by rw [h]; field_simp; ring
    rw [this]; field_simp; ring
  rw [e, abs_div, abs_neg, abs_of_pos hP]
  apply div_le_div_of_nonneg_right _ hP.le
  rw [abs_div, abs_of_pos hd, div_le_one hd, abs_le]
  exact ⟨h1.le, h2.le⟩

end Sfx.TrigAccPf
