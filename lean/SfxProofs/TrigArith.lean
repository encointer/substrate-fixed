import Mathlib.Tactic.Ring
import Mathlib.Tactic.Linarith
/-
  TrigArith.lean — pure integer facts behind the CORDIC boundedness proof (`SfxProofs/Trig.lean`).
  Statements use products and quotients only (no `^`), so the file can be used from files whose statements are elaborated
  with core's `Int.pow`.
-/
namespace Sfx.TrigPf

/-- `|x| + |y| ≤ s`, as four linear inequalities -/
def L1 (x y s : Int) : Prop := x + y ≤ s ∧ x - y ≤ s ∧ -x + y ≤ s ∧ -x - y ≤ s

/-- a CORDIC micro-rotation by the cross terms `(c, d)`, in either direction, adds their norm -/
theorem L1.rot {a b c d s t : Int} (h : L1 a b s) (k : L1 c d t) :
    L1 (a + d) (b - c) (s + t) ∧ L1 (a - d) (b + c) (s + t) := by
  unfold L1 at *
  omega

theorem quot_add_le {Q u v s qu qv : Int} (hQ : 0 < Q) (hu : qu * Q ≤ u + Q) (hv : qv * Q ≤ v + Q) (h : u + v ≤ s) :
    qu + qv ≤ s / Q + 2 := by
  have hs := Int.lt_ediv_add_one_mul_self s hQ
  have : (qu + qv) * Q < (s / Q + 2 + 1) * Q := by linarith
  exact Int.le_of_lt_add_one (lt_of_mul_lt_mul_right this hQ.le)

theorem L1.quot {x y s : Int} (h : L1 x y s) {Q : Int} (hQ : 0 < Q) : L1 (x / Q) (y / Q) (s / Q + 2) := by
  obtain ⟨h1, h2, h3, h4⟩ := h
  have hx1 := Int.ediv_mul_le x hQ.ne'
  have hx2 := Int.lt_ediv_add_one_mul_self x hQ
  have hy1 := Int.ediv_mul_le y hQ.ne'
  have hy2 := Int.lt_ediv_add_one_mul_self y hQ
  exact ⟨quot_add_le hQ (by linarith) (by linarith) h1, quot_add_le hQ (by linarith) (by linarith) h2,
    quot_add_le hQ (by linarith) (by linarith) h3, quot_add_le hQ (by linarith) (by linarith) h4⟩

theorem sum_step (s n K U Q : Int) (hQ : 0 < Q) (hK : 0 ≤ K) (hU : 2 * K ≤ U) (h : s * K ≤ n * U) :
    (s + (s / Q + 2)) * K ≤ (n + n / Q + 2) * U := by
  have hs1 := Int.ediv_mul_le s hQ.ne'
  have hn2 := Int.lt_ediv_add_one_mul_self n hQ
  have key : s / Q * K ≤ (n / Q + 1) * U := by
    by_contra hc
    have h1 : ((n / Q + 1) * U + 1) * Q ≤ (s / Q * K) * Q := mul_le_mul_of_nonneg_right (by omega) hQ.le
    have h2 : (s / Q * Q) * K ≤ s * K := mul_le_mul_of_nonneg_right hs1 hK
    have h3 : n * U ≤ ((n / Q + 1) * Q - 1) * U := mul_le_mul_of_nonneg_right (by omega) (by omega)
    linarith
  linarith

theorem start_bound (x0 R g K c U : Int) (hR : 0 < R) (hK : 0 ≤ K) (h1 : x0 * R ≤ g) (h2 : g * K ≤ c * (U * R)) :
    x0 * K ≤ c * U := by
  have h3 : (x0 * R) * K ≤ g * K := mul_le_mul_of_nonneg_right h1 hK
  have h4 : (x0 * K) * R ≤ (c * U) * R := by linarith
  exact le_of_mul_le_mul_right h4 hR

theorem scale_le {c : Int} (s n K U : Int) (hK : 0 < K) (hU : 0 ≤ U) (h : s * K ≤ n * U) (hn : n ≤ c * K) : s ≤ c * U := by
  have h1 : n * U ≤ (c * K) * U := mul_le_mul_of_nonneg_right hn hU
  have h2 : s * K ≤ (c * U) * K := by linarith
  exact le_of_mul_le_mul_right h2 hK

end Sfx.TrigPf
