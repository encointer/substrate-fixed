import SfxProofs.RemLemmas
import SfxProofs.TransFacts
import SfxProofs.Trig
/-
  TrigModel.lean — C12 (totality) for `transcendental::{sin, cos, tan}` (models `Trans.sin/cos/tan`), the exact-arithmetic half of
  C16 and the iteration counts of C17, for every `Ok D`: the model computes the plain-integer functions of `Trig.lean`.
    (1) what the conversions, comparisons and unchecked operators of the three functions return on the grid of `D`;
    (2) the two reduction loops run at most once (`reduceDown_runs`, `reduceUp_runs`); the CORDIC loop never wraps: under `Inv` no
        check fires, so the loop IS the plain-integer iteration `cordicPure` (`cordicLoop_runs`);
    (3) `sin_runs`: one walk along `Trans.sin` itself (`Runs`, TRRules.lean), a chain of one rule per block (`reduce_runs`, `mirror_runs`,
        `cordic_runs`, each with the rest of the function as continuation) — `sin` returns `sinPure` from any counter value, after
        `redTicks + 24` iterations; `cos_runs`, `tan_unroll`/`tan_runs` on top of it; `run_sin`, `run_cos`, `run_tan` from counter `0`.
  `Monoid.toNPow` is erased locally so that `(2 : Int) ^ k` in the statements is core's `Int.pow`, as in the Mathlib-free files.
  The unconditional `tan` statement (`1 + cos 2a ≠ 0` and the quotient representable wherever `|tan a| ≤ 64`) needs the ACCURACY of
  `cos` and is `TrigAccPf.tan_total_64` (`SfxProofs/TrigAccRun.lean`); `tan_panic_example` shows the denominator does vanish next to
  `π/2` in `I9F23`.
-/
attribute [-instance] Monoid.toNPow

namespace Sfx.TrigPf
open Sfx.Trans Sfx.SqrtPf

theorem ltDC {D : Layout} (hD : Ok D) (x c : Int) (hx : inRange D x) (hc : inRange Trans.C c) :
    D.ltFixed Trans.C x c = decide (x < c * W D) := by
  rw [TransFacts.ltC D hD.hv x c hx hc, decide_eq_decide]
  rw [scale_eq hD.hf c]
  exact Int.mul_lt_mul_right (two_pow_pos 23)

theorem ltCD {D : Layout} (hD : Ok D) (c x : Int) (hc : inRange Trans.C c) (hx : inRange D x) :
    Trans.C.ltFixed D c x = decide (c * W D < x) := by
  rw [CmpPf.ltFixed_spec Trans.C D TransFacts.C_valid hD.hv c x hc hx, decide_eq_decide]
  show Layout.cmpInt (c * 2 ^ D.f) (x * 2 ^ 23) = -1 ↔ _
  rw [CmpPf.cmpInt_eq_neg_one_iff]
  rw [scale_eq hD.hf c]
  exact Int.mul_lt_mul_right (two_pow_pos 23)

/-- `T::lossy_from(c)` for an `I9F23` constant is exact -/
theorem lossyC_eq {D : Layout} (hD : Ok D) (c : Int) (hc : inRange Trans.C c) : Trans.lossyC D c = .ok (c * W D) false := by
  have hadm : ConvPf.lossyAdmissible Trans.C D := (TransFacts.admissible_C D hD.hs hD.hf hD.hi).2
  unfold Trans.lossyC
  rw [ConvPf.lossyFrom_spec Trans.C D TransFacts.C_valid hD.hv hadm c hc,
    ConvPf.convExact_of_le Trans.C D (by show 23 ≤ D.f; exact hD.hf) c]
  rfl

/-- `T::lossy_from(c)` for a `U0F128` constant: the floor on the grid of `D` -/
theorem lossyU_eq {D : Layout} (hD : Ok D) (c : Int) (h0 : 0 ≤ c) (h1 : c < 2 ^ 128) :
    Trans.lossyU0F128 D c = .ok (c / 2 ^ (128 - D.f)) false := by
  have hSv : (⟨false, 128, 128⟩ : Layout).valid := by decide
  have hadm : ConvPf.lossyAdmissible ⟨false, 128, 128⟩ D := by
    unfold ConvPf.lossyAdmissible
    have hne : ¬ ((⟨false, 128, 128⟩ : Layout).signed = D.signed) := by rw [hD.hs]; decide
    rw [if_neg hne]
    have := hD.f119
    exact ⟨rfl, hD.hs, by show 128 - 128 + 1 ≤ D.n - D.f; omega⟩
  have hin : inRange ⟨false, 128, 128⟩ c := by
    unfold inRange
    rw [inU_iff]
    exact ⟨h0, h1⟩
  unfold Trans.lossyU0F128
  rw [ConvPf.lossyFrom_spec _ D hSv hD.hv hadm c hin]
  show Outcome.ok (c * 2 ^ D.f / 2 ^ 128) false = _
  rw [hD.split128, Int.mul_comm (2 ^ D.f), Int.mul_ediv_mul_of_pos_left _ _ (two_pow_pos D.f)]

theorem Ok.conv {D : Layout} (hD : Ok D) : ConvFacts D :=
  TransFacts.convFacts D hD.hv (by rw [hD.hs]; exact Nat.le_trans (by decide) hD.hi)

theorem lossy_T {D : Layout} (hD : Ok D) : Trans.lossyC D Trans.TWO_PI = .ok (T D) false := lossyC_eq hD _ (by decide)

theorem lossy_H {D : Layout} (hD : Ok D) : Trans.lossyC D Trans.FRAC_PI_2 = .ok (H D) false := lossyC_eq hD _ (by decide)

theorem gt_PI {D : Layout} (hD : Ok D) (x : Int) (hx : inRange D x) : Trans.C.ltFixed D Trans.PI x = decide (P D < x) :=
  ltCD hD _ x (by decide) hx

theorem lt_negPI {D : Layout} (hD : Ok D) (x : Int) (hx : inRange D x) :
    D.ltFixed Trans.C x (-Trans.PI) = decide (x < -P D) := by
  rw [ltDC hD x _ hx (by decide), Int.neg_mul]; rfl

theorem gt_H {D : Layout} (hD : Ok D) (x : Int) (hx : inRange D x) :
    Trans.C.ltFixed D Trans.FRAC_PI_2 x = decide (H D < x) :=
  ltCD hD _ x (by decide) hx

theorem lt_negH {D : Layout} (hD : Ok D) (x : Int) (hx : inRange D x) :
    D.ltFixed Trans.C x (-Trans.FRAC_PI_2) = decide (x < -H D) := by
  rw [ltDC hD x _ hx (by decide), Int.neg_mul]; rfl

/-- `angle % T::lossy_from(TWO_PI)` -/
theorem rem_step {D : Layout} (hD : Ok D) (a : Int) (ha : inRange D a) :
    D.remOp a (T D) = .ok (Int.tmod a (T D)) false := by
  have hW := W_pos D
  have hT := T_eq D
  exact (rem_spec D a (T D) ha (inR hD (by omega) (by omega)) (by omega)).1

/-- `while angle > PI { angle -= TWO_PI }` on a remainder: at most one iteration, for any fuel `≥ 1` -/
theorem reduceDown_runs {D : Layout} (hD : Ok D) (fuel : Nat) (a0 : Int) (h1 : -T D < a0) (h2 : a0 < T D) (n : Nat) :
    Runs (Trans.reduceDown D (fuel + 1) a0) n (some (if P D < a0 then a0 - T D else a0)) (if P D < a0 then n + 1 else n) := by
  have hW := W_pos D
  have hT := T_eq D
  have hP := P_eq D
  have hr : inRange D a0 := inR hD (by omega) (by omega)
  unfold Trans.reduceDown
  by_cases hc : P D < a0
  · have hr' : inRange D (a0 - T D) := inR hD (by omega) (by omega)
    rw [if_pos hc, if_pos hc]
    refine .ite_pos (by rw [gt_PI hD a0 hr]; simp [hc]) <| .tick_bind <| .liftO_bind (lossy_T hD) <| .liftO_bind (usub_in D hD.hv _ _ hr') ?_
    cases fuel with
    | zero => exact .pure
    | succ k =>
      unfold Trans.reduceDown
      exact .ite_neg (by rw [gt_PI hD _ hr']; simp; omega) .pure
  · rw [if_neg hc, if_neg hc]
    exact .ite_neg (by rw [gt_PI hD a0 hr]; simp [hc]) .pure

/-- `while angle < -PI { angle += TWO_PI }`: at most one iteration, for any fuel `≥ 1` -/
theorem reduceUp_runs {D : Layout} (hD : Ok D) (fuel : Nat) (a0 : Int) (h1 : -T D < a0) (h2 : a0 ≤ P D) (n : Nat) :
    Runs (Trans.reduceUp D (fuel + 1) a0) n (some (if a0 < -P D then a0 + T D else a0)) (if a0 < -P D then n + 1 else n) := by
  have hW := W_pos D
  have hT := T_eq D
  have hP := P_eq D
  have hr : inRange D a0 := inR hD (by omega) (by omega)
  unfold Trans.reduceUp
  by_cases hc : a0 < -P D
  · have hr' : inRange D (a0 + T D) := inR hD (by omega) (by omega)
    rw [if_pos hc, if_pos hc]
    refine .ite_pos (by rw [lt_negPI hD a0 hr]; simp [hc]) <| .tick_bind <| .liftO_bind (lossy_T hD) <| .liftO_bind (uadd_in D hD.hv _ _ hr') ?_
    cases fuel with
    | zero => exact .pure
    | succ k =>
      unfold Trans.reduceUp
      exact .ite_neg (by rw [lt_negPI hD _ hr']; simp; omega) .pure
  · rw [if_neg hc, if_neg hc]
    exact .ite_neg (by rw [lt_negPI hD a0 hr]; simp [hc]) .pure

theorem lt_zero {D : Layout} (hD : Ok D) (z : Int) (hz : inRange D z) : D.ltFixed Trans.C z Trans.ZERO = decide (z < 0) :=
  hD.conv.lt0 z hz

theorem angle_conv {D : Layout} (hD : Ok D) (i : Nat) (hi : i < 24) :
    Trans.lossyU0F128 D (Trans.angleOf i) = .ok (Trans.angleOf i / 2 ^ (128 - D.f)) false := by
  have hlt := angle_lt i hi
  have hle : (2 : Int) ^ (128 - i) ≤ 2 ^ 128 := pow_le_pow (by omega)
  exact lossyU_eq hD _ (angle_nonneg i) (by omega)

theorem cordic_unroll {D : Layout} (hD : Ok D) {i : Nat} (hi : i < 24) {x y z : Int} (hinv : Inv D i x y z) (k n : Nat) :
    Trans.cordicLoop D (k + 1) i x y z n = Trans.cordicLoop D k (i + 1) (stepPure D.f i x y z).1 (stepPure D.f i x y z).2.1
      (stepPure D.f i x y z).2.2 (n + 1) := by
  obtain ⟨rx, ry, rz⟩ := (hinv.step hD hi).inRange hD (by omega)
  rw [Trans.cordicLoop, angle_conv hD i hi, liftO_bind, tick_bind, lt_zero hD z (hinv.inRange hD (by omega)).2.2]
  by_cases hz : z < 0
  · have e : stepPure D.f i x y z = (x + shrI y i, y - shrI x i, z + angleOf i / 2 ^ (128 - D.f)) := by
      unfold stepPure; rw [if_pos hz]; rfl
    rw [e] at rx ry rz ⊢
    rw [if_pos (by simp [hz]), uadd_in D hD.hv _ _ rx, liftO_bind, usub_in D hD.hv _ _ ry, liftO_bind, uadd_in D hD.hv _ _ rz, liftO_bind]
  · have e : stepPure D.f i x y z = (x - shrI y i, y + shrI x i, z - angleOf i / 2 ^ (128 - D.f)) := by
      unfold stepPure; rw [if_neg hz]; rfl
    rw [e] at rx ry rz ⊢
    rw [if_neg (by simp [hz]), usub_in D hD.hv _ _ rx, liftO_bind, uadd_in D hD.hv _ _ ry, liftO_bind, usub_in D hD.hv _ _ rz, liftO_bind]

theorem cordicLoop_runs {D : Layout} (hD : Ok D) : ∀ (k i : Nat) (x y z : Int), i + k = 24 → Inv D i x y z →
    ∀ n, Runs (Trans.cordicLoop D k i x y z) n (some (cordicPure D.f k i x y z)) (n + k)
  | 0, _, _, _, _, _, _, _ => .pure
  | k + 1, i, x, y, z, hik, hinv, n => by
    have ih := cordicLoop_runs hD k (i + 1) _ _ _ (by omega) (hinv.step hD (by omega)) (n + 1)
    rw [Nat.add_assoc, Nat.add_comm 1 k] at ih
    exact (cordic_unroll hD (by omega) hinv k n).trans ih

theorem start_inv {D : Layout} (hD : Ok D) (z : Int) (hz1 : -H D ≤ z) (hz2 : z ≤ H D) :
    ∃ x0 : Int, Trans.lossyU0F128 D (Int.ofNat Generated.cordicGain) = .ok x0 false ∧
      x0 = Int.ofNat Generated.cordicGain / 2 ^ (128 - D.f) ∧ Inv D 0 x0 0 z :=
  ⟨_, lossyU_eq hD _ (Int.natCast_nonneg _) gain_lt, rfl, start_inv_pure hD z hz1 hz2⟩

section
variable {D : Layout} {β : Type} {n n' : Nat} {o : Option β}

/-- the two `while` loops on a remainder: the representative `pick`, after `pickTicks` iterations -/
theorem reduce_runs (hD : Ok D) (a0 : Int) (h1 : -T D < a0) (h2 : a0 < T D) {k : Int → TR β}
    (hk : Runs (k (pick D a0)) (n + pickTicks D a0) o n') :
    Runs (reduceDown D 2 a0 >>= fun a => reduceUp D 2 a >>= k) n o n' := by
  have hW := W_pos D
  have hT := T_eq D
  have hP := P_eq D
  have hd := reduceDown_runs hD 1 a0 h1 h2 n
  unfold pick pickTicks at hk
  by_cases c1 : P D < a0
  · have hu := reduceUp_runs hD 1 (a0 - T D) (by omega) (by omega) (n + 1)
    rw [if_pos c1, if_pos c1] at hd
    rw [if_neg (by omega), if_neg (by omega)] at hu
    rw [if_pos c1, if_pos (Or.inl c1)] at hk
    exact .bind hd <| .bind hu hk
  · have hu := reduceUp_runs hD 1 a0 h1 (by omega) n
    rw [if_neg c1, if_neg c1] at hd
    rw [if_neg c1] at hk
    by_cases c2 : a0 < -P D
    · rw [if_pos c2, if_pos c2] at hu
      rw [if_pos c2, if_pos (Or.inr c2)] at hk
      exact .bind hd <| .bind hu hk
    · rw [if_neg c2, if_neg c2] at hu
      rw [if_neg c2, if_neg (by omega)] at hk
      exact .bind hd <| .bind hu hk

/-- the two mirror steps on an angle of `[-P, P]`: `red2` -/
theorem mirror_runs (hD : Ok D) (a1 : Int) (h1 : -P D ≤ a1) (h2 : a1 ≤ P D) {k : Int → TR β}
    (hk : Runs (k (red2 D a1)) n o n') :
    Runs ((if C.ltFixed D FRAC_PI_2 a1 then do
        let h ← liftO (lossyC D FRAC_PI_2)
        let h2 ← liftO (lossyC D FRAC_PI_2)
        let d ← liftO (usub D.signed D.n a1 h2)
        liftO (usub D.signed D.n h d)
      else pure a1 : TR Int) >>= fun a => (if D.ltFixed C a (-FRAC_PI_2) then do
        let h ← liftO (lossyC D FRAC_PI_2)
        let nh ← liftO (D.negOp h)
        let h2 ← liftO (lossyC D FRAC_PI_2)
        let s ← liftO (uadd D.signed D.n a h2)
        liftO (usub D.signed D.n nh s)
      else pure a : TR Int) >>= k) n o n' := by
  have hW := W_pos D
  have hP := P_eq D
  have hH := H_eq D
  have hr1 : inRange D a1 := inR hD (by omega) (by omega)
  unfold red2 at hk
  by_cases c1 : H D < a1
  · rw [if_pos c1] at hk
    have hr : inRange D (H D - (a1 - H D)) := inR hD (by omega) (by omega)
    exact .bind (.ite_pos (by rw [gt_H hD _ hr1]; simp [c1]) <| .liftO_bind (lossy_H hD) <| .liftO_bind (lossy_H hD) <|
        .liftO_bind (usub_in D hD.hv _ _ (inR hD (by omega) (by omega))) <| .liftO (usub_in D hD.hv _ _ hr)) <|
      .bind (.ite_neg (by rw [lt_negH hD _ hr]; simp; omega) .pure) hk
  · rw [if_neg c1] at hk
    refine .bind (.ite_neg (by rw [gt_H hD _ hr1]; simp [c1]) .pure) ?_
    by_cases c2 : a1 < -H D
    · rw [if_pos c2] at hk
      exact .bind (.ite_pos (by rw [lt_negH hD _ hr1]; simp [c2]) <| .liftO_bind (lossy_H hD) <|
        .liftO_bind (negOp_in D hD.hv _ (inR hD (by omega) (by omega))) <| .liftO_bind (lossy_H hD) <|
        .liftO_bind (uadd_in D hD.hv _ _ (inR hD (by omega) (by omega))) <| .liftO (usub_in D hD.hv _ _ (inR hD (by omega) (by omega)))) hk
    · rw [if_neg c2] at hk
      exact .bind (.ite_neg (by rw [lt_negH hD _ hr1]; simp [c2]) .pure) hk

/-- the start values and the 24 steps: `tailPure` -/
theorem cordic_runs (hD : Ok D) (z : Int) (hz1 : -H D ≤ z) (hz2 : z ≤ H D) :
    Runs (do
      let x ← liftO (lossyU0F128 D (Int.ofNat Generated.cordicGain))
      let zero ← liftO (fromNumI D 0)
      let (_, y) ← cordicLoop D Generated.cordicSteps 0 x zero z
      pure y) n (some (tailPure D z)) (n + 24) := by
  obtain ⟨x0, hx0, hx0e, hinv⟩ := start_inv hD z hz1 hz2
  have e : tailPure D z = (statePure D.f 24 0 x0 0 z).2.1 := by
    unfold tailPure
    rw [← hx0e, cordicPure_eq_state]
  rw [e]
  -- the pair is written out: with `cordicPure …` as the bound value the `let (_, y) ← …` of the model would evaluate the iteration
  refine .liftO_bind hx0 <| .liftO_bind (TransFacts.fromNum0 D hD.hv) <|
    .bind (v := ((statePure D.f 24 0 x0 0 z).1, (statePure D.f 24 0 x0 0 z).2.1)) (n1 := n + 24) ?_ .pure
  rw [← cordicPure_eq_state]
  exact cordicLoop_runs hD 24 0 x0 0 _ rfl hinv _
end


/-- `sin` from any counter value: the remainder, the two loops (at most one iteration in all, so the fuel guard does not fire), the two
mirror steps, the start values and the 24 CORDIC steps -/
theorem sin_runs {D : Layout} (hD : Ok D) (a : Int) (ha : inRange D a) (n : Nat) :
    Runs (Trans.sin D a) n (some (sinPure D a)) (n + (redTicks D a + 24)) := by
  have hW := W_pos D
  have hT := T_eq D
  have hP := P_eq D
  have hT0 : 0 < T D := by omega
  have hlt := Int.tmod_lt_of_pos a hT0
  have hgt := Int.lt_tmod_of_pos a hT0
  obtain ⟨-, hlo, hhi⟩ := pick_spec D (Int.tmod a (T D)) hgt hlt
  obtain ⟨-, m1, m2⟩ := red2_spec D _ hlo hhi
  have hr1 : inRange D (red1 D a) := inR hD (by unfold red1; omega) (by unfold red1; omega)
  have hguard : ¬ ((Trans.C.ltFixed D Trans.PI (red1 D a) || D.ltFixed Trans.C (red1 D a) (-Trans.PI)) = true) := by
    rw [gt_PI hD _ hr1, lt_negPI hD _ hr1]; unfold red1; simp; omega
  rw [← Nat.add_assoc]
  exact .liftO_bind (lossy_T hD) <| .liftO_bind (rem_step hD a ha) <| reduce_runs hD _ hgt hlt <| .ite_neg hguard <|
    mirror_runs hD _ hlo hhi <| cordic_runs hD _ m1 m2

theorem cos_runs {D : Layout} (hD : Ok D) (a : Int) (ha : inRange D (a + H D)) (n : Nat) :
    Runs (Trans.cos D a) n (some (sinPure D (a + H D))) (n + (redTicks D (a + H D) + 24)) :=
  .liftO_bind (lossy_H hD) <| .liftO_bind (uadd_in D hD.hv _ _ ha) <| sin_runs hD _ ha n

/-- `angle *= T::from_num(2)` is exact for `|angle| ≤ 100` -/
theorem mul_two {D : Layout} (hD : Ok D) (a : Int) (h1 : -(100 * 2 ^ D.f) ≤ a) (h2 : a ≤ 100 * 2 ^ D.f) :
    D.mulOp a (2 * 2 ^ D.f) = .ok (2 * a) false := by
  have hW := W_pos D
  have hU := U_eq hD.hf
  have hspec : mulSpec D.f a (2 * 2 ^ D.f) = 2 * a := by
    unfold mulSpec
    rw [← Int.mul_assoc, Int.mul_comm a 2, Int.mul_ediv_cancel _ (Int.ne_of_gt (two_pow_pos D.f))]
  rw [← hspec]
  exact mulOp_in D hD.hv a _ (inR hD (by omega) (by omega)) (inR hD (by omega) (by omega))
    (by rw [hspec]; exact inR hD (by omega) (by omega))

/-- `tan a = sin 2a / (1 + cos 2a)` for `|a| ≤ 100`, from any counter value: everything up to the final division is total and exact,
the two inner calls return `sinPure` values -/
theorem tan_unroll {D : Layout} (hD : Ok D) (a : Int) (h1 : -(100 * 2 ^ D.f) ≤ a) (h2 : a ≤ 100 * 2 ^ D.f) (n : Nat) :
    inRange D (2 * a) ∧ inRange D (2 * a + H D) ∧
      Trans.tan D a n = liftO (D.divOp (sinPure D (2 * a)) (2 ^ D.f + sinPure D (2 * a + H D)))
        (n + (redTicks D (2 * a) + 24 + (redTicks D (2 * a + H D) + 24))) := by
  have hW := W_pos D
  have hU := U_eq hD.hf
  have hH := H_eq D
  have hr2 : inRange D (2 * a) := inR hD (by omega) (by omega)
  have hrh : inRange D (2 * a + H D) := inR hD (by omega) (by omega)
  obtain ⟨c3, c4⟩ := sinPure_bound hD (2 * a + H D)
  have hden : inRange D (2 ^ D.f + sinPure D (2 * a + H D)) := inR hD (by omega) (by omega)
  refine ⟨hr2, hrh, ?_⟩
  unfold Trans.tan
  rw [hD.conv.fromNum2, liftO_bind, mul_two hD a h1 h2, liftO_bind, bind_of_eq _ _ _ _ _ (sin_runs hD _ hr2 n), hD.conv.fromNum1, liftO_bind,
    bind_of_eq _ _ _ _ _ (cos_runs hD _ hrh _), uadd_in D hD.hv _ _ hden, liftO_bind, Nat.add_assoc]

/-- `tan` returns the truncated quotient of the two plain-integer values as soon as the computed denominator `1 + cos 2a` is not zero
(else the division panics) and the quotient is representable (else the debug-only check fires) -/
theorem tan_runs {D : Layout} (hD : Ok D) (a : Int) (h1 : -(100 * 2 ^ D.f) ≤ a) (h2 : a ≤ 100 * 2 ^ D.f)
    (hne : 2 ^ D.f + sinPure D (2 * a + H D) ≠ 0)
    (hin : inRange D (divSpec D.f (sinPure D (2 * a)) (2 ^ D.f + sinPure D (2 * a + H D)))) (n : Nat) :
    Runs (Trans.tan D a) n (some (divSpec D.f (sinPure D (2 * a)) (2 ^ D.f + sinPure D (2 * a + H D))))
      (n + (redTicks D (2 * a) + 24 + (redTicks D (2 * a + H D) + 24))) := by
  have hW := W_pos D
  have hU := U_eq hD.hf
  obtain ⟨s1, s2⟩ := sinPure_bound hD (2 * a)
  obtain ⟨c1, c2⟩ := sinPure_bound hD (2 * a + H D)
  rw [Runs, (tan_unroll hD a h1 h2 n).2.2, divOp_in D hD.hv _ _ (inR hD (by omega) (by omega)) (inR hD (by omega) (by omega)) hne hin]
  rfl

theorem run_sin {D : Layout} (hD : Ok D) (a : Int) (ha : inRange D a) :
    Trans.run (Trans.sin D a) = .ok (some (sinPure D a), redTicks D a + 24) false := by
  have h := sin_runs hD a ha 0
  rwa [Nat.zero_add] at h

theorem run_cos {D : Layout} (hD : Ok D) (a : Int) (ha : inRange D (a + H D)) :
    Trans.run (Trans.cos D a) = .ok (some (sinPure D (a + H D)), redTicks D (a + H D) + 24) false := by
  have h := cos_runs hD a ha 0
  rwa [Nat.zero_add] at h

theorem run_tan {D : Layout} (hD : Ok D) (a : Int) (h1 : -(100 * 2 ^ D.f) ≤ a) (h2 : a ≤ 100 * 2 ^ D.f)
    (hne : 2 ^ D.f + sinPure D (2 * a + H D) ≠ 0)
    (hin : inRange D (divSpec D.f (sinPure D (2 * a)) (2 ^ D.f + sinPure D (2 * a + H D)))) :
    Trans.run (Trans.tan D a) = .ok (some (divSpec D.f (sinPure D (2 * a)) (2 ^ D.f + sinPure D (2 * a + H D))),
      redTicks D (2 * a) + 24 + (redTicks D (2 * a + H D) + 24)) false := by
  have h := tan_runs hD a h1 h2 hne hin 0
  rwa [Nat.zero_add] at h

theorem range_reduction_mod (D : Layout) (hv : D.valid) (hs : D.signed = true) (hf : 23 ≤ D.f) (hi : 9 ≤ D.intBits)
    (a : Int) (ha : inRange D a) :
    red1 D a % T D = a % T D ∧ -P D ≤ red1 D a ∧ red1 D a ≤ P D ∧ -H D ≤ red2 D (red1 D a) ∧ red2 D (red1 D a) ≤ H D := by
  obtain ⟨q, hq, l1, l2, _, m1, m2⟩ := red_spec D a
  refine ⟨?_, l1, l2, m1, m2⟩
  rw [hq, Int.add_mul_emod_self_right]

/-- `reduceDown` on the remainder, for any fuel `≥ 1`: the model's fuel 2 is never exhausted -/
theorem loops_one_iteration (D : Layout) (hv : D.valid) (hs : D.signed = true) (hf : 23 ≤ D.f) (hi : 9 ≤ D.intBits)
    (a : Int) (fuel : Nat) (n : Nat) :
    Trans.reduceDown D (fuel + 1) (Int.tmod a (T D)) n =
      .ok (some (if P D < Int.tmod a (T D) then Int.tmod a (T D) - T D else Int.tmod a (T D)),
        if P D < Int.tmod a (T D) then n + 1 else n) false := by
  have hW := W_pos D
  have hT := T_eq D
  have hT0 : 0 < T D := by omega
  exact reduceDown_runs ⟨hv, hs, hf, hi⟩ fuel _ (Int.lt_tmod_of_pos a hT0) (Int.tmod_lt_of_pos a hT0) n

/-- CORDIC boundedness from the start values of `sin`: the loop is the plain-integer iteration (no `+=`/`-=` wraps, no check
fires), takes exactly 24 ticks, and `|x| + |y| ≤ s` with `s · 2^22 ≤ 12145332 · 2^f` (`s < 2.8957 · 2^f`) at the end -/
theorem cordic_bounded (D : Layout) (hv : D.valid) (hs : D.signed = true) (hf : 23 ≤ D.f) (hi : 9 ≤ D.intBits)
    (z : Int) (hz1 : -H D ≤ z) (hz2 : z ≤ H D) :
    ∃ x' y' s : Int,
      (∀ n, Trans.cordicLoop D 24 0 (Int.ofNat Generated.cordicGain / 2 ^ (128 - D.f)) 0 z n = .ok (some (x', y'), n + 24) false) ∧
      (x', y') = cordicPure D.f 24 0 (Int.ofNat Generated.cordicGain / 2 ^ (128 - D.f)) 0 z ∧
      x' + y' ≤ s ∧ x' - y' ≤ s ∧ -x' + y' ≤ s ∧ -x' - y' ≤ s ∧ s * 4194304 ≤ 12145332 * 2 ^ D.f ∧ s ≤ 3 * 2 ^ D.f := by
  have hD : Ok D := ⟨hv, hs, hf, hi⟩
  obtain ⟨x0, _, hx0e, hinv⟩ := start_inv hD z hz1 hz2
  obtain ⟨s, b1, b2, b3, b4, hs, _, _⟩ := state_inv hD 24 0 x0 0 z (Nat.le_refl _) hinv
  have hP := two_pow_pos D.f
  have b6 : s ≤ 3 * 2 ^ D.f := scale_le s (cb 24) K _ (by decide) (by omega) hs (cb_le 24 (Nat.le_refl _))
  rw [cb_24] at hs
  have hrun := cordicLoop_runs hD 24 0 x0 0 z rfl hinv
  rw [← hx0e, cordicPure_eq_state D.f 24 0 x0 0 z] at *
  exact ⟨_, _, s, hrun, rfl, b1, b2, b3, b4, hs, b6⟩

/-- every step from a state satisfying the invariant: `Inv D i` bounds `|x_i| + |y_i|` by `cb i / 2^22 · 2^f` and `|z_i|` by
`H + 2·2^f - 2^(f+1-i)`; it is preserved, and the step is the plain-integer step -/
theorem cordic_step_bounded (D : Layout) (hv : D.valid) (hs : D.signed = true) (hf : 23 ≤ D.f) (hi : 9 ≤ D.intBits)
    (i : Nat) (hi24 : i < 24) (x y z : Int) (hinv : Inv D i x y z) :
    ∃ x' y' z' : Int, stepPure D.f i x y z = (x', y', z') ∧ Inv D (i + 1) x' y' z' ∧
      ∀ (k n : Nat), Trans.cordicLoop D (k + 1) i x y z n = Trans.cordicLoop D k (i + 1) x' y' z' (n + 1) :=
  ⟨_, _, _, rfl, hinv.step ⟨hv, hs, hf, hi⟩ hi24, cordic_unroll ⟨hv, hs, hf, hi⟩ hi24 hinv⟩

/-- the unchecked addition in `cos` is the only obstacle: at the top of the range the debug check fires -/
theorem cos_overflow_example : Trans.run (Trans.cos ⟨true, 32, 23⟩ (maxI true 32)) = .ok (some (-333763), 24) true := by
  decide +kernel

/-- the denominator hypothesis is needed: in `I9F23`, `cos(2a)` is exactly `-1` for `a = 13176740` (just below `π/2`) and `tan`
divides by zero -/
theorem tan_panic_example : Trans.run (Trans.tan ⟨true, 32, 23⟩ 13176740) = .panic := by decide +kernel

end Sfx.TrigPf

#print axioms Sfx.TrigPf.range_reduction_mod
#print axioms Sfx.TrigPf.loops_one_iteration
#print axioms Sfx.TrigPf.reduceDown_runs
#print axioms Sfx.TrigPf.reduceUp_runs
#print axioms Sfx.TrigPf.cordic_bounded
#print axioms Sfx.TrigPf.cordic_step_bounded
#print axioms Sfx.TrigPf.cordicLoop_runs
#print axioms Sfx.TrigPf.cos_overflow_example
#print axioms Sfx.TrigPf.tan_unroll
#print axioms Sfx.TrigPf.tan_panic_example
