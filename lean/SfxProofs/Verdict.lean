import SfxProofs.FmtTopRoundTrip
/-
  Verdict.lean — the formatting verdict of the correspondence check accepts everything the (proved-correct) model prints.

  The differential check judges every string printed by the REAL implementation with the executable verdict
  `TextSpec.fmtVerdict spec f neg mag out` (`none` = faithful).  `verdict_accepts_model`: for every primitive width, every
  fractional-bit count, every value, sign and format spec (six kinds, any width / alignment / `+` / `#` / `0`, precision
  `< 2^16`, a fill of one `char`), the string `out` printed by `Display.fmt` gets the verdict `none`.  So on an input where
  the real implementation prints what the model prints, the check cannot raise a false alarm.

  Proof: `fmt_correct` (C09) gives `out = assemble spec neg (render ip fp dot, ez)` and the value relations of the digits;
  the body `render ip fp dot ++ '0'^ez` is the rendering of the digit lists `ip`, `fp ++ 0^ez`; `mem_stripPadding` finds
  it among the candidates of `stripPadding` (k = left fill chars, j = right fill chars, z = padding zeros of `assemble`);
  `bodyVal_render` parses it back to `(valI R (ip ++ fp) * R^ez, |fp| + ez)`; the length test is the length law of
  `assemble`; the rounding tests are the value relations.

  The only hypothesis on the fill is that it is ONE char (`charLen fill = 1`), and only when fill is printed at all
  (`verdict_accepts_model_gen`); it cannot be dropped (`C09.verdict_needs_one_char_fill`, in SfxProps/C09Verdict.lean).
-/
namespace Sfx.VerdictPf
open Sfx.Display
open Sfx.TextSpec (FmtSpec rneDiv charLen)
open Sfx.FmtTopPf
open Sfx.ParsePf (takeWhile_digits)

theorem render_takeWhile (u : Bool) (ip fp : List Nat) (dot : Bool) (hI : ∀ d, d ∈ ip → d < 16) :
    (render u ip fp dot).takeWhile (· ≠ 46) = ip.map (encodeDigit u) := by
  have hIB := FmtPf.enc_bytes u ip hI
  unfold render
  refine (takeWhile_digits _ _ (fun b hb => by have := hIB b hb; omega) ?_).1
  cases dot
  · left; rfl
  · right; exact ⟨_, rfl⟩

theorem render_contains (u : Bool) (ip fp : List Nat) (dot : Bool) (hI : ∀ d, d ∈ ip → d < 16)
    (hF : ∀ d, d ∈ fp → d < 16) : (render u ip fp dot).contains 46 = dot := by
  have hIB := FmtPf.enc_bytes u ip hI
  have hFB := FmtPf.enc_bytes u fp hF
  unfold render
  cases dot
  · simp only [Bool.false_eq_true, if_false, List.append_nil]
    rw [List.contains_eq_mem]
    simp only [decide_eq_false_iff_not]
    intro hm
    have := hIB 46 hm; omega
  · simp

theorem render_okCase (kind : String) (ip fp : List Nat) (dot : Bool) (hI : ∀ d, d ∈ ip → d < 16)
    (hF : ∀ d, d ∈ fp → d < 16) :
    ((render (kind == "X") ip fp dot).all fun b =>
      if kind == "X" then !(decide (97 ≤ b ∧ b ≤ 102)) else !(decide (65 ≤ b ∧ b ≤ 70))) = true := by
  rw [List.all_eq_true]
  intro b hb
  have hb' := mem_render _ ip fp dot hI hF b hb
  cases hk : (kind == "X")
  · simp only [Bool.false_eq_true, if_false, Bool.not_eq_true', decide_eq_false_iff_not]
    rw [hk] at hb'
    simp only [Bool.false_eq_true, false_and, false_or, true_and] at hb'
    omega
  · simp only [if_true, Bool.not_eq_true', decide_eq_false_iff_not]
    rw [hk] at hb'
    simp only [true_and, Bool.true_eq_false, false_and, or_false] at hb'
    omega

/-- `fq` may end in zeros (the precision zeros are part of the body) -/
theorem bodyVal_render (spec : FmtSpec) (ip fq : List Nat) (hR : spec.radix ≤ 16) (hc : Canon ip)
    (hd : ∀ d, d ∈ ip ++ fq → d < spec.radix) :
    TextSpec.bodyVal spec (render (spec.kind == "X") ip fq (!fq.isEmpty))
      = some (valI spec.radix (ip ++ fq), fq.length) := by
  have hI16 : ∀ d, d ∈ ip → d < 16 := fun d h => by have := hd d (List.mem_append_left _ h); omega
  have hF16 : ∀ d, d ∈ fq → d < 16 := fun d h => by have := hd d (List.mem_append_right _ h); omega
  have hlit : TextSpec.literal spec.radix (render (spec.kind == "X") ip fq (!fq.isEmpty)) = _ :=
    literal_render spec.radix (spec.kind == "X") hR [] false ip fq (!fq.isEmpty) (Or.inr ⟨Or.inr rfl, rfl⟩) hd hc.1
      (by intro h; cases fq with
        | nil => rfl
        | cons _ _ => simp at h)
  obtain ⟨d0, ip', hip⟩ : ∃ d0 ip', ip = d0 :: ip' := by
    cases hip : ip with
    | nil => exact absurd hip hc.1
    | cons d l => exact ⟨d, l, rfl⟩
  have hhead : (render (spec.kind == "X") ip fq (!fq.isEmpty)).head? = some (encodeDigit (spec.kind == "X") d0) := by
    rw [hip]; unfold render; simp
  have hd0 : d0 < 16 := hI16 d0 (by rw [hip]; simp)
  have hne46 : encodeDigit (spec.kind == "X") d0 ≠ 46 := by
    have := FmtPf.enc_range (spec.kind == "X") d0 hd0; omega
  unfold TextSpec.bodyVal
  simp only
  rw [render_okCase spec.kind ip fq _ hI16 hF16, hhead, hlit]
  have h1 : (some (encodeDigit (spec.kind == "X") d0) == some 46) = false := by
    simp [hne46]
  have h2 : (render (spec.kind == "X") ip fq (!fq.isEmpty)).isEmpty = false := by
    rw [hip]; unfold render; simp
  rw [h1, h2]
  simp only [Bool.not_true, Bool.or_self, Bool.false_eq_true, if_false]
  rw [render_takeWhile _ ip fq _ hI16, render_contains _ ip fq _ hI16 hF16]
  have h3 : (decide ((ip.map (encodeDigit (spec.kind == "X"))).length > 1) &&
      (ip.map (encodeDigit (spec.kind == "X"))).head? == some 48) = false := by
    rcases hc.2 with h | h
    · have : d0 ≠ 0 := by rw [hip] at h; simpa using h
      have h48 : encodeDigit (spec.kind == "X") d0 ≠ 48 :=
        fun e => this ((FmtPf.enc_eq_48 _ d0 hd0).1 e)
      rw [hip]; simp [h48]
    · rw [h]; simp
  have h4 : (ip.map (encodeDigit (spec.kind == "X"))).isEmpty = false := by rw [hip]; simp
  have h5 : (!fq.isEmpty && decide (fq.length = 0)) = false := by cases fq <;> simp
  rw [h3, h4, h5]
  simp

#print axioms bodyVal_render

theorem flat_len (n : Nat) (fill : List Nat) : ((List.replicate n fill).flatten).length = n * fill.length := by
  induction n with
  | zero => simp
  | succ n ih => rw [List.replicate_succ, List.flatten_cons, List.length_append, ih, Nat.succ_mul, Nat.add_comm]

/-- innermost stage of `stripPadding`: the sign-aware zero padding -/
def stripMid (s : FmtSpec) (mid : List Nat) : List (List Nat) :=
  if s.zero then (List.range (mid.length + 1)).filterMap fun z =>
      if (mid.take z).all (· = 48) then some (mid.drop z) else none
  else [mid]

/-- middle stage of `stripPadding`: `j` fill chars on the right -/
def stripRight (s : FmtSpec) (fill : List Nat) (rest : List Nat) : List (List Nat) :=
  (List.range (rest.length / fill.length + 1)).flatMap fun j =>
    if rest.drop (rest.length - j * fill.length) ≠ (List.replicate j fill).flatten then [] else
    stripMid s (rest.take (rest.length - j * fill.length))

theorem stripPadding_eq (s : FmtSpec) (neg : Bool) (out : List Nat) :
    TextSpec.stripPadding s neg out =
      (List.range (out.length / (s.fill.getD [32]).length + 1)).flatMap fun k =>
        if out.take (k * (s.fill.getD [32]).length) ≠ (List.replicate k (s.fill.getD [32])).flatten then [] else
        if ((out.drop (k * (s.fill.getD [32]).length)).take (FmtPf.signOf s neg ++ s.prefix).length)
            ≠ FmtPf.signOf s neg ++ s.prefix then [] else
        stripRight s (s.fill.getD [32])
          ((out.drop (k * (s.fill.getD [32]).length)).drop (FmtPf.signOf s neg ++ s.prefix).length) := rfl

theorem mem_stripMid (s : FmtSpec) (z : Nat) (body : List Nat) (hz : z = 0 ∨ s.zero = true) :
    body ∈ stripMid s (List.replicate z 48 ++ body) := by
  unfold stripMid
  by_cases h0 : s.zero = true
  · rw [if_pos h0, List.mem_filterMap]
    refine ⟨z, ?_, ?_⟩
    · rw [List.mem_range, List.length_append, List.length_replicate]; omega
    · rw [List.take_left' (List.length_replicate ..), List.drop_left' (List.length_replicate ..), if_pos]
      rw [List.all_eq_true]
      intro x hx
      rw [(List.mem_replicate.1 hx).2]; rfl
  · rw [if_neg h0]
    have : z = 0 := by rcases hz with h | h; exact h; exact absurd h h0
    subst this
    simp

/-- `k` fill chars is one of the counts `stripPadding` tries on a string that contains them -/
theorem mem_range_fill (k c a : Nat) (h : 0 < c ∨ k = 0) : k ∈ List.range ((a + k * c) / c + 1) := by
  rw [List.mem_range]
  rcases h with h | h
  · have : k ≤ (a + k * c) / c := (Nat.le_div_iff_mul_le h).2 (by omega)
    omega
  · rw [h]; exact Nat.succ_pos _

theorem mem_stripRight (s : FmtSpec) (fill mid x : List Nat) (r : Nat) (hfl : 0 < fill.length ∨ r = 0)
    (hx : x ∈ stripMid s mid) : x ∈ stripRight s fill (mid ++ (List.replicate r fill).flatten) := by
  unfold stripRight
  have hlen : (mid ++ (List.replicate r fill).flatten).length = mid.length + r * fill.length := by
    rw [List.length_append, flat_len]
  rw [List.mem_flatMap]
  refine ⟨r, ?_, ?_⟩
  · rw [hlen]; exact mem_range_fill r _ _ hfl
  · rw [hlen, show mid.length + r * fill.length - r * fill.length = mid.length from by omega,
      List.drop_left' rfl, List.take_left' rfl]
    rw [if_neg (fun h => h rfl)]
    exact hx

theorem mem_stripOuter (s : FmtSpec) (neg : Bool) (l : Nat) (rest x : List Nat)
    (hfl : 0 < (s.fill.getD [32]).length ∨ l = 0)
    (hx : x ∈ stripRight s (s.fill.getD [32]) rest) :
    x ∈ TextSpec.stripPadding s neg
      ((List.replicate l (s.fill.getD [32])).flatten ++ ((FmtPf.signOf s neg ++ s.prefix) ++ rest)) := by
  rw [stripPadding_eq]
  generalize s.fill.getD [32] = fill at *
  generalize FmtPf.signOf s neg ++ s.prefix = head at *
  have hlen : ((List.replicate l fill).flatten ++ (head ++ rest)).length = l * fill.length + (head ++ rest).length := by
    rw [List.length_append, flat_len]
  rw [List.mem_flatMap]
  refine ⟨l, ?_, ?_⟩
  · rw [hlen, Nat.add_comm (l * fill.length)]; exact mem_range_fill l _ _ hfl
  · rw [List.take_left' (flat_len l fill), List.drop_left' (flat_len l fill), List.take_left' rfl, List.drop_left' rfl]
    rw [if_neg (fun h => h rfl), if_neg (fun h => h rfl)]
    exact hx

/-- `stripPadding` finds the body.  An output `fill^l ++ sign ++ prefix ++ '0'^z ++ body ++ fill^r` (zero padding only
under the `0` flag; a non-empty fill unless no fill is printed) has `body` among the candidates. -/
theorem mem_stripPadding (s : FmtSpec) (neg : Bool) (l z r : Nat) (body : List Nat)
    (hz : z = 0 ∨ s.zero = true)
    (hfl : 0 < (s.fill.getD [32]).length ∨ (l = 0 ∧ r = 0)) :
    body ∈ TextSpec.stripPadding s neg
      ((List.replicate l (s.fill.getD [32])).flatten ++ ((FmtPf.signOf s neg ++ s.prefix) ++
        ((List.replicate z 48 ++ body) ++ (List.replicate r (s.fill.getD [32])).flatten))) := by
  apply mem_stripOuter s neg l _ body (by omega)
  apply mem_stripRight s _ _ body r (by omega)
  exact mem_stripMid s z body hz

#print axioms mem_stripPadding

/-- the verdict is `none` as soon as one candidate body passes all the tests; here for a candidate that shows exactly the
requested number of fraction digits -/
theorem verdict_none_of_cand (s : FmtSpec) (f : Nat) (neg : Bool) (mag : Nat) (out body : List Nat) (num k : Nat)
    (hmem : body ∈ TextSpec.stripPadding s neg out) (hbv : TextSpec.bodyVal s body = some (num, k))
    (hlen : charLen out = max (s.width.getD 0) ((FmtPf.signOf s neg).length + s.prefix.length + body.length))
    (hk : ∀ p, s.prec = some p → p = k)
    (hval : num = rneDiv (mag * s.radix ^ k) (2 ^ f))
    (hex : s.prec.isSome = true ∨ s.radix = 10 ∨ num * 2 ^ f = mag * s.radix ^ k) :
    TextSpec.fmtVerdict s f neg mag out = none := by
  have hq : s.prec = none ∨ s.prec = some k := by
    cases hpr : s.prec with
    | none => exact Or.inl rfl
    | some p => exact Or.inr (by rw [hk p hpr])
  unfold TextSpec.fmtVerdict
  simp only []
  rw [if_neg (by omega)]
  rw [if_pos]
  rw [List.any_eq_true]
  refine ⟨(body, (num, k)), ?_, ?_⟩
  · rw [List.mem_filterMap]
    exact ⟨body, hmem, by rw [hbv]; rfl⟩
  · have hs : (if neg = true then 1 else if s.plus = true then 1 else 0) = (FmtPf.signOf s neg).length := by
      unfold FmtPf.signOf
      cases neg
      · cases s.plus <;> rfl
      · rfl
    simp only [Bool.and_eq_true, Bool.or_eq_true, decide_eq_true_eq]
    rw [hs]
    refine ⟨⟨⟨hlen, ?_⟩, ?_⟩, ?_⟩
    · rcases hq with hq | hq <;> rw [hq] <;> exact Nat.le_refl _
    · rcases hq with hq | hq <;> rw [hq] <;> simpa using hval
    · rcases hex with h | h | h
      · exact Or.inl (Or.inl h)
      · exact Or.inl (Or.inr h)
      · exact Or.inr h

theorem render_endzeros (u : Bool) (ip fp : List Nat) (ez : Nat) :
    render u ip fp (!fp.isEmpty || decide (0 < ez)) ++ List.replicate ez 48
      = render u ip (fp ++ List.replicate ez 0) (!(fp ++ List.replicate ez 0).isEmpty) := by
  cases ez with
  | zero => simp
  | succ n =>
    have h1 : (!(fp ++ List.replicate (n + 1) 0).isEmpty) = true := by simp
    have h2 : (!fp.isEmpty || decide (0 < n + 1)) = true := by simp
    rw [h1, h2]
    unfold render
    simp only [if_true, List.map_append, List.map_replicate, FmtPf.enc_zero, List.append_assoc, List.cons_append]

theorem radix_cases (spec : FmtSpec) (hk : FmtPf.KindOk spec.kind) :
    spec.radix = 10 ∨ spec.radix = 2 ∨ spec.radix = 8 ∨ spec.radix = 16 := by
  unfold FmtSpec.radix
  rcases hk with h | h | h | h | h | h <;> rw [h] <;> simp

/-- the value clause of `DigitsOk` in the verdict's terms -/
theorem digitsOk_value {R : Nat} {prec : Option Nat} {abs fracN : Nat} {ip fp : List Nat} {ez : Nat}
    (h : DigitsOk R prec abs fracN ip fp ez) :
    (∀ p, prec = some p → p = fp.length + ez) ∧
    valI R (ip ++ fp) * R ^ ez = rneDiv (abs * R ^ (fp.length + ez)) (2 ^ fracN) ∧
    (prec.isSome = true ∨ R = 10 ∨ valI R (ip ++ fp) * R ^ ez * 2 ^ fracN = abs * R ^ (fp.length + ez)) := by
  obtain ⟨_, _, _, h3⟩ := h
  cases prec with
  | none =>
    obtain ⟨rfl, hv, hx, _⟩ := h3
    refine ⟨fun p hp => absurd hp (by simp), by simpa using hv, ?_⟩
    by_cases h10 : R = 10
    · exact Or.inr (Or.inl h10)
    · right; right; simpa using hx h10
  | some p =>
    obtain ⟨hlen, hv⟩ := h3
    exact ⟨fun q hq => (Option.some.inj hq) ▸ hlen.symm, by rw [hlen]; exact hv, Or.inl rfl⟩

/-- the fill has to be one `char` only when fill is printed at all (no `0` flag and a width) -/
theorem verdict_accepts_model_gen (spec : FmtSpec) (neg : Bool) (abs nbits fracN : Nat)
    (hn : FmtPf.WidthOk nbits) (hf : fracN ≤ nbits) (ha : abs < 2 ^ nbits) (hk : FmtPf.KindOk spec.kind)
    (hp : FmtPf.PrecOk spec.prec)
    (hfill : charLen (spec.fill.getD [32]) = 1 ∨ spec.zero = true ∨ spec.width = none)
    (out : List Nat) (h : Display.fmt spec neg abs nbits fracN = some (.ok out false)) :
    TextSpec.fmtVerdict spec fracN neg abs out = none := by
  rcases hdo : digitsOf spec.kind spec.prec abs nbits fracN with ⟨ip, fp, ez⟩
  obtain ⟨h1, hD⟩ := fmt_correct spec neg abs nbits fracN hn hf ha hk hp ip fp ez hdo
  obtain ⟨hprec, hval, hex⟩ := digitsOk_value hD
  obtain ⟨hcan, hrange, _, _⟩ := hD
  rw [h1] at h
  injection h with h
  injection h with h _
  subst h
  have hR := radix_cases spec hk
  have hR16 : spec.radix ≤ 16 := by omega
  have hR0 : 0 < spec.radix := by omega
  have hdq : ∀ d, d ∈ ip ++ (fp ++ List.replicate ez 0) → d < spec.radix := by
    intro d hd
    rw [← List.append_assoc, List.mem_append] at hd
    rcases hd with hd | hd
    · exact hrange d hd
    · rw [(List.mem_replicate.1 hd).2]; exact hR0
  have hbv := bodyVal_render spec ip (fp ++ List.replicate ez 0) hR16 hcan hdq
  rw [← List.append_assoc, show valI spec.radix (ip ++ fp ++ List.replicate ez 0) = _ from FmtRadixPf.valI_zeros_right _ _ _,
    List.length_append, List.length_replicate] at hbv
  have hbody := render_endzeros (spec.kind == "X") ip fp ez
  obtain ⟨l, z, r, hshape, hz, hzero, hsum⟩ :=
    FmtPf.assemble_shape spec neg (render (spec.kind == "X") ip fp (!fp.isEmpty || decide (0 < ez)), ez)
  simp only at hshape
  rw [hbody] at hshape
  have hlr : charLen (spec.fill.getD [32]) = 1 ∨ (l = 0 ∧ r = 0) := by
    rcases hfill with h | h | h
    · exact Or.inl h
    · exact Or.inr (hzero h)
    · right
      rw [h] at hsum
      simp only [Option.getD_none, Nat.zero_sub] at hsum
      omega
  have hcore : FmtPf.coreLen spec neg (render (spec.kind == "X") ip fp (!fp.isEmpty || decide (0 < ez)), ez)
      = (FmtPf.signOf spec neg).length + spec.prefix.length
        + (render (spec.kind == "X") ip (fp ++ List.replicate ez 0) (!(fp ++ List.replicate ez 0).isEmpty)).length := by
    unfold FmtPf.coreLen
    simp only
    rw [← hbody, List.length_append, List.length_replicate]
    omega
  rw [hcore] at hsum
  apply verdict_none_of_cand spec fracN neg abs _ _ _ _ _ hbv
  · rw [hshape, FmtPf.shape_charLen spec neg l z r _
      (render_ascii _ ip _ _ (fun d hd => by have := hdq d hd; omega)) hlr]
    omega
  · exact hprec
  · exact hval
  · exact hex
  · rw [hshape]
    apply mem_stripPadding spec neg l z r _ hz
    rcases hlr with h | h
    · left
      have : charLen (spec.fill.getD [32]) ≤ _ := List.length_filter_le _ _
      omega
    · exact Or.inr h

/-- The verdict accepts everything the model prints.  `hfill`: the fill bytes are the UTF-8 encoding of ONE `char`
(true of the default `' '` and of anything `format_args!` accepts: `charLen` counts the non-continuation bytes).  No other
condition on the fill: it may be `'0'`, `'-'`, `'+'`, `'.'`, a digit, or multi-byte — the split of the output is then
ambiguous, but the true split is always among the candidates. -/
theorem verdict_accepts_model (spec : FmtSpec) (neg : Bool) (abs nbits fracN : Nat)
    (hn : FmtPf.WidthOk nbits) (hf : fracN ≤ nbits) (ha : abs < 2 ^ nbits) (hk : FmtPf.KindOk spec.kind)
    (hp : FmtPf.PrecOk spec.prec)
    (hfill : charLen (spec.fill.getD [32]) = 1)
    (out : List Nat) (h : Display.fmt spec neg abs nbits fracN = some (.ok out false)) :
    TextSpec.fmtVerdict spec fracN neg abs out = none :=
  verdict_accepts_model_gen spec neg abs nbits fracN hn hf ha hk hp (Or.inl hfill) out h

/-- without an explicit fill (no alignment given) there is no side condition at all -/
theorem verdict_accepts_model_nofill (spec : FmtSpec) (neg : Bool) (abs nbits fracN : Nat)
    (hn : FmtPf.WidthOk nbits) (hf : fracN ≤ nbits) (ha : abs < 2 ^ nbits) (hk : FmtPf.KindOk spec.kind)
    (hp : FmtPf.PrecOk spec.prec) (hfill : spec.fill = none)
    (out : List Nat) (h : Display.fmt spec neg abs nbits fracN = some (.ok out false)) :
    TextSpec.fmtVerdict spec fracN neg abs out = none :=
  verdict_accepts_model spec neg abs nbits fracN hn hf ha hk hp (by rw [hfill]; rfl) out h

/-- non-vacuity: ambiguous splits are accepted — `{:0^#12.3x}` of `-0xA.B` in I4F4 prints `00-0xa.b0000` (fill `'0'`, which
is also a digit and the padding zero), `{:->+8.1}` of `1.5` prints `----+1.5` (fill `'-'`, the sign character), `{:+08.2}` of
`-1.5` prints `-0001.50`, and a 2-byte fill `é` (`{:é<6}` of `0.5` = `0.5ééé`, 9 bytes, 6 chars) — all with verdict `none` -/
example :
    TextSpec.fmtVerdict { kind := "x", fill := some [48], align := some '^', width := some 12, alt := true, prec := some 3 }
      4 true 0xAB [48, 48, 45, 48, 120, 97, 46, 98, 48, 48, 48, 48] = none ∧
    TextSpec.fmtVerdict { kind := "d", fill := some [45], align := some '>', plus := true, width := some 8, prec := some 1 }
      4 false 24 [45, 45, 45, 45, 43, 49, 46, 53] = none ∧
    TextSpec.fmtVerdict { kind := "d", plus := true, zero := true, width := some 8, prec := some 2 }
      4 true 24 [45, 48, 48, 48, 49, 46, 53, 48] = none ∧
    TextSpec.fmtVerdict { kind := "d", fill := some [195, 169], align := some '<', width := some 6 }
      4 false 8 [48, 46, 53, 195, 169, 195, 169, 195, 169] = none ∧
    Display.fmt { kind := "x", fill := some [48], align := some '^', width := some 12, alt := true, prec := some 3 }
      true 0xAB 8 4 = some (.ok [48, 48, 45, 48, 120, 97, 46, 98, 48, 48, 48, 48] false) ∧
    Display.fmt { kind := "d", fill := some [45], align := some '>', plus := true, width := some 8, prec := some 1 }
      false 24 8 4 = some (.ok [45, 45, 45, 45, 43, 49, 46, 53] false) ∧
    Display.fmt { kind := "d", plus := true, zero := true, width := some 8, prec := some 2 }
      true 24 8 4 = some (.ok [45, 48, 48, 48, 49, 46, 53, 48] false) ∧
    Display.fmt { kind := "d", fill := some [195, 169], align := some '<', width := some 6 }
      false 8 8 4 = some (.ok [48, 46, 53, 195, 169, 195, 169, 195, 169] false) := by decide +kernel

#print axioms verdict_accepts_model_gen
#print axioms verdict_accepts_model
#print axioms verdict_accepts_model_nofill

end Sfx.VerdictPf
