import SfxProofs.WideDivS
/-
  WideDiv.lean — correctness of the model of `src/wide_div.rs` and of `div_overflow` of `mul_div_fallback!` (core Lean only).
-/
namespace Sfx
open WideDiv

/-- `(self >> (NBITS - frac_nbits), (self << frac_nbits) as $Uns)` (or `(self, 0)`) are the two limbs of `a * 2^f` -/
theorem fallback_dividend (s : Bool) (n f : Nat) (hn32 : n < 2 ^ 31) (hf0 : f ≠ 0) (hf : f ≤ n) (a : Int) :
    (if f = n then pure (a, (0 : Int)) else do
      let k ← usub false 32 n f
      let h ← ushr n a k.toNat
      let l0 ← ushl s n a f
      pure (h, wrapU n l0) : Outcome (Int × Int))
    = .ok (a / 2 ^ (n - f), (a * 2 ^ f) % 2 ^ n) false := by
  by_cases hfn : f = n
  · subst hfn
    rw [if_pos rfl, pure_eq_ok, Nat.sub_self, Int.pow_zero, Int.ediv_one, Int.mul_emod_left]
  · rw [if_neg hfn, usub_nbits n f hn32 hf, ok_false_bind, Int.toNat_natCast, ushr_of_lt (by omega), ok_false_bind,
      ushl_of_lt s (by omega), ok_false_bind, pure_eq_ok, shrI, shlI, wrapU_wrapI]
    rfl

theorem dividend_recombine {n f : Nat} (hf : f ≤ n) (a : Int) :
    a / 2 ^ (n - f) * 2 ^ n + (a * 2 ^ f) % 2 ^ n = a * 2 ^ f := by
  have := Int.emod_add_mul_ediv (a * 2 ^ f) (2 ^ n)
  rw [← mul_pow_ediv hf, Int.mul_comm]; omega

/-- dividend `N = n1 * 2^n + n0` (`n1` of the signedness of the type, `n0` unsigned): the quotient truncated toward
zero and reduced to `2n` bits, cut into two limbs, and the remainder -/
theorem divRemFrom_spec (s : Bool) (n : Nat) (hn : 2 ≤ n) (heven : n % 2 = 0) (d n1 n0 : Int)
    (hd : inI s n d) (hd0 : d ≠ 0) (h1 : inI s n n1) (h0 : inI false n n0) :
    WideDiv.divRemFrom s n d n1 n0 =
      .ok ((wrapI s (2 * n) (Int.tdiv (n1 * 2 ^ n + n0) d) / 2 ^ n,
            wrapI s (2 * n) (Int.tdiv (n1 * 2 ^ n + n0) d) % 2 ^ n), Int.tmod (n1 * 2 ^ n + n0) d) false := by
  unfold divRemFrom
  cases s
  · have hN := inU_double_of_halves h1 h0
    rw [inU_iff] at hN hd
    have hq : inI false (2 * n) ((n1 * 2 ^ n + n0) / d) :=
      (inU_iff _ _).2 ⟨Int.ediv_nonneg hN.1 hd.1, Int.lt_of_le_of_lt (Int.ediv_le_self _ hN.1) hN.2⟩
    rw [if_neg (by decide), divRemFromU_spec n hn heven d n1 n0 ((inU_iff _ _).2 hd) hd0 h1 h0,
      Int.tdiv_eq_ediv_of_nonneg hN.1, Int.tmod_eq_emod_of_nonneg hN.1, wrapI_of_in (by omega) hq]
  · rw [if_pos rfl]
    exact divRemFromS_spec n hn heven d n1 n0 hd hd0 h1 h0

theorem divOverflowFallback_spec (s : Bool) (n f : Nat) (hn : 2 ≤ n) (heven : n % 2 = 0) (hn32 : n < 2 ^ 31) (hf : f ≤ n)
    (a b : Int) (ha : inI s n a) (hb : inI s n b) (hb0 : b ≠ 0) :
    divOverflowFallback s n f a b = .ok (ovfI s n (divSpec f a b)) false := by
  have hn0 : 0 < n := by omega
  unfold divOverflowFallback
  by_cases hf0 : f = 0
  · subst hf0
    rw [if_pos rfl, if_neg hb0, pure_eq_ok, divSpec, Int.pow_zero, Int.mul_one]
  · have hl : inI false n ((a * 2 ^ f) % 2 ^ n) := wrapU_in n _
    rw [if_neg hf0, fallback_dividend s n f hn32 hf0 hf a, ok_false_bind]
    dsimp only
    rw [divRemFrom_spec s n hn heven b _ _ hb hb0 (shr_in (n - f) ha) hl, ok_false_bind, dividend_recombine hf a]
    dsimp only
    rw [show ∀ Q, wrapI s n (Q % 2 ^ n) = wrapI s n Q from wrapI_wrapI s false n]
    exact congrArg (Outcome.ok · false) (ovf_of_double_quot s hn0 rfl (divSpec_double s hn0 hf ha hb))

theorem divRemFrom_zero (s : Bool) (n : Nat) (h l : Int) : divRemFrom s n 0 h l = .panic := by
  unfold divRemFrom
  cases s
  · rw [if_neg (by decide)]; exact divRemFromU_zero n h l
  · have : negAbs1 n 0 = (false, 0) := by simp [negAbs1, wrapU]
    rw [if_pos rfl, divRemFromS, this]
    dsimp only
    rw [divRemFromU_zero]
    rfl

theorem divOverflowFallback_zero (s : Bool) (n f : Nat) (a : Int) : divOverflowFallback s n f a 0 = .panic := by
  unfold divOverflowFallback
  by_cases hf0 : f = 0
  · rw [if_pos hf0, if_pos rfl]
  · rw [if_neg hf0]
    apply bind_eq_panic
    intro v
    dsimp only
    rw [divRemFrom_zero]; rfl

#print axioms divHalf_spec
#print axioms divRemFromU_spec
#print axioms divRemFromU_zero
#print axioms divRemFromS_spec
#print axioms divOverflowFallback_spec
#print axioms divOverflowFallback_zero

end Sfx
