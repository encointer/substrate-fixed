import SfxModel.Arith
import SfxProofs.PrimLemmas
/-
  WideDivBase.lean — helper facts shared by the proofs about `arith.rs` and `wide_div.rs` (core Lean only):
  "shift-or = multiply-add" for `upLo`, and a number as two limbs (`Split`).
-/
namespace Sfx

/-- `hi`, `lo` are the two limbs of `x` in base `B`: its quotient and remainder.  The four-limb products, the long division and the
two-limb decimal parser all compute with such pairs. -/
structure Split (B hi lo x : Int) : Prop where
  lo0 : 0 ≤ lo
  lo1 : lo < B
  eq : hi * B + lo = x

namespace Split
variable {B hi lo x : Int}

theorem of (hB : 0 < B) (x : Int) : Split B (x / B) (x % B) x :=
  ⟨(euclid x hB).2.1, (euclid x hB).2.2, (euclid x hB).1.symm⟩

theorem unique (h : Split B hi lo x) : x / B = hi ∧ x % B = lo :=
  div_mod_of_eq (Int.lt_of_le_of_lt h.lo0 h.lo1) h.eq.symm h.lo0 h.lo1

theorem le_hi_iff (h : Split B hi lo x) (m : Int) : m ≤ hi ↔ m * B ≤ x := by
  rw [← h.unique.1]; exact Int.le_ediv_iff_mul_le (Int.lt_of_le_of_lt h.lo0 h.lo1)

theorem hi_lt_iff (h : Split B hi lo x) (c : Int) : hi < c ↔ x < c * B := by
  rw [← h.unique.1]; exact Int.ediv_lt_iff_lt_mul (Int.lt_of_le_of_lt h.lo0 h.lo1)

theorem hi_in (s : Bool) {n : Nat} (hn : 0 < n) (h : Split (2 ^ n) hi lo x) (hx : inI s (2 * n) x) : inI s n hi := by
  rw [← h.unique.1, inI_ediv_pow_iff s hn, ← Nat.two_mul]; exact hx

theorem lo_in {n : Nat} (h : Split (2 ^ n) hi lo x) : inI false n lo := (inU_iff _ _).2 ⟨h.lo0, h.lo1⟩

/-- Schoolbook product of two two-limb numbers: the first column `ll·rl` with its limbs, the middle column `col12` with its limbs and its
carry `cc` (of any sign) into the fourth limb; the result in base `B·B`. -/
theorem mul {lh ll a rh rl b c1h c1l c2h c2l col12 cc : Int} (ha : Split B lh ll a) (hb : Split B rh rl b)
    (h1 : Split B c1h c1l (ll * rl)) (h2 : Split B c2h c2l col12) (hsum : lh * rl + c1h + ll * rh = col12 + cc * (B * B)) :
    Split (B * B) (lh * rh + c2h + cc * B) (c2l * B + c1l) (a * b) := by
  obtain ⟨a0, a1, ea⟩ := ha
  obtain ⟨b0, b1, eb⟩ := hb
  obtain ⟨c0, c1, e1⟩ := h1
  obtain ⟨d0, d1, e2⟩ := h2
  have hB : 0 ≤ B := by omega
  have j0 := Int.mul_nonneg d0 hB
  have j1 := Int.mul_le_mul_of_nonneg_right (show c2l ≤ B - 1 by omega) hB
  rw [Int.sub_mul, Int.one_mul] at j1
  refine ⟨by omega, by omega, ?_⟩
  subst ea eb e2
  grind

/-- Funnel shift: the limbs of `x · Z` over the base `B = W · Z`, from the pieces `lo / W`, `lo % W` of the old low limb. -/
theorem shl {W Z : Int} (hW : 0 < W) (hZ : 0 < Z) (h : Split (W * Z) hi lo x) :
    Split (W * Z) (hi * Z + lo / W) (lo % W * Z) (x * Z) ∧ 0 ≤ lo / W ∧ lo / W < Z := by
  obtain ⟨l0, l1, e⟩ := h
  have s := Split.of hW lo
  have q0 : 0 ≤ lo / W := Int.ediv_nonneg l0 (Int.le_of_lt hW)
  have q1 : lo / W < Z := by rw [Int.ediv_lt_iff_lt_mul hW, Int.mul_comm]; exact l1
  have m1 := Int.mul_le_mul_of_nonneg_right (show lo % W ≤ W - 1 by have := s.lo1; omega) (Int.le_of_lt hZ)
  rw [Int.sub_mul, Int.one_mul] at m1
  refine ⟨⟨Int.mul_nonneg s.lo0 (Int.le_of_lt hZ), by omega, ?_⟩, q0, q1⟩
  have := s.eq
  generalize lo / W = a at *
  generalize lo % W = b at *
  subst e this
  grind

end Split

namespace WideDiv

theorem upLo_eq {n : Nat} (heven : n % 2 = 0) {x y : Int} (hx0 : 0 ≤ x) (hx : x < 2 ^ (n / 2))
    (hy0 : 0 ≤ y) (hy : y < 2 ^ (n / 2)) : upLo n x y = x * 2 ^ (n / 2) + y := by
  have hB := two_pow_pos (n / 2)
  have hN := pow_half heven
  have h1 : x * 2 ^ (n / 2) ≤ (2 ^ (n / 2) - 1) * 2 ^ (n / 2) :=
    Int.mul_le_mul_of_nonneg_right (by omega) (Int.le_of_lt hB)
  rw [Int.sub_mul] at h1
  have hxk : 0 ≤ x * 2 ^ (n / 2) := Int.mul_nonneg hx0 (Int.le_of_lt hB)
  unfold upLo shlI wrapI
  simp only [Bool.false_eq_true, if_false]
  rw [wrapU_of_lt hxk (by omega)]
  exact orI_mul_add hx0 hy0 hy (by omega)

end WideDiv
end Sfx
