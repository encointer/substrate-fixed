import SfxProofs.WideDivBase
/-
  WideDivHalf.lean — one Knuth-D step on half limbs (`div_half`).
-/
namespace Sfx
namespace WideDiv

/-! One step divides `X = r * B + h` by `d`, where `B = 2^(n/2)`, `d = dh * B + dl` (`Split B dh dl d`) is normalised (`B ≤ 2 * dh`),
`r < d` is the running remainder and `h < B` the next half digit.  The estimate is `q = r / dh` with `rr = r % dh`
(`Split dh q rr r`); `m = q * dl` and `r1 = rr * B + h`. -/

theorem knuth_identity {B d dh dl r q rr h : Int} (sd : Split B dh dl d) (sr : Split dh q rr r) :
    r * B + h = q * d + (rr * B + h - q * dl) := by
  obtain ⟨-, -, ed⟩ := sd
  obtain ⟨-, -, er⟩ := sr
  subst ed er; grind

/-- the estimate is at most `B + 1`, so `m` fits the limb -/
theorem knuth_estimate {B d dh dl r q rr : Int} (hB : B ≤ 2 * dh) (sd : Split B dh dl d) (sr : Split dh q rr r)
    (hr0 : 0 ≤ r) (hr : r < d) : 0 ≤ q ∧ 0 ≤ q * dl ∧ q * dl < B * B := by
  obtain ⟨hdl0, hdl, hdd⟩ := sd
  obtain ⟨hrr0, hrr1, hrr⟩ := sr
  have hdh : 0 < dh := by omega
  have hq0 : 0 ≤ q := by
    apply Int.le_of_not_gt; intro hlt
    have h1 : q * dh ≤ (-1) * dh := Int.mul_le_mul_of_nonneg_right (by omega) (Int.le_of_lt hdh)
    omega
  have hqB : q ≤ B + 1 := by
    apply Int.le_of_not_gt; intro hlt
    have h1 : (B + 2) * dh ≤ q * dh := Int.mul_le_mul_of_nonneg_right (by omega) (Int.le_of_lt hdh)
    rw [Int.add_mul, Int.mul_comm B dh] at h1
    omega
  have hm : q * dl ≤ (B + 1) * (B - 1) := Int.mul_le_mul hqB (by omega) hdl0 (by omega)
  have hexp : (B + 1) * (B - 1) = B * B - 1 := by grind
  exact ⟨hq0, Int.mul_nonneg hq0 hdl0, by omega⟩

theorem knuth_remainder {B d dh dl q rr r h : Int} (sd : Split B dh dl d) (sr : Split dh q rr r) (hh0 : 0 ≤ h) (hh : h < B) :
    0 ≤ rr * B + h ∧ rr * B + h < d := by
  obtain ⟨hdl0, -, hdd⟩ := sd
  obtain ⟨hrr0, hrr1, -⟩ := sr
  have hB0 : 0 ≤ B := by omega
  have h0 : 0 ≤ rr * B := Int.mul_nonneg hrr0 hB0
  have h1 : rr * B ≤ (dh - 1) * B := Int.mul_le_mul_of_nonneg_right (by omega) hB0
  rw [Int.sub_mul, Int.one_mul] at h1
  constructor <;> omega

/-- the test "no carry out of `x = r1 + d` and `r2 < m`" is `x < m` on the exact integers, as `m` fits the limb -/
theorem carry_test {n : Nat} {x m : Int} (hx : 0 ≤ x) (hm : m < 2 ^ n) :
    (!!decide (inI false n x) && decide (wrapI false n x < m)) = decide (x < m) := by
  by_cases hin : inI false n x
  · rw [show wrapI false n x = x from wrapU_of_in hin]; simp [hin]
  · have : ¬ x < m := by rw [inU_iff] at hin; omega
    simp [hin, this]

/-- The correction steps.  `r1 - m ≥ -2d` because `m < 2^n ≤ 2d`: at most two corrections.  The estimate is never
below the quotient, which is not negative, so the decrements do not underflow.  The remainders are computed modulo
`2^n`, and each lies in `[0, d)`. -/
theorem corrections_spec {n : Nat} {q m r1 d X : Int} (hm0 : 0 ≤ m) (hm : m < 2 ^ n) (hr10 : 0 ≤ r1)
    (hr1 : r1 < d) (hd : d < 2 ^ n) (h2d : 2 ^ n ≤ 2 * d) (hq : q < 2 ^ n) (hX0 : 0 ≤ X)
    (hX : X = q * d + (r1 - m)) :
    (if r1 < m then do
        let q1 ← usub false n q 1
        if (!!decide (inI false n (r1 + d)) && decide (wrapI false n (r1 + d) < m)) = true then do
            let q2 ← usub false n q1 1
            pure (q2, wrapU n (wrapU n (wrapI false n (r1 + d) + d) - m))
          else pure (q1, wrapU n (wrapI false n (r1 + d) - m))
      else pure (q, wrapU n (r1 - m)) : Outcome (Int × Int)) = .ok (X / d, X % d) false := by
  have hdpos : 0 < d := by omega
  have hQ0 : 0 ≤ X / d := Int.ediv_nonneg hX0 (Int.le_of_lt hdpos)
  have hq1 : r1 < m → 1 ≤ q := fun h => by
    have := (Int.ediv_lt_iff_lt_mul hdpos).2 (show X < q * d by omega)
    omega
  have hq2 : r1 + d < m → 2 ≤ q := fun h => by
    have := (Int.ediv_lt_iff_lt_mul hdpos).2 (show X < (q - 1) * d by rw [Int.sub_mul]; omega)
    omega
  have fin : ∀ k : Int, 0 ≤ r1 - m + k * d ∧ r1 - m + k * d < d →
      Outcome.ok (q - k, wrapU n (r1 - m + k * d)) false = .ok (X / d, X % d) false := by
    intro k ⟨h0, h1⟩
    obtain ⟨e1, e2⟩ := div_mod_of_eq hdpos (P := X) (hi := q - k) (by rw [hX, Int.sub_mul]; omega) h0 h1
    rw [e1, e2, wrapU_of_lt h0 (by omega)]
  clear hX hX0 hQ0
  have hw : ∀ y c, wrapU n (wrapU n y + c) = wrapU n (y + c) := wrapI_add_left false false n
  have hw' : ∀ y c, wrapU n (wrapU n y - c) = wrapU n (y - c) := fun y c => hw y (-c)
  by_cases hc1 : r1 < m
  · have := hq1 hc1
    rw [if_pos hc1, usub_ok ((inU_iff _ _).2 (by omega)), ok_false_bind, carry_test (by omega) hm,
      show wrapI false n (r1 + d) = wrapU n (r1 + d) from rfl]
    by_cases hc3 : r1 + d < m
    · have := hq2 hc3
      rw [if_pos (decide_eq_true hc3), usub_ok ((inU_iff _ _).2 (by omega)), ok_false_bind, pure_eq_ok,
        hw, hw', show q - 1 - 1 = q - 2 by omega, show r1 + d + d - m = r1 - m + 2 * d by omega]
      exact fin 2 (by omega)
    · rw [if_neg (by simpa using hc3), pure_eq_ok, hw', show r1 + d - m = r1 - m + 1 * d by omega]
      exact fin 1 (by omega)
  · have := fin 0 (by omega)
    rw [Int.zero_mul, Int.add_zero, Int.sub_zero] at this
    rw [if_neg hc1, pure_eq_ok, this]

end WideDiv
open WideDiv

theorem divHalf_spec (n : Nat) (hn : 2 ≤ n) (heven : n % 2 = 0) (r d h : Int)
    (hd : 2 ^ (n - 1) ≤ d) (hd' : d < 2 ^ n) (hr0 : 0 ≤ r) (hr : r < d) (hh0 : 0 ≤ h) (hh : h < 2 ^ (n / 2)) :
    WideDiv.divHalf n r d h = .ok ((r * 2 ^ (n / 2) + h) / d, (r * 2 ^ (n / 2) + h) % d) false := by
  have hB := two_pow_pos (n / 2)
  have hNB : (2 : Int) ^ n = 2 ^ (n / 2) * 2 ^ (n / 2) := pow_half heven
  have hPCB : (2 : Int) ^ (n - 1) = 2 ^ (n / 2 - 1) * 2 ^ (n / 2) := by
    rw [← Int.pow_add]; congr 1; omega
  have sd := Split.of hB d
  have hdhC := (sd.le_hi_iff (2 ^ (n / 2 - 1))).2 (hPCB ▸ hd)
  have hdhB := (sd.hi_lt_iff (2 ^ (n / 2))).2 (hNB ▸ hd')
  have hdh : 0 < d / 2 ^ (n / 2) := Int.lt_of_lt_of_le (two_pow_pos _) hdhC
  have sr := Split.of hdh r
  have hB2 := Int.mul_le_mul_of_nonneg_left hdhC (show (0 : Int) ≤ 2 by decide)
  rw [← pow_split (n := n / 2) (by omega)] at hB2
  obtain ⟨hq0, hm0, hm⟩ := knuth_estimate hB2 sd sr hr0 hr
  obtain ⟨hr10, hr1⟩ := knuth_remainder sd sr hh0 hh
  have hid := knuth_identity (h := h) sd sr
  rw [← hNB] at hm
  have htd : Int.tdiv r (d / 2 ^ (n / 2)) = r / (d / 2 ^ (n / 2)) := Int.tdiv_eq_ediv_of_nonneg hr0
  have htm : Int.tmod r (d / 2 ^ (n / 2)) = r % (d / 2 ^ (n / 2)) := Int.tmod_eq_emod_of_nonneg hr0
  have hqlt : r / (d / 2 ^ (n / 2)) < 2 ^ n :=
    Int.lt_of_le_of_lt (Int.ediv_le_self _ hr0) (Int.lt_trans hr hd')
  have hqin : inI false n (Int.tdiv r (d / 2 ^ (n / 2))) := by
    rw [htd, inU_iff]; exact ⟨hq0, hqlt⟩
  have h2d := Int.mul_le_mul_of_nonneg_left hd (show (0 : Int) ≤ 2 by decide)
  rw [← pow_split (n := n) (by omega)] at h2d
  have hX0 : 0 ≤ r * 2 ^ (n / 2) + h := Int.add_nonneg (Int.mul_nonneg hr0 (Int.le_of_lt hB)) hh0
  unfold divHalf hi lo shrI ovfI
  dsimp only
  rw [udiv_of_in (Int.ne_of_gt hdh) hqin, ok_false_bind, urem_of_in (Int.ne_of_gt hdh) hqin, ok_false_bind, htd, htm,
    umul_ok ((inU_iff _ _).2 ⟨hm0, hm⟩), ok_false_bind,
    upLo_eq heven sr.lo0 (Int.lt_trans sr.lo1 hdhB) hh0 hh]
  exact corrections_spec hm0 hm hr10 hr1 hd' h2d hqlt hX0 hid

#print axioms divHalf_spec

end Sfx
