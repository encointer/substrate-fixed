import SfxProofs.WideDivU
/-
  WideDivS.lean — the signed wrapper around the unsigned `div_rem_from`.
-/
namespace Sfx

theorem tdiv_tmod_signs {A D : Int} (hA : 0 ≤ A) (sN sd : Bool) :
    Int.tdiv (if sN then -A else A) (if sd then -D else D) = (if (sN != sd) then -(A / D) else A / D) ∧
    Int.tmod (if sN then -A else A) (if sd then -D else D) = (if sN then -(A % D) else A % D) := by
  cases sN <;> cases sd <;>
    simp [Int.tdiv_neg, Int.neg_tdiv, Int.tmod_neg, Int.neg_tmod, Int.tdiv_eq_ediv_of_nonneg hA,
      Int.tmod_eq_emod_of_nonneg hA]

theorem ite_neg_natAbs (x : Int) : (if decide (x < 0) then -(x.natAbs : Int) else x.natAbs) = x := by
  by_cases h : x < 0 <;> simp only [h, decide_true, decide_false, if_true, Bool.false_eq_true, if_false] <;> omega

theorem tdiv_tmod_natAbs (N d : Int) :
    Int.tdiv N d = (if (decide (N < 0) != decide (d < 0)) then -((N.natAbs : Int) / d.natAbs) else (N.natAbs : Int) / d.natAbs) ∧
    Int.tmod N d = (if decide (N < 0) then -((N.natAbs : Int) % d.natAbs) else (N.natAbs : Int) % d.natAbs) := by
  have h := tdiv_tmod_signs (A := N.natAbs) (D := d.natAbs) (by omega) (decide (N < 0)) (decide (d < 0))
  rwa [ite_neg_natAbs, ite_neg_natAbs] at h

namespace WideDiv

theorem negAbs1_eq {n : Nat} (hn : 1 ≤ n) {d : Int} (hd : inI true n d) :
    negAbs1 n d = (decide (d < 0), (d.natAbs : Int)) := by
  have e := wrapU_abs (by omega) hd
  unfold negAbs1
  by_cases h : d < 0
  · rw [if_pos h] at e ⊢; rw [decide_eq_true h, ← e]; rfl
  · rw [if_neg h] at e ⊢; rw [decide_eq_false h, e]

/-- negating a double limb `(h, l)`: the low limb is negated modulo `2^n`, with a borrow from the high limb unless it is zero -/
theorem neg_double {n : Nat} (h : Int) {l : Int} (hl : inI false n l) :
    -(h * 2 ^ n + l) / 2 ^ n = (if inI false n (-l) then -h else -h - 1) ∧ -(h * 2 ^ n + l) % 2 ^ n = wrapU n (-l) := by
  have hN := two_pow_pos n
  rw [inU_iff] at hl
  by_cases hin : inI false n (-l)
  · rw [if_pos hin, wrapU_of_in hin]
    rw [inU_iff] at hin
    exact div_mod_of_eq hN (by rw [Int.neg_mul]; omega) hin.1 hin.2
  · rw [if_neg hin]
    rw [inU_iff] at hin
    rw [wrapU_unique (y := 2 ^ n - l) (-1) (by omega) (by omega) (by omega)]
    exact div_mod_of_eq hN (by rw [Int.sub_mul, Int.neg_mul]; omega) (by omega) (by omega)

theorem double_limb_in {n : Nat} (hn : 1 ≤ n) {n1 n0 : Int} (h1 : inI true n n1) (h0 : inI false n n0) :
    inI true (2 * n) (n1 * 2 ^ n + n0) ∧ (n1 * 2 ^ n + n0 < 0 ↔ n1 < 0) := by
  have hN := two_pow_pos n
  have e := (div_mod_of_eq hN (P := n1 * 2 ^ n + n0) rfl ((inU_iff _ _).1 h0).1 ((inU_iff _ _).1 h0).2).1
  have h2 := Int.ediv_nonneg_iff_of_pos (a := n1 * 2 ^ n + n0) hN
  rw [e] at h2
  exact ⟨(inI_double_iff true hn _).2 (e.symm ▸ h1), by omega⟩

theorem negAbs2_eq {n : Nat} (hn : 1 ≤ n) {n1 n0 : Int} (h1 : inI true n n1) (h0 : inI false n n0) :
    negAbs2 n n1 n0 = (decide (n1 * 2 ^ n + n0 < 0), ((n1 * 2 ^ n + n0).natAbs : Int) / 2 ^ n,
      ((n1 * 2 ^ n + n0).natAbs : Int) % 2 ^ n) := by
  have hp := pow_split (n := n) (by omega)
  have hP := two_pow_pos (n - 1)
  obtain ⟨_, hneg⟩ := double_limb_in hn h1 h0
  unfold negAbs2
  by_cases h : n1 < 0
  · obtain ⟨e1, e2⟩ := neg_double n1 h0
    rw [inS_iff] at h1
    rw [if_pos h, decide_eq_true (hneg.2 h), Int.ofNat_natAbs_of_nonpos (Int.le_of_lt (hneg.2 h)), e1, e2]
    simp only [ovfI, wrapI, notI, Bool.false_eq_true, if_false, if_true]
    by_cases hin : inI false n (-n0)
    · simp only [hin, decide_true, Bool.not_true, Bool.false_eq_true, if_false, if_true]
      rw [wrapU_wrapS, wrapU_of_lt (by omega) (by omega)]
    · simp only [hin, decide_false, Bool.not_false, if_true, if_false]
      rw [wrapU_wrapS, wrapU_of_lt (by omega) (by omega)]
  · obtain ⟨e1, e2⟩ := div_mod_of_eq (two_pow_pos n) rfl ((inU_iff _ _).1 h0).1 ((inU_iff _ _).1 h0).2
    rw [inS_iff] at h1
    rw [if_neg h, decide_eq_false (fun h' => h (hneg.1 h')),
      Int.natAbs_of_nonneg (Int.not_lt.1 fun h' => h (hneg.1 h')), e1, e2, wrapU_of_lt (by omega) (by omega)]

/-- `from_neg_abs` on a double-limb magnitude: negate modulo `2^(2n)` and reinterpret as signed -/
theorem fromNegAbs2_eq {n : Nat} (hn : 1 ≤ n) (neg : Bool) (q1 : Int) {q0 : Int} (h0 : inI false n q0) :
    fromNegAbs2 n neg q1 q0 =
      (wrapS (2 * n) (if neg then -(q1 * 2 ^ n + q0) else q1 * 2 ^ n + q0) / 2 ^ n,
       wrapS (2 * n) (if neg then -(q1 * 2 ^ n + q0) else q1 * 2 ^ n + q0) % 2 ^ n) := by
  have split : ∀ X, wrapS (2 * n) X / 2 ^ n = wrapS n (X / 2 ^ n) ∧ wrapS (2 * n) X % 2 ^ n = X % 2 ^ n :=
    wrapI_double_split true hn
  unfold fromNegAbs2
  cases neg
  · obtain ⟨e1, e2⟩ := split (q1 * 2 ^ n + q0)
    obtain ⟨e3, e4⟩ := div_mod_of_eq (two_pow_pos n) rfl ((inU_iff _ _).1 h0).1 ((inU_iff _ _).1 h0).2
    simp only [Bool.false_eq_true, if_false]
    rw [e1, e2, e3, e4]
  · obtain ⟨e1, e2⟩ := split (-(q1 * 2 ^ n + q0))
    obtain ⟨e3, e4⟩ := neg_double q1 h0
    simp only [if_true, ovfI, wrapI, notI, Bool.false_eq_true, if_false]
    rw [e1, e2, e3, e4]
    by_cases hin : inI false n (-q0)
    · simp only [hin, decide_true, Bool.not_true, Bool.false_eq_true, if_false, if_true]
      rw [wrapS_wrapU]
    · simp only [hin, decide_false, Bool.not_false, if_true, if_false]
      rw [wrapS_wrapU]

/-- `from_neg_abs` of a remainder magnitude below `2^(n-1)`: the assertion holds and the sign is put back -/
theorem fromNegAbs1_eq {n : Nat} (hn : 1 ≤ n) (neg : Bool) {r : Int} (h0 : 0 ≤ r) (h1 : r < 2 ^ (n - 1)) :
    fromNegAbs1 n neg r = .ok (if neg then -r else r) false := by
  rw [fromNegAbs1, Outcome.dassert, decide_eq_true (Int.le_of_lt h1)]
  simp only [Bool.not_true, ok_false_bind, pure_eq_ok]
  congr 1
  cases neg
  · exact wrapS_of_in hn ((inS_iff _ _).2 ⟨by omega, h1⟩)
  · rw [if_pos rfl, if_pos rfl, wrapS_wrapU]
    exact wrapS_of_in hn ((inS_iff _ _).2 ⟨by omega, by omega⟩)

end WideDiv
open WideDiv

theorem divRemFromS_magnitudes {n : Nat} (hn : 2 ≤ n) (heven : n % 2 = 0) (sN sd : Bool) {A D : Int} (hA0 : 0 ≤ A)
    (hA : A ≤ 2 ^ (n - 1) * 2 ^ n) (hD0 : 0 < D) (hD : D ≤ 2 ^ (n - 1)) :
    (do
      let x ← divRemFromU n D (A / 2 ^ n) (A % 2 ^ n)
      let r' ← fromNegAbs1 n sN x.snd
      pure (fromNegAbs2 n (sN != sd) x.1.fst x.1.snd, r') : Outcome ((Int × Int) × Int)) =
    .ok ((wrapS (2 * n) (if (sN != sd) then -(A / D) else A / D) / 2 ^ n,
          wrapS (2 * n) (if (sN != sd) then -(A / D) else A / D) % 2 ^ n), if sN then -(A % D) else A % D) false := by
  have hn1 : 1 ≤ n := by omega
  have hN := two_pow_pos n
  have hp := pow_split (n := n) (by omega)
  have hA1 : inI false n (A / 2 ^ n) := by
    have : (2 : Int) ^ (n - 1) * 2 ^ n < 2 ^ n * 2 ^ n := Int.mul_lt_mul_of_pos_right (by omega) hN
    refine (inU_iff _ _).2 ⟨Int.ediv_nonneg hA0 (Int.le_of_lt hN), ?_⟩
    rw [Int.ediv_lt_iff_lt_mul hN]; omega
  have hAA := (Split.of hN A).eq
  have hQQ := (Split.of hN (A / D)).eq
  rw [divRemFromU_spec n hn heven D (A / 2 ^ n) (A % 2 ^ n) ((inU_iff _ _).2 ⟨by omega, by omega⟩) (by omega) hA1
      (wrapU_in n A), ok_false_bind, hAA]
  dsimp only
  rw [fromNegAbs2_eq hn1 _ _ (q0 := A / D % 2 ^ n) (wrapU_in n (A / D)), hQQ,
    fromNegAbs1_eq hn1 sN (Int.emod_nonneg _ (Int.ne_of_gt hD0)) (Int.lt_of_lt_of_le (Int.emod_lt_of_pos _ hD0) hD),
    ok_false_bind, pure_eq_ok]

/-- the quotient is wrapped to `2n` bits: it can be `2^(2n-1)`, for `MIN / -1` -/
theorem divRemFromS_spec (n : Nat) (hn : 2 ≤ n) (heven : n % 2 = 0) (d n1 n0 : Int)
    (hd : inI true n d) (hd0 : d ≠ 0) (h1 : inI true n n1) (h0 : inI false n n0) :
    WideDiv.divRemFromS n d n1 n0 =
      (let N := n1 * 2 ^ n + n0
       let q := wrapS (2 * n) (Int.tdiv N d)
       .ok ((q / 2 ^ n, q % 2 ^ n), Int.tmod N d) false) := by
  have hn1 : 1 ≤ n := by omega
  obtain ⟨hX, _⟩ := double_limb_in hn1 h1 h0
  rw [inS_iff, pow_double_pred hn1] at hX
  have hd' := (inS_iff n d).1 hd
  unfold divRemFromS
  rw [negAbs2_eq hn1 h1 h0, negAbs1_eq hn1 hd]
  dsimp only
  obtain ⟨hT, hM⟩ := tdiv_tmod_natAbs (n1 * 2 ^ n + n0) d
  rw [hT, hM]
  generalize n1 * 2 ^ n + n0 = X at hX ⊢
  exact divRemFromS_magnitudes hn heven _ _ (Int.natCast_nonneg _) (by omega) (by omega) (by omega)

#print axioms divRemFromS_spec

end Sfx
