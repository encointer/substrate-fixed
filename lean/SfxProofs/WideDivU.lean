import SfxProofs.WideDivHalf
import SfxProofs.DoubleWidth
/-
  WideDivU.lean — `normalize` and the unsigned `div_rem_from`.
-/
namespace Sfx

namespace WideDiv

theorem shlU_eq {n z : Nat} (hz : z ≤ n) (x : Int) : shlI false n x z = x % 2 ^ (n - z) * 2 ^ z := by
  show x * 2 ^ z % 2 ^ n = _
  rw [pow_sub_mul hz, Int.mul_comm x, Int.mul_comm (2 ^ (n - z)), Int.mul_emod_mul_of_pos _ _ (two_pow_pos z),
    Int.mul_comm]

/-- `normalize` scales divisor and dividend by `2^zeros`, making the divisor's top bit set; the dividend becomes the
three limbs `(r0, m1, m0)` with `r0 < d'`. -/
theorem normalize_spec {n : Nat} (hn : 1 ≤ n) {d n1 n0 : Int}
    (hd : inI false n d) (hd0 : d ≠ 0) (h1 : inI false n n1) (h0 : inI false n n0) :
    ∃ (r0 : Int) (z : Nat) (D m1 m0 : Int),
      normalize n d n1 n0 = .ok (r0, z, D, m1, m0) false ∧ D = d * 2 ^ z ∧
      2 ^ (n - 1) ≤ D ∧ D < 2 ^ n ∧ 0 ≤ r0 ∧ r0 < D ∧ inI false n m1 ∧ inI false n m0 ∧
      (r0 * 2 ^ n + m1) * 2 ^ n + m0 = (n1 * 2 ^ n + n0) * 2 ^ z := by
  have hdpos : 0 < d := by have := ((inU_iff _ _).1 hd).1; omega
  obtain ⟨hzn, hlo, hhi⟩ := leadingZeros_spec hdpos ((inU_iff _ _).1 hd).2
  unfold normalize
  rw [if_neg hd0]
  dsimp only
  generalize leadingZeros n d = z at *
  by_cases hz : z = 0
  · subst hz
    rw [if_pos rfl, pure_eq_ok]
    exact ⟨0, 0, d, n1, n0, rfl, by simp, by simpa using hlo, ((inU_iff _ _).1 hd).2, Int.le_refl 0, hdpos, h1, h0,
      by simp⟩
  · rw [if_neg hz, pure_eq_ok]
    have hzn' : z ≤ n := by omega
    have hZP : (2 : Int) ^ z ≤ 2 ^ (n - 1) := pow_le_pow (by omega)
    have hW := two_pow_pos (n - z)
    have hZ := two_pow_pos z
    have hN := pow_sub_mul hzn'
    rw [inU_iff, hN] at h1 h0
    -- each limb is shifted by `Split.shl`; the piece `n0 / W` shifted out of the low limb is the low part of the middle one
    obtain ⟨s1, a0, a1⟩ := (⟨h1.1, h1.2, by rw [Int.zero_mul, Int.zero_add]⟩ : Split _ 0 n1 n1).shl hW hZ
    obtain ⟨s0, b0, b1⟩ := (⟨h0.1, h0.2, by rw [Int.zero_mul, Int.zero_add]⟩ : Split _ 0 n0 n0).shl hW hZ
    have hm1 := ((⟨b0, b1, rfl⟩ : Split (2 ^ z) (n1 % 2 ^ (n - z)) (n0 / 2 ^ (n - z)) _).hi_lt_iff _).1
      (Int.emod_lt_of_pos n1 hW)
    have hr := Int.emod_nonneg n1 (Int.ne_of_gt hW)
    have e1 := s1.eq
    have e0 := s0.eq
    have l0 := s0.lo0
    have l1 := s0.lo1
    have k0 := s1.lo0
    have eD : shlI false n d z = d * 2 ^ z := wrapU_of_lt (by omega) hhi
    rw [eD, shlU_eq hzn', shlU_eq hzn', shrI, shrI, orI_mul_add hr b0 b1 (hN ▸ hm1)]
    refine ⟨_, _, _, _, _, rfl, rfl, hlo, hhi, a0, by omega, (inU_iff _ _).2 ⟨by omega, hN ▸ hm1⟩,
      (inU_iff _ _).2 ⟨l0, hN ▸ l1⟩, ?_⟩
    rw [hN]
    grind

theorem digit_bounds {B D r a : Int} (hB : 0 < B) (hD : 0 < D) (hr0 : 0 ≤ r) (hr : r < D) (ha0 : 0 ≤ a)
    (ha : a < B) : 0 ≤ (r * B + a) / D ∧ (r * B + a) / D < B ∧ 0 ≤ (r * B + a) % D ∧ (r * B + a) % D < D := by
  have h2 : 0 ≤ r * B := Int.mul_nonneg hr0 (Int.le_of_lt hB)
  refine ⟨Int.ediv_nonneg (by omega) (Int.le_of_lt hD), ?_, Int.emod_nonneg _ (Int.ne_of_gt hD),
    Int.emod_lt_of_pos _ hD⟩
  rw [Int.ediv_lt_iff_lt_mul hD, Int.mul_comm B D]
  exact ((⟨ha0, ha, rfl⟩ : Split B r a _).hi_lt_iff D).1 hr

theorem two_digits {B D r mh ml : Int} (hB : 0 < B) (hD : 0 < D) (hr0 : 0 ≤ r) (hr : r < D) (h0 : 0 ≤ mh) (h1 : mh < B)
    (l0 : 0 ≤ ml) (l1 : ml < B) :
    0 ≤ (r * B + mh) / D ∧ (r * B + mh) / D < B ∧ 0 ≤ (r * B + mh) % D ∧ (r * B + mh) % D < D ∧
    0 ≤ ((r * B + mh) % D * B + ml) / D ∧ ((r * B + mh) % D * B + ml) / D < B ∧
    (r * (B * B) + (mh * B + ml)) / D = (r * B + mh) / D * B + ((r * B + mh) % D * B + ml) / D ∧
    (r * (B * B) + (mh * B + ml)) % D = ((r * B + mh) % D * B + ml) % D := by
  obtain ⟨a0, a1, a2, a3⟩ := digit_bounds hB hD hr0 hr h0 h1
  have g1 := Int.emod_add_mul_ediv (r * B + mh) D
  generalize (r * B + mh) / D = q1 at *
  generalize (r * B + mh) % D = r1 at *
  obtain ⟨b0, b1, b2, b3⟩ := digit_bounds hB hD a2 a3 l0 l1
  have g2 := Int.emod_add_mul_ediv (r1 * B + ml) D
  generalize (r1 * B + ml) / D = q2 at *
  generalize (r1 * B + ml) % D = r2 at *
  exact ⟨a0, a1, a2, a3, b0, b1, div_mod_of_eq hD (by grind) b2 b3⟩

theorem chain_arith {W D r0 m1 m0 Q1 Q0 rb r4 : Int} (g1 : rb + D * Q1 = r0 * W + m1)
    (g2 : r4 + D * Q0 = rb * W + m0) : (r0 * W + m1) * W + m0 = (Q1 * W + Q0) * D + r4 := by
  grind

end WideDiv
open WideDiv

/-- two Knuth steps divide one more limb `m`: from the running remainder `r < D` to the quotient limb and remainder
of `r * 2^n + m` -/
theorem divLimb_spec {n : Nat} (hn : 2 ≤ n) (heven : n % 2 = 0) {D r m : Int} (hD : 2 ^ (n - 1) ≤ D) (hD' : D < 2 ^ n)
    (hr0 : 0 ≤ r) (hr : r < D) (hm : inI false n m) :
    ∃ qh ql r1 : Int, divHalf n r D (m / 2 ^ (n / 2)) = .ok (qh, r1) false ∧
      divHalf n r1 D (m % 2 ^ (n / 2)) = .ok (ql, (r * 2 ^ n + m) % D) false ∧
      upLo n qh ql = (r * 2 ^ n + m) / D ∧ inI false n ((r * 2 ^ n + m) / D) ∧
      0 ≤ (r * 2 ^ n + m) % D ∧ (r * 2 ^ n + m) % D < D := by
  rw [inU_iff] at hm
  have hB := two_pow_pos (n / 2)
  have hNB := pow_half heven
  have hDpos : 0 < D := Int.lt_of_lt_of_le (two_pow_pos _) hD
  have sm := Split.of hB m
  have hmh0 := (sm.le_hi_iff 0).2 (by rw [Int.zero_mul]; exact hm.1)
  have hmh := (sm.hi_lt_iff _).2 (hNB ▸ hm.2)
  obtain ⟨a0, a1, a2, a3, b0, b1, e1, e2⟩ := two_digits hB hDpos hr0 hr hmh0 hmh sm.lo0 sm.lo1
  rw [← hNB, sm.eq] at e1 e2
  have s1 := divHalf_spec n hn heven r D _ hD hD' hr0 hr hmh0 hmh
  have s2 := divHalf_spec n hn heven _ D _ hD hD' a2 a3 sm.lo0 sm.lo1
  rw [← e2] at s2
  refine ⟨_, _, _, s1, s2, (upLo_eq heven a0 a1 b0 b1).trans e1.symm, ?_, Int.emod_nonneg _ (Int.ne_of_gt hDpos),
    Int.emod_lt_of_pos _ hDpos⟩
  rw [e1]
  have := inU_double_of_halves (n := n / 2) ((inU_iff _ _).2 ⟨a0, a1⟩) ((inU_iff _ _).2 ⟨b0, b1⟩)
  rwa [show 2 * (n / 2) = n by omega] at this

theorem divRemFromU_spec (n : Nat) (hn : 2 ≤ n) (heven : n % 2 = 0) (d n1 n0 : Int)
    (hd : inI false n d) (hd0 : d ≠ 0) (h1 : inI false n n1) (h0 : inI false n n0) :
    WideDiv.divRemFromU n d n1 n0 =
      .ok ((((n1 * 2 ^ n + n0) / d) / 2 ^ n, ((n1 * 2 ^ n + n0) / d) % 2 ^ n), (n1 * 2 ^ n + n0) % d) false := by
  obtain ⟨r0, z, D, m1, m0, hnorm, hD, hDlo, hDhi, hr0, hr0', hm1, hm0, hid⟩ :=
    normalize_spec (by omega) hd hd0 h1 h0
  have hZ := two_pow_pos z
  have hDpos : 0 < D := Int.lt_of_lt_of_le (two_pow_pos _) hDlo
  obtain ⟨q1h, q1l, ra, s1, s2, hQ1, _, hrb0, hrb⟩ := divLimb_spec hn heven hDlo hDhi hr0 hr0' hm1
  have g1 := Int.emod_add_mul_ediv (r0 * 2 ^ n + m1) D
  generalize (r0 * 2 ^ n + m1) / D = Q1 at *
  generalize (r0 * 2 ^ n + m1) % D = rb at *
  obtain ⟨q0h, q0l, rc, s3, s4, hQ0, hQ0in, hr40, hr4⟩ := divLimb_spec hn heven hDlo hDhi hrb0 hrb hm0
  have g2 := Int.emod_add_mul_ediv (rb * 2 ^ n + m0) D
  generalize (rb * 2 ^ n + m0) / D = Q0 at *
  generalize (rb * 2 ^ n + m0) % D = r4 at *
  unfold divRemFromU
  rw [hnorm, ok_false_bind]
  dsimp only [hi, lo, shrI]
  rw [s1, ok_false_bind]
  dsimp only
  rw [s2, ok_false_bind]
  dsimp only
  rw [s3, ok_false_bind]
  dsimp only
  rw [s4, ok_false_bind]
  dsimp only
  rw [pure_eq_ok, hQ1, hQ0]
  -- `N * 2^z = (Q1 * 2^n + Q0) * D + r4`, and `D = d * 2^z`
  rw [inU_iff] at hQ0in
  generalize n1 * 2 ^ n + n0 = N at *
  have hchain := hid.symm.trans (chain_arith g1 g2)
  obtain ⟨hq, hr⟩ := div_mod_of_eq hDpos hchain hr40 hr4
  have hQ : N / d = Q1 * 2 ^ n + Q0 := by
    rw [← hq, hD]; exact (Int.mul_ediv_mul_of_pos_left N d hZ).symm
  have hR : r4 = N % d * 2 ^ z := by
    rw [← hr, hD, Int.mul_comm N, Int.mul_comm d, Int.mul_emod_mul_of_pos _ _ hZ, Int.mul_comm]
  obtain ⟨e1, e2⟩ := div_mod_of_eq (two_pow_pos n) hQ hQ0in.1 hQ0in.2
  rw [e1, e2, hR, Int.mul_ediv_cancel _ (Int.ne_of_gt hZ)]

theorem divRemFromU_zero (n : Nat) (n1 n0 : Int) : WideDiv.divRemFromU n 0 n1 n0 = .panic := by
  unfold divRemFromU normalize
  rw [if_pos rfl]
  rfl

#print axioms divRemFromU_spec
#print axioms divRemFromU_zero

end Sfx
