import SfxProofs.DoubleWidth
/-
  Widen.lean — `mul_div_widen!` (arith.rs 463-492): the double-width multiply / divide equals the exact
  specification (`mulSpec` / `divSpec`) wrapped to `n` bits, with the exact overflow flag, and no
  debug check fires on the path.  Core Lean only.
-/
namespace Sfx

theorem ushl_double (s : Bool) {n k : Nat} (hn : 0 < n) (hk : k ≤ n) {a : Int} (ha : inI s n a) :
    ushl s (2 * n) a k = .ok (a * 2 ^ k) false := by
  rw [ushl_of_lt s (by omega), shlI, wrapI_of_in (by omega) (inI_double_shl s hn hk ha)]

theorem mul_shift_ediv {n f : Nat} (hf : f ≤ n) (a b : Int) :
    a * (b * 2 ^ (n - f)) / 2 ^ n = mulSpec f a b := by
  unfold mulSpec
  rw [← Int.mul_assoc, pow_sub_mul hf, Int.mul_comm (2 ^ (n - f)) (2 ^ f)]
  exact Int.mul_ediv_mul_of_pos_left (a * b) (2 ^ f) (two_pow_pos (n - f))

theorem mulOverflowWiden_spec (s : Bool) (n f : Nat) (hn : 0 < n) (hn32 : n < 2 ^ 31) (hf : f ≤ n)
    (a b : Int) (hb : inI s n b) :
    mulOverflowWiden s n f a b = .ok (ovfI s n (mulSpec f a b)) false := by
  unfold mulOverflowWiden
  rw [usub_nbits n f hn32 hf, ok_false_bind, Int.toNat_natCast, ushl_double s hn (Nat.sub_le n f) hb, ok_false_bind]
  simp only [ovfI, shrI, pure_eq_ok]
  rw [wrapI_shr_double s hn]
  simp only [inI_double_iff s hn, mul_shift_ediv hf]

theorem divOverflowWiden_zero (s : Bool) (n f : Nat) (hn : 0 < n) (hf : f ≤ n) (a : Int) (ha : inI s n a) :
    divOverflowWiden s n f a 0 = .panic := by
  unfold divOverflowWiden
  rw [ushl_double s hn hf ha, ok_false_bind]
  rfl

theorem divOverflowWiden_spec (s : Bool) (n f : Nat) (hn : 0 < n) (hf : f ≤ n)
    (a b : Int) (ha : inI s n a) (hb : inI s n b) (hb0 : b ≠ 0) :
    divOverflowWiden s n f a b = .ok (ovfI s n (divSpec f a b)) false := by
  unfold divOverflowWiden
  rw [ushl_double s hn hf ha, ok_false_bind, uwdiv_ok s _ _ hb0, ok_false_bind, pure_eq_ok]
  exact congrArg (Outcome.ok · false) (ovf_of_double_quot s hn rfl (divSpec_double s hn hf ha hb))

#print axioms mulOverflowWiden_spec
#print axioms divOverflowWiden_spec
#print axioms divOverflowWiden_zero

end Sfx
