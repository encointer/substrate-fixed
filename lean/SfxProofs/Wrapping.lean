import SfxProofs.WrappingLemmas
import SfxProps.C01
/-
  Wrapping.lean — `Wrapping<F>` (`src/wrapping.rs`): every operation is the exact result reduced modulo `2^n`, panics only
  for a zero divisor, and never has a debug-only panic; so programs of any length run identically in both profiles.
  `wstep_spec_of` (`WrappingLemmas.lean`) asks for the facts `MulDivOK` about the shared multiply / divide helpers; they come from
  `SfxProps/C01.lean` here, which is why this file and not that one sits behind the mul/div group.
-/
namespace Sfx.WrapPf

theorem mulDivOK (L : Layout) (hv : L.valid) : MulDivOK L :=
  ⟨fun a b ha hb => C01.mulOverflow_spec L hv a b ha hb,
   fun a b ha hb hb0 => C01.divOverflow_spec L hv a b ha hb hb0,
   fun a ha => C01.divOverflow_zero L hv a ha⟩

theorem wstep_spec (L : Layout) (hv : L.valid) (x : Int) (hx : inRange L x) (st : WStep) (hw : st.wf L) :
    L.wstep x st = L.wstepSpec x st := by
  exact wstep_spec_of L hv.two_le hv.2 (mulDivOK L hv) x hx st hw

theorem wstep_inRange (L : Layout) (hv : L.valid) (x : Int) (hx : inRange L x) (st : WStep) (hw : st.wf L) (v : Int) (d : Bool)
    (h : L.wstep x st = .ok v d) : inRange L v := by
  rw [wstep_spec L hv x hx st hw] at h
  exact (spec_inRange L hv.pos x st v d h).1

theorem wstep_no_dbg (L : Layout) (hv : L.valid) (x : Int) (hx : inRange L x) (st : WStep) (hw : st.wf L) (v : Int) (d : Bool)
    (h : L.wstep x st = .ok v d) : d = false := by
  rw [wstep_spec L hv x hx st hw] at h
  exact (spec_inRange L hv.pos x st v d h).2

/-- programs of any length: the model run equals the documented run (exact result reduced mod 2^n at every step, panic only
for a zero divisor), in both profiles -/
theorem wrun_spec (L : Layout) (hv : L.valid) (p : Profile) (x : Int) (hx : inRange L x) (prog : List WStep)
    (hw : ∀ st ∈ prog, st.wf L) :
    Layout.wrun L.wstep p x prog = Layout.wrun L.wstepSpec p x prog := by
  induction prog generalizing x with
  | nil => rfl
  | cons st rest ih =>
    have hst : st.wf L := hw st (List.mem_cons_self ..)
    have hs := wstep_spec L hv x hx st hst
    unfold Layout.wrun
    rw [hs]
    cases h : L.wstepSpec x st with
    | panic => rfl
    | ok v d =>
      have hv' : inRange L v := wstep_inRange L hv x hx st hst v d (hs.trans h)
      simp only []
      rw [ih v hv' (fun s hs => hw s (List.mem_cons_of_mem _ hs))]

theorem wrunSpec_profile_independent (L : Layout) (x : Int) (prog : List WStep) :
    Layout.wrun L.wstepSpec .chk x prog = Layout.wrun L.wstepSpec .rel x prog := by
  induction prog generalizing x with
  | nil => rfl
  | cons st rest ih =>
    unfold Layout.wrun
    cases he : L.wexact x st with
    | none => rw [spec_none L he]
    | some e =>
      rw [spec_some L he]
      simp only [Bool.and_false, Bool.false_eq_true, if_false]
      rw [ih]

/-- no debug-only panic: the two build profiles observe the same run -/
theorem wrun_profile_independent (L : Layout) (hv : L.valid) (x : Int) (hx : inRange L x) (prog : List WStep)
    (hw : ∀ st ∈ prog, st.wf L) :
    Layout.wrun L.wstep .chk x prog = Layout.wrun L.wstep .rel x prog := by
  rw [wrun_spec L hv .chk x hx prog hw, wrun_spec L hv .rel x hx prog hw]
  exact wrunSpec_profile_independent L x prog

/-- non-vacuity: a well-formed four-step program on a valid layout, including a zero divisor -/
example : (⟨true, 8, 4⟩ : Layout).valid ∧ inRange ⟨true, 8, 4⟩ (-128) ∧
    ∀ st ∈ [WStep.mul 127, .sum [5, -7], .abs, .div 0], st.wf ⟨true, 8, 4⟩ := by
  refine ⟨by decide, by decide, ?_⟩
  intro st hst
  simp only [List.mem_cons, List.not_mem_nil, or_false] at hst
  rcases hst with rfl | rfl | rfl | rfl
  · show inRange _ _; decide
  · intro y hy
    simp only [List.mem_cons, List.not_mem_nil, or_false] at hy
    rcases hy with rfl | rfl <;> decide
  · rfl
  · show inRange _ _; decide

end Sfx.WrapPf

#print axioms Sfx.WrapPf.wstep_spec
#print axioms Sfx.WrapPf.wstep_inRange
#print axioms Sfx.WrapPf.wrun_spec
#print axioms Sfx.WrapPf.wrun_profile_independent
