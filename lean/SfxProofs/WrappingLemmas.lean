import SfxModel.Wrapping
import SfxProofs.Round
import SfxProofs.Rem
/-
  WrappingLemmas.lean — `wstep_spec_of`: every `Wrapping<F>` operation is its exact result reduced modulo `2^n` (core Lean only,
  no Mathlib in the import closure), parametrised by the facts about the multiply / divide helpers of `arith.rs` (`MulDivOK`).
-/
namespace Sfx.WrapPf
open Sfx.Layout

/-- a step's operands are bit patterns of the layout (what the typed API can express) -/
def _root_.Sfx.WStep.wf (L : Layout) : WStep → Prop
  | .add y | .sub y | .mul y | .div y | .rem y => inRange L y
  | .bitand y | .bitor y | .bitxor y => inRange L y
  | .mulInt k | .divInt k | .remInt k => inRange L k
  | .divEuclid y | .remEuclid y | .divEuclidInt y | .remEuclidInt y => inRange L y
  | .fromBits k => inRange L k
  | .sum ys | .product ys => ∀ y ∈ ys, inRange L y
  | .abs | .signum => L.signed = true
  | .nextPow2 => L.signed = false
  | .not | .neg | .shl _ | .shr _ | .ceil | .floor | .round | .roundEven | .int | .frac | .roundToZero
  | .rotl _ | .rotr _ | .sum0 | .product0 => True

theorem spec_some (L : Layout) {x : Int} {st : WStep} {e : Int} (h : L.wexact x st = some e) :
    L.wstepSpec x st = .ok (L.wrap e) false := by
  unfold wstepSpec; rw [h]
theorem spec_none (L : Layout) {x : Int} {st : WStep} (h : L.wexact x st = none) :
    L.wstepSpec x st = .panic := by
  unfold wstepSpec; rw [h]

theorem spec_inRange (L : Layout) (hn : 0 < L.n) (x : Int) (st : WStep) (v : Int) (d : Bool)
    (h : L.wstepSpec x st = .ok v d) : inRange L v ∧ d = false := by
  unfold wstepSpec at h
  cases he : L.wexact x st with
  | none => rw [he] at h; cases h
  | some e =>
    rw [he] at h
    injection h with h1 h2
    subst h1; exact ⟨wrap_in L hn e, h2.symm⟩

theorem spec_div (L : Layout) {x y e : Int} {st : WStep} (hex : L.wexact x st = if y = 0 then none else some e)
    {o : Outcome Int} (h0 : y = 0 → o = .panic) (h1 : y ≠ 0 → o = .ok (L.wrap e) false) : o = L.wstepSpec x st := by
  unfold wstepSpec; rw [hex]
  by_cases h : y = 0
  · rw [if_pos h]; exact h0 h
  · rw [if_neg h]; exact h1 h

/-- the bit operations and rotations end in a reduction to `n` bits already -/
theorem spec_bits (L : Layout) (e : Int) :
    Outcome.ok (wrapI L.signed L.n e) false = Outcome.ok (L.wrap (wrapI L.signed L.n e)) false :=
  congrArg (Outcome.ok · false) (wrap_wrap L e).symm

theorem int_case (L : Layout) (h2 : 2 ≤ L.n) (hf : L.f ≤ L.n) (x : Int) (hx : inRange L x) :
    L.wstep x .int = L.wstepSpec x .int := by
  have hn : 0 < L.n := by omega
  show Outcome.ok (L.intPart x) false = Outcome.ok (L.wrap (if L.intBits = 0 then 0 else floorE L.f x)) false
  by_cases h : L.intBits = 0
  · rw [if_pos h, ((int_frac_spec L h2 x hx).2 (by unfold intBits at h; omega)).1, wrap_of_in L hn (inRange_zero L)]
  · rw [if_neg h, intPart_eq L hf x]; rfl

theorem frac_case (L : Layout) (h2 : 2 ≤ L.n) (hf : L.f ≤ L.n) (x : Int) (hx : inRange L x) :
    L.wstep x .frac = L.wstepSpec x .frac := by
  have hn : 0 < L.n := by omega
  show Outcome.ok (L.fracPart x) false = Outcome.ok (L.wrap (if L.intBits = 0 then x else x % 2 ^ L.f)) false
  by_cases h : L.intBits = 0
  · rw [if_pos h, ((int_frac_spec L h2 x hx).2 (by unfold intBits at h; omega)).2, wrap_of_in L hn hx]
  · rw [if_neg h, fracPart_eq L hf x]

theorem signum_case (L : Layout) (x : Int) : L.wstep x .signum = L.wstepSpec x .signum := by
  show Outcome.ok (if x > 0 then L.wrappingFromSmallInt 1 else if x < 0 then L.wrappingFromSmallInt (-1)
      else L.wrappingFromSmallInt 0) false =
    Outcome.ok (L.wrap ((if x > 0 then 1 else if x < 0 then -1 else 0) * 2 ^ L.f)) false
  unfold wrappingFromSmallInt
  rw [apply_ite (fun v : Int => L.wrap (v * 2 ^ L.f)), apply_ite (fun v : Int => L.wrap (v * 2 ^ L.f))]

theorem nextPow2_inRange (L : Layout) (x : Int) : inRange L (L.nextPow2 x) := by
  unfold nextPow2
  generalize (if x ≤ 1 then (1 : Int) else 2 ^ bitLen (x - 1).toNat) = p
  show inRange L (if inRange L p then p else 0)
  split
  · assumption
  · exact inRange_zero L

theorem shiftAmount_lt (L : Layout) (hn : 0 < L.n) (a : Int) : L.shiftAmount a < L.n := by
  unfold shiftAmount
  have h1 := Int.emod_lt_of_pos (wrapU 32 a) (by omega : (0 : Int) < (L.n : Int))
  have h2 := Int.emod_nonneg (wrapU 32 a) (by omega : (L.n : Int) ≠ 0)
  omega

theorem shl_case (L : Layout) (hn : 0 < L.n) (x a : Int) : L.wstep x (.shl a) = L.wstepSpec x (.shl a) :=
  ushl_of_lt L.signed (shiftAmount_lt L hn a) x

theorem shr_case (L : Layout) (hn : 0 < L.n) (x a : Int) (hx : inRange L x) :
    L.wstep x (.shr a) = L.wstepSpec x (.shr a) := by
  show ushr L.n x (L.shiftAmount a) = Outcome.ok (L.wrap (x / 2 ^ L.shiftAmount a)) false
  rw [wrap_of_in L hn (shr_in _ hx)]
  exact ushr_of_lt (shiftAmount_lt L hn a) x

theorem foldlM_add (L : Layout) (ys : List Int) (acc : Int) :
    ys.foldlM (fun acc y => L.wrappingAdd acc y) acc = .ok (ys.foldl (fun a y => L.wrap (a + y)) acc) false := by
  induction ys generalizing acc with
  | nil => rfl
  | cons y ys ih =>
    rw [List.foldlM_cons, List.foldl_cons]
    show (Outcome.ok (L.wrap (acc + y)) false >>= _) = _
    rw [ok_false_bind, ih]

theorem foldl_wrap_add (L : Layout) (ys : List Int) (u : Int) :
    ys.foldl (fun a y => L.wrap (a + y)) (L.wrap u) = L.wrap (ys.foldl (· + ·) u) := by
  induction ys generalizing u with
  | nil => rfl
  | cons y ys ih =>
    rw [List.foldl_cons, List.foldl_cons, wrap_add_left, ih]

theorem sum_case (L : Layout) (x : Int) (ys : List Int) : L.wstep x (.sum ys) = L.wstepSpec x (.sum ys) := by
  show (x :: ys).foldlM (fun acc y => L.wrappingAdd acc y) 0 = Outcome.ok (L.wrap (ys.foldl (· + ·) x)) false
  rw [foldlM_add, List.foldl_cons, Int.zero_add, foldl_wrap_add]

/-- the facts about `MulDivOverflow::{mul_overflow, div_overflow}` that `Wrapping` relies on (proved in `SfxProps/C01.lean`) -/
structure MulDivOK (L : Layout) : Prop where
  mul : ∀ a b : Int, inRange L a → inRange L b →
    mulOverflow L.signed L.n L.f a b = .ok (ovfI L.signed L.n (mulSpec L.f a b)) false
  div : ∀ a b : Int, inRange L a → inRange L b → b ≠ 0 →
    divOverflow L.signed L.n L.f a b = .ok (ovfI L.signed L.n (divSpec L.f a b)) false
  div0 : ∀ a : Int, inRange L a → divOverflow L.signed L.n L.f a 0 = .panic

theorem wrappingMul_eq (L : Layout) (hn : 0 < L.n) (h : MulDivOK L) (a b : Int) (ha : inRange L a) (hb : inRange L b) :
    L.wrappingMul a b = .ok (L.wrap (mulSpec L.f a b)) false :=
  (mul_forms L hn a b (h.mul a b ha hb)).1.wrapping

theorem foldlM_mul (L : Layout) (hn : 0 < L.n) (h : MulDivOK L) (ys : List Int) (hys : ∀ y ∈ ys, inRange L y)
    (acc : Int) (hacc : inRange L acc) :
    ys.foldlM (fun acc y => L.wrappingMul acc y) acc =
      .ok (ys.foldl (fun acc y => L.wrap (mulSpec L.f acc y)) acc) false ∧
    inRange L (ys.foldl (fun acc y => L.wrap (mulSpec L.f acc y)) acc) := by
  induction ys generalizing acc with
  | nil => exact ⟨rfl, hacc⟩
  | cons y ys ih =>
    have hy : inRange L y := hys y (List.mem_cons_self ..)
    have ih' := ih (fun z hz => hys z (List.mem_cons_of_mem _ hz)) (L.wrap (mulSpec L.f acc y)) (wrap_in L hn _)
    rw [List.foldlM_cons, List.foldl_cons, wrappingMul_eq L hn h acc y hacc hy, ok_false_bind]
    exact ih'

theorem wstep_spec_of (L : Layout) (h2 : 2 ≤ L.n) (hf : L.f ≤ L.n) (h : MulDivOK L) (x : Int) (hx : inRange L x)
    (st : WStep) (hw : st.wf L) : L.wstep x st = L.wstepSpec x st := by
  have hn : 0 < L.n := by omega
  cases st with
  | add y => rfl
  | sub y => rfl
  | mul y => exact wrappingMul_eq L hn h x y hx hw
  | div y =>
    exact spec_div L rfl (fun h0 => by subst h0; exact (div_zero_forms L x (h.div0 x hx)).2.2.1)
      (fun h0 => (div_forms L hn x y h0 (h.div x y hx hw h0)).1.wrapping)
  | rem y =>
    exact spec_div L rfl (fun h0 => by subst h0; exact remOp_zero L x)
      (fun h0 => by rw [wrap_of_in L hn (tmod_in y hx)]; exact (rem_spec L x y hx hw h0).1)
  | bitand y => exact spec_bits L _
  | bitor y => exact spec_bits L _
  | bitxor y => exact spec_bits L _
  | not => rfl
  | neg => rfl
  | mulInt k => rfl
  | divInt k =>
    exact spec_div L rfl (fun h0 => by subst h0; rfl) (fun h0 => (divInt_forms L x k h0).2.1)
  | remInt k =>
    exact spec_div L rfl (fun h0 => by subst h0; exact remIntOp_zero L x)
      (fun h0 => by rw [wrap_of_in L hn (tmod_in _ hx)]; exact (remInt_spec L hn hf x k hx hw h0).1)
  | shl a => exact shl_case L hn x a
  | shr a => exact shr_case L hn x a hx
  | ceil => exact wrappingR_spec L h2 hf .ceil x hx
  | floor => exact wrappingR_spec L h2 hf .floor x hx
  | round => exact wrappingR_spec L h2 hf .round x hx
  | roundEven => exact wrappingR_spec L h2 hf .roundEven x hx
  | int => exact int_case L h2 hf x hx
  | frac => exact frac_case L h2 hf x hx
  | roundToZero =>
    rw [spec_some L (e := truncE L.f x) rfl, wrap_of_in L hn (truncE_inI L.f hx)]
    exact roundToZero_spec L h2 hf x hx
  | rotl k => exact spec_bits L _
  | rotr k => exact spec_bits L _
  | divEuclid y =>
    exact spec_div L rfl (fun h0 => by subst h0; exact wrappingDivEuclid_zero L x)
      (fun h0 => (divEuclid_forms L hn x y h0).2.2.1)
  | remEuclid y =>
    exact spec_div L rfl (fun h0 => by subst h0; exact remEuclid_zero L x)
      (fun h0 => by rw [wrap_of_in L hn (emod_in hx hw h0)]; exact (remEuclid_spec L x y h0).1)
  | divEuclidInt k =>
    exact spec_div L rfl (fun h0 => by subst h0; exact wrappingDivEuclidInt_zero L x)
      (fun h0 => (divEuclidInt_forms L hn hf x k hx h0).2.2.1)
  | remEuclidInt k =>
    exact spec_div L rfl (fun h0 => by subst h0; exact wrappingRemEuclidInt_zero L x)
      (fun h0 => (remEuclidInt_forms L hn hf x k hx hw h0).2.2.1)
  | abs => rfl
  | signum => exact signum_case L x
  | nextPow2 => exact congrArg (Outcome.ok · false) (wrap_of_in L hn (nextPow2_inRange L x)).symm
  | fromBits k => exact congrArg (Outcome.ok · false) (wrap_of_in L hn hw).symm
  | sum ys => exact sum_case L x ys
  | product ys =>
    obtain ⟨h1, h2⟩ := foldlM_mul L hn h ys hw x hx
    show ys.foldlM (fun acc y => L.wrappingMul acc y) x =
      Outcome.ok (L.wrap (ys.foldl (fun acc y => L.wrap (mulSpec L.f acc y)) x)) false
    rw [wrap_of_in L hn h2]
    exact h1
  | sum0 => exact congrArg (Outcome.ok · false) (wrap_of_in L hn (inRange_zero L)).symm
  | product0 =>
    show Outcome.ok (L.wrap (1 * 2 ^ L.f)) false = Outcome.ok (L.wrap (2 ^ L.f)) false
    rw [Int.one_mul]

end Sfx.WrapPf
