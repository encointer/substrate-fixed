import SfxProps.C01
import SfxProps.C07Spec
/-
  C01Spec — "the exactly rounded true result", without `/` and `tdiv`.
  `C01.holds` is written with `mulSpec f a b = (a·b) / 2^f` and `divSpec f a b = tdiv (a·2^f) b`.  Here both are characterised by the
  sentence they stand for (values are bits / 2^f, so everything is scaled by powers of two):
    product : the grid point `m` with `m ≤ x·y < m + 1 ulp`            ⇔  `m·2^f ≤ a·b < m·2^f + 2^f`
    quotient: the grid point `q` between 0 and `x / y` less than one ulp from it
              ⇔  the remainder `a·2^f − q·b` is a truncated-division remainder (sign of the dividend, magnitude below |b|)
  and each sentence has exactly one solution.
-/
namespace Sfx.C01
open Sfx.C07

/-- `m` is the true product of the bit patterns `a`, `b` (f fractional bits) rounded toward −∞ to the grid -/
def IsFloorProduct (f : Nat) (a b m : Int) : Prop := m * 2 ^ f ≤ a * b ∧ a * b < m * 2 ^ f + 2 ^ f

/-- `q` is the true quotient of the bit patterns rounded toward zero to the grid -/
def IsTruncQuotient (f : Nat) (a b q : Int) : Prop := IsTruncRem (a * 2 ^ f) b (a * 2 ^ f - q * b)

/-- core's `Int.ediv_eq_iff_of_pos` states the sentence: `x / k = y ↔ y * k ≤ x ∧ x < y * k + k` -/
theorem mulSpec_is_floor (f : Nat) (a b : Int) : IsFloorProduct f a b (mulSpec f a b) :=
  (Int.ediv_eq_iff_of_pos (two_pow_pos f)).mp rfl

theorem floor_product_unique (f : Nat) (a b m : Int) (h : IsFloorProduct f a b m) : m = mulSpec f a b :=
  ((Int.ediv_eq_iff_of_pos (two_pow_pos f)).mpr h).symm

theorem divSpec_is_trunc (f : Nat) (a b : Int) (hb : b ≠ 0) : IsTruncQuotient f a b (divSpec f a b) := by
  unfold IsTruncQuotient divSpec
  have e : a * 2 ^ f - Int.tdiv (a * 2 ^ f) b * b = Int.tmod (a * 2 ^ f) b := by
    have := Int.tdiv_mul_add_tmod (a * 2 ^ f) b; omega
  rw [e]; exact tmod_is_trunc _ _ hb

theorem trunc_quotient_unique (f : Nat) (a b q : Int) (hb : b ≠ 0) (h : IsTruncQuotient f a b q) : q = divSpec f a b := by
  have e1 := trunc_rem_unique _ _ _ hb h
  have e2 := Int.tdiv_mul_add_tmod (a * 2 ^ f) b
  unfold divSpec
  exact Int.eq_of_mul_eq_mul_right hb (by omega)

/-- C01's product and quotient clauses against the sentences: whatever `m`, `q` are the correctly rounded true results and fit the type
  are what `checked_mul` / `*` / `checked_div` / `/` return -/
theorem holds_by_sentence (L : Layout) (hv : L.valid) (a b : Int) (ha : inRange L a) (hbr : inRange L b) :
    (∀ m, IsFloorProduct L.f a b m → inRange L m → L.checkedMul a b = .ok (some m) false ∧ L.mulOp a b = .ok m false) ∧
    (b ≠ 0 → ∀ q, IsTruncQuotient L.f a b q → inRange L q → L.checkedDiv a b = .ok (some q) false ∧ L.divOp a b = .ok q false) := by
  obtain ⟨hm, hd⟩ := holds L hv a b ha hbr
  refine ⟨fun m h1 h2 => ?_, fun hb q h1 h2 => ?_⟩
  · rw [floor_product_unique _ _ _ _ h1] at h2 ⊢
    exact ⟨(hm h2).1, (hm h2).2.1⟩
  · rw [trunc_quotient_unique _ _ _ _ hb h1] at h2 ⊢
    exact ⟨(hd hb h2).1, (hd hb h2).2.1⟩

/-- non-vacuity: −1.5 × 0.5 = −0.75 on a grid of 1 fractional bit rounds DOWN to −1.0 (bits −2), −1.5 / 1.0 rounds toward zero (bits −3 stays −3);
  −3 ulp ÷ 2.0 = −0.75 → −0.5 (bits −1): toward zero -/
example : mulSpec 1 (-3) 1 = -2 ∧ divSpec 1 (-3) 2 = -3 ∧ divSpec 1 (-3) 4 = -1 := by decide

end Sfx.C01
