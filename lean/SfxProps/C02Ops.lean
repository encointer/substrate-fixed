import SfxProofs.ExtOps
/-
  C02 / C11 for the operator trait impls of the plain types `F` (`arith.rs`: by-value, by-reference, assigning, integer right- and
  left-hand sides, shifts with the 12 amount types, `Sum` / `Product`) — the forms WITHOUT overflow handling, which the property text
  reserves ("an operation without overflow handling whose result does not fit" may panic under the checking profile).

  `Layout.fstep` is the model of one operator application (every variant of a step kind is the same model step: that the by-reference
  and assigning impls forward to the by-value operator is what the correspondence check exercises, variant by variant);
  `Layout.fstepSpec` the documented behaviour: the exact result `e` → `plainDoc e = ok (wrap e) (e out of range)`, i.e. the value in a
  release build is `e mod 2^n` and a checking build panics exactly when `e` is not representable; a zero divisor panics in every profile;
  `a / k` by an integer is the primitive `/` and panics in every profile on `MIN / -1`; shifts flag an amount outside `[0, n)` and use
  `amount mod n` in release.  `Layout.frun` runs a program of any length under a profile.
-/
namespace Sfx.C02
open Sfx.ExtOpsPf

/-- every program of plain operators: the model run is the documented run, under both profiles -/
theorem plain_operator_programs (L : Layout) (hv : L.valid) (p : Profile) (x : Int) (hx : inRange L x) (prog : List FStep)
    (hw : ∀ st ∈ prog, st.wf L) :
    Layout.frun L.fstep p x prog = Layout.frun L.fstepSpec p x prog := by
  refine frun_congr (fun x prog => inRange L x ∧ ∀ st ∈ prog, st.wf L) _ _ p p (fun x st rest hI => ?_) x prog ⟨hx, hw⟩
  have hst := hI.2 st (List.mem_cons_self ..)
  refine ⟨by rw [fstep_spec L hv x hI.1 st hst], fun v hv' => ?_⟩
  obtain ⟨d, hd⟩ := view_eq_some hv'
  exact ⟨fstep_inRange L hv x hI.1 st hst v d hd, fun s hs => hI.2 s (List.mem_cons_of_mem _ hs)⟩

/-- single steps, with the result staying a bit pattern of the layout -/
theorem plain_operator_step (L : Layout) (hv : L.valid) (x : Int) (hx : inRange L x) (st : FStep) (hw : st.wf L) :
    L.fstep x st = L.fstepSpec x st ∧ ∀ v d, L.fstep x st = .ok v d → inRange L v :=
  ⟨fstep_spec L hv x hx st hw, fun v d h => fstep_inRange L hv x hx st hw v d h⟩

/-- in a release build the plain operators ARE the `Wrapping<F>` operators (C18), except that `MIN / -1` by an integer panics -/
theorem release_is_wrapping (L : Layout) (hv : L.valid) (x : Int) (hx : inRange L x) (prog : List FStep)
    (hw : ∀ st ∈ prog, st.wf L) (hs : divIntSafe L x prog) :
    Layout.frun L.fstep .rel x prog = Layout.wrun L.wstep .rel x (prog.map FStep.toW) :=
  frun_rel_eq_wrun L hv x hx prog hw hs

/-- a run that completes under the checking profile returns the same values as the release run (C11 for this family) -/
theorem checked_run_agrees (L : Layout) (x : Int) (prog : List FStep)
    (h : none ∉ Layout.frun L.fstep .chk x prog) : Layout.frun L.fstep .chk x prog = Layout.frun L.fstep .rel x prog :=
  frun_chk_complete L.fstep x prog h

end Sfx.C02
