import SfxProofs.PrimLemmas
import SfxProps.C02
/-
  C02Spec / C18 — the four overflow treatments the statements of C02, C04, C06, C07 and C18 are written with (`wrapI`, `chkI`, `clampI`, `ovfI`,
  i.e. `L.wrap`, `L.chk`, `L.clamp`, `L.ovf`) are the ones the property texts describe, stated without `%`:
    wrapping   : THE representable value congruent to the exact result modulo 2^n        ("the exact value modulo 2^width")
    checked    : the exact result if it is representable, `None` otherwise
    saturating : the representable value nearest to the exact result
    overflowing: the wrapped value, and the flag is true exactly when the exact result is not representable
  Each is proved to satisfy its sentence and the sentence to have one solution; so "agree on one exact result" is literal: all four are functions of
  the same exact integer `e`, and each determines `e` back whenever `e` is representable.
-/
namespace Sfx.C02Spec

/-- `w` is a value of the `n`-bit type congruent to `e` modulo 2^n -/
def IsWrapped (s : Bool) (n : Nat) (e w : Int) : Prop := inI s n w ∧ (2 : Int) ^ n ∣ e - w

/-- `c` is a value of the type at least as close to `e` as every other value of the type -/
def IsNearest (s : Bool) (n : Nat) (e c : Int) : Prop := inI s n c ∧ ∀ v, inI s n v → (e - c).natAbs ≤ (e - v).natAbs

theorem wrapI_is_wrapped (s : Bool) {n : Nat} (hn : 0 < n) (e : Int) : IsWrapped s n e (wrapI s n e) := by
  refine ⟨wrapI_in hn e, ?_⟩
  obtain ⟨k, hk⟩ := wrapI_eq_add_mul s n e
  exact ⟨-k, by rw [hk, Int.mul_comm, Int.mul_neg]; omega⟩

theorem wrapped_unique (s : Bool) {n : Nat} (hn : 0 < n) (e w : Int) (h : IsWrapped s n e w) : w = wrapI s n e := by
  obtain ⟨hin, k, hk⟩ := h
  exact (wrapI_unique hn k (by rw [Int.mul_comm]; omega) hin).symm

theorem clampI_is_nearest (s : Bool) (n : Nat) (hmm : minI s n ≤ maxI s n) (e : Int) : IsNearest s n e (clampI s n e) := by
  unfold clampI IsNearest inI
  split
  · exact ⟨⟨Int.le_refl _, hmm⟩, fun v hv => by omega⟩
  · split
    · exact ⟨⟨hmm, Int.le_refl _⟩, fun v hv => by omega⟩
    · exact ⟨⟨by omega, by omega⟩, fun v hv => by omega⟩

theorem nearest_unique (s : Bool) (n : Nat) (hmm : minI s n ≤ maxI s n) (e c : Int) (h : IsNearest s n e c) : c = clampI s n e := by
  obtain ⟨hin, hbest⟩ := h
  obtain ⟨hin', _⟩ := clampI_is_nearest s n hmm e
  have := hbest _ hin'
  unfold clampI inI at *
  split
  · rename_i h1; rw [if_pos h1] at this hin'; omega
  · rename_i h1
    rw [if_neg h1] at this hin'
    split
    · rename_i h2; rw [if_pos h2] at this hin'; omega
    · rename_i h2; rw [if_neg h2] at this hin'; omega

theorem chkI_sentence (s : Bool) (n : Nat) (e : Int) : (inI s n e → chkI s n e = some e) ∧ (¬ inI s n e → chkI s n e = none) :=
  ⟨chkI_of_in, chkI_of_not_in⟩

theorem ovfI_sentence (s : Bool) {n : Nat} (hn : 0 < n) (e : Int) :
    IsWrapped s n e (ovfI s n e).1 ∧ ((ovfI s n e).2 = true ↔ ¬ inI s n e) ∧ (inI s n e → (ovfI s n e).1 = e) := by
  refine ⟨wrapI_is_wrapped s hn e, by simp [ovfI], fun h => wrapI_of_in hn h⟩

/-- the ranges are non-empty for every width, so the hypotheses above are satisfiable for every type of the crate -/
theorem min_le_max (s : Bool) (n : Nat) : minI s n ≤ maxI s n := minI_le_maxI s n

/-- C02 in the property's words.  `FourForms L E …` (the shape every clause of `C02.holds` has) says: for the ONE exact result `E`,
  wrapping returns the representable value congruent to `E` mod 2^n, saturating the representable value nearest to `E`, checked `Some E` exactly when
  `E` is representable, overflowing the wrapped value with the flag "not representable" — whatever numbers `w`, `c` satisfy those sentences. -/
theorem four_forms_by_sentence (L : Layout) (hv : L.valid) (E : Int) {chk : Outcome (Option Int)} {sat wrp : Outcome Int}
    {ovf : Outcome (Int × Bool)} (h : FourForms L E chk sat wrp ovf) (w c : Int)
    (hw : IsWrapped L.signed L.n E w) (hc : IsNearest L.signed L.n E c) :
    wrp = .ok w false ∧ sat = .ok c false ∧ (inRange L E → chk = .ok (some E) false) ∧ (¬ inRange L E → chk = .ok none false) ∧
    ovf = .ok (w, !decide (inRange L E)) false := by
  have hn := hv.pos
  have ew := wrapped_unique L.signed hn E w hw
  have ec := nearest_unique L.signed L.n (min_le_max _ _) E c hc
  refine ⟨?_, ?_, fun hr => ?_, fun hr => ?_, ?_⟩
  · rw [h.wrapping, ew]; rfl
  · rw [h.saturating, ec]; rfl
  · rw [h.checked]; unfold Layout.chk; rw [(chkI_sentence _ _ E).1 hr]
  · rw [h.checked]; unfold Layout.chk; rw [(chkI_sentence _ _ E).2 hr]
  · rw [h.overflowing, ew]; rfl

/-- non-vacuity: 200 in an 8-bit signed word wraps to −56, saturates to 127, is not representable; −129 wraps to 127 -/
example : wrapI true 8 200 = -56 ∧ clampI true 8 200 = 127 ∧ chkI true 8 200 = none ∧ ovfI true 8 (-129) = (127, true) := by decide

end Sfx.C02Spec
