import SfxProofs.HalfFloat
/-
  C03Half — C03's float clause (comparisons order the exact values; NaN unordered; ±∞ outside every fixed-point value) for the crate's
  `f16` feature: `half::f16` and `half::bf16`.  The statement is `C03.C03_float` with the format hypothesis `F = f16 ∨ F = bf16`;
  the proof is the format-generic one (`CmpFloat.lean`, under `FloatFmt.ok`), instantiated by `HalfPf.ok_of`.
-/
namespace Sfx.C03Half
open Sfx.CmpPf Sfx.HalfPf

/-- fixed vs float, both operand orders: finite floats compare by exact value; NaN is unordered and unequal to everything;
infinities lie outside every fixed-point value -/
def C03Half_float : Prop :=
  ∀ A : Layout, A.valid → ∀ F : FloatFmt, (F = f16 ∨ F = bf16) → ∀ a : Int, inRange A a → ∀ fb : Nat,
    (∀ num e, floatExact F fb = some (num, e) →
      A.partialCmpFloat F a fb = some (cmpExactFloat A.f a num e) ∧ A.floatPartialCmp F fb a = some (-(cmpExactFloat A.f a num e)) ∧
      A.eqFloat F a fb = decide (cmpExactFloat A.f a num e = 0) ∧ A.ltFloat F a fb = decide (cmpExactFloat A.f a num e = -1) ∧
      A.leFloat F a fb = decide (cmpExactFloat A.f a num e ≠ 1) ∧ A.gtFloat F a fb = decide (cmpExactFloat A.f a num e = 1) ∧
      A.geFloat F a fb = decide (cmpExactFloat A.f a num e ≠ -1) ∧ A.floatLt F fb a = decide (cmpExactFloat A.f a num e = 1) ∧
      A.floatLe F fb a = decide (cmpExactFloat A.f a num e ≠ -1) ∧ A.floatGt F fb a = decide (cmpExactFloat A.f a num e = -1) ∧
      A.floatGe F fb a = decide (cmpExactFloat A.f a num e ≠ 1)) ∧
    (floatExact F fb = none → (F.parts fb).2.2 ≠ 0 →          -- NaN
      A.partialCmpFloat F a fb = none ∧ A.floatPartialCmp F fb a = none ∧ A.eqFloat F a fb = false ∧
      A.ltFloat F a fb = false ∧ A.leFloat F a fb = false ∧ A.gtFloat F a fb = false ∧ A.geFloat F a fb = false ∧
      A.floatLt F fb a = false ∧ A.floatLe F fb a = false ∧ A.floatGt F fb a = false ∧ A.floatGe F fb a = false) ∧
    (floatExact F fb = none → (F.parts fb).2.2 = 0 →          -- ±∞
      A.partialCmpFloat F a fb = some (if (F.parts fb).1 then 1 else -1) ∧ A.eqFloat F a fb = false ∧
      A.ltFloat F a fb = !(F.parts fb).1 ∧ A.gtFloat F a fb = (F.parts fb).1)

theorem float_holds : C03Half_float := fun A hA F hF a ha fb => float_clauses A hA F (ok_of F hF) a ha fb

/-- non-vacuity: NaN, infinity, the largest finite value and the smallest subnormal of both formats -/
example : floatExact f16 0x7E00 = none ∧ floatExact f16 0x7C00 = none ∧ floatExact f16 0x7BFF = some (2047, 5) ∧ floatExact f16 1 = some (1, -24) ∧
    floatExact bf16 0x7FC0 = none ∧ floatExact bf16 0x7F80 = none ∧ floatExact bf16 0x7F7F = some (255, 120) ∧ floatExact bf16 1 = some (1, -133) := by decide

end Sfx.C03Half

#print axioms Sfx.C03Half.float_holds
