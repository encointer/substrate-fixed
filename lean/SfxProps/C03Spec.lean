import SfxProps.C03
import Mathlib.Algebra.Order.Field.Basic
import Mathlib.Data.Rat.Cast.Order
import Mathlib.Tactic.Positivity
/-
  C03Spec — "comparisons order the exact values": the integer cross-multiplication `cmpExact` that `C03.fixed_holds` is written with IS the
  order of the rational numbers `a / 2^fa` and `b / 2^fb`.
-/
namespace Sfx.C03

/-- the exact value of a bit pattern -/
def valQ (f : Nat) (x : Int) : ℚ := (x : ℚ) / (2 : ℚ) ^ f

theorem lt_iff (fa fb : Nat) (a b : Int) : valQ fa a < valQ fb b ↔ a * 2 ^ fb < b * 2 ^ fa := by
  unfold valQ
  rw [div_lt_div_iff₀ (by positivity) (by positivity)]
  exact_mod_cast Iff.rfl

theorem eq_iff (fa fb : Nat) (a b : Int) : valQ fa a = valQ fb b ↔ a * 2 ^ fb = b * 2 ^ fa := by
  unfold valQ
  rw [div_eq_div_iff (by positivity) (by positivity)]
  exact_mod_cast Iff.rfl

/-- `cmpExact` is the three-way comparison of the exact rational values -/
theorem cmpExact_orders_values (fa fb : Nat) (a b : Int) :
    (cmpExact fa fb a b = -1 ↔ valQ fa a < valQ fb b) ∧ (cmpExact fa fb a b = 0 ↔ valQ fa a = valQ fb b) ∧
    (cmpExact fa fb a b = 1 ↔ valQ fb b < valQ fa a) := by
  rw [lt_iff, eq_iff, lt_iff]
  unfold cmpExact
  exact ⟨CmpPf.cmpInt_eq_neg_one_iff _ _, CmpPf.cmpInt_eq_zero_iff _ _, CmpPf.cmpInt_eq_one_iff _ _⟩

/-- C03 for two fixed-point operands in the property's words: `<`, `==`, `>`, `<=`, `>=` of ANY two types decide the order of the exact values -/
theorem fixed_by_values (A B : Layout) (hA : A.valid) (hB : B.valid) (a b : Int) (ha : inRange A a) (hb : inRange B b) :
    (A.ltFixed B a b = true ↔ valQ A.f a < valQ B.f b) ∧ (A.eqFixed B a b = true ↔ valQ A.f a = valQ B.f b) ∧
    (A.gtFixed B a b = true ↔ valQ B.f b < valQ A.f a) ∧ (A.leFixed B a b = true ↔ valQ A.f a ≤ valQ B.f b) ∧
    (A.geFixed B a b = true ↔ valQ B.f b ≤ valQ A.f a) := by
  obtain ⟨_, he, hl, hle, hg, hge, _⟩ := fixed_holds A B hA hB a b ha hb
  obtain ⟨c1, c0, c2⟩ := cmpExact_orders_values A.f B.f a b
  rw [hl, he, hg, hle, hge]
  simp only [decide_eq_true_eq]
  refine ⟨c1, c0, c2, ?_, ?_⟩
  · rw [← not_lt, ← c2]
  · rw [← not_lt, ← c1]

/-- non-vacuity: −0.75 as I?F2 (bits −3) against −0.5 as I?F1 (bits −1) -/
example : cmpExact 2 1 (-3) (-1) = -1 := by decide

end Sfx.C03
