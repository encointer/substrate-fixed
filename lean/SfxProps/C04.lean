import SfxProofs.Convert
import SfxModel.Generated
/-
  C04 — Fixed<->fixed and fixed<->integer conversions are exact with precise overflow.
  `Layout.convExact S D x = ⌊x · 2^D.f / 2^S.f⌋`: the source value on the destination grid, excess fractional bits discarded
  toward −∞.  Primitive integers are the zero-fraction layouts `Layout.ofInt signed width` (as in the code: `to_repr_fixed`).
-/
namespace Sfx.C04
open Sfx.ConvPf

def C04_statement : Prop :=
  ∀ S D : Layout, S.valid → D.valid → ∀ x : Int, inRange S x →
    Layout.overflowingFromFixed S D x = D.ovf (Layout.convExact S D x) ∧
    Layout.checkedFromFixed S D x = D.chk (Layout.convExact S D x) ∧
    Layout.wrappingFromFixed S D x = D.wrap (Layout.convExact S D x) ∧
    Layout.saturatingFromFixed S D x = D.clamp (Layout.convExact S D x) ∧
    Layout.fromFixed S D x = .ok (D.wrap (Layout.convExact S D x)) (!decide (inRange D (Layout.convExact S D x))) ∧
    -- `From`: admitted only where it cannot overflow, and then value-preserving
    (fromAdmissible S D →
      Layout.fromLossless S D x = .ok (x * 2 ^ (D.f - S.f)) false ∧ inRange D (x * 2 ^ (D.f - S.f)) ∧
      (x * 2 ^ (D.f - S.f)) * 2 ^ S.f = x * 2 ^ D.f) ∧
    -- `LossyFrom`: never overflows, loses only fractional bits
    (lossyAdmissible S D → Layout.fromFixed S D x = .ok (Layout.convExact S D x) false)

theorem holds : C04_statement := by
  intro S D hS hD x hx
  obtain ⟨h1, h2, h3, h4, h5⟩ := fromFixed_forms S D (valid_fits128 hS) (valid_fits128 hD) x hx
  refine ⟨h1, h2, h3, h4, h5, fun h => ?_, fun h => lossyFrom_spec S D hS hD h x hx⟩
  obtain ⟨h1, h2, _⟩ := fromLossless_spec S D hS hD h x hx
  exact ⟨h1, h2, fromLossless_value S D h.1 x⟩

/-- integers: the twelve primitive types are the zero-fraction layouts, so both directions are instances -/
theorem integers (L : Layout) (hL : L.valid) (si : Bool) (ni : Nat) (hni : ni = 8 ∨ ni = 16 ∨ ni = 32 ∨ ni = 64 ∨ ni = 128) :
    (∀ x, inRange L x → Layout.convExact L (Layout.ofInt si ni) x = x / 2 ^ L.f ∧
        Layout.checkedFromFixed L (Layout.ofInt si ni) x = chkI si ni (x / 2 ^ L.f)) ∧
    (∀ k, inI si ni k → Layout.convExact (Layout.ofInt si ni) L k = k * 2 ^ L.f ∧
        Layout.checkedFromFixed (Layout.ofInt si ni) L k = L.chk (k * 2 ^ L.f)) := by
  exact ⟨fun x hx => ⟨convExact_toInt L si ni x, (toInt_spec L hL si ni hni x hx).2.1⟩,
    fun k hk => ⟨convExact_fromInt L si ni k, (fromInt_spec L hL si ni hni k hk).2.1⟩⟩

/-- the type-level bound of `From`/`LossyFrom` is tight: one integer bit more in the source and some value does not fit -/
theorem bound_tight (S D : Layout) (hS : S.valid) (hD : D.valid) (hs : S.signed = D.signed) (hf : S.f ≤ D.f)
    (hb : S.n - S.f = D.n - D.f + 1) : ∃ x, inRange S x ∧ ¬ inRange D (Layout.convExact S D x) := by
  have hn : ¬ lossyAdmissible S D := by unfold lossyAdmissible; rw [if_pos hs]; omega
  exact exists_not_fit S D hS.pos hS.2 hD.pos hD.2 hn

/-! ### the type-level bounds of `convert.rs`, regenerated from the source on every run (`Generated.fromImpls`) -/

/-- an impl row is sound when `From` carries the fractional-bit clause and the constant of its integer-bit clause is the destination
width (same signedness) or the width minus the sign bit (unsigned → signed); signed → unsigned is never offered.
A row is (trait, source signedness, source width, destination signedness, destination width, whether the impl carries the
`FracSrc ≤ FracDst` clause, the constant of its integer-bit clause). -/
def implSound : String × Bool × Nat × Bool × Nat × Bool × Nat → Bool
  | (tr, ss, _sn, ds, dn, leF, ib) =>
    (tr == "LossyFrom" || (tr == "From" && leF)) && (if ss == ds then ib == dn else (!ss && ds && ib + 1 == dn))

/-- every `From` / `LossyFrom` impl between fixed-point types found in the source is sound … -/
theorem from_table_sound : Generated.fromImpls.all implSound = true := by decide +kernel

/-- … and complete: all ten widening pairs × three sign combinations for `From`, all 25 pairs × three for `LossyFrom` -/
theorem from_table_counts :
    (Generated.fromImpls.filter (·.1 == "From")).length = 30 ∧ (Generated.fromImpls.filter (·.1 == "LossyFrom")).length = 75 := by decide +kernel

/-- what soundness of a row means: whenever the where-clauses of the impl hold for concrete fractional-bit counts, the pair of layouts is
admissible in the sense used by `holds` (so the conversion is value-preserving / loses only fractional bits and cannot overflow) -/
theorem implSound_admissible (tr : String) (ss : Bool) (sn : Nat) (ds : Bool) (dn : Nat) (leF : Bool) (ib : Nat)
    (h : implSound (tr, ss, sn, ds, dn, leF, ib) = true) (fs fd : Nat) (hfs : fs ≤ sn) (hfd : fd ≤ ib)
    (hfrac : leF = true → fs ≤ fd) (hint : sn - fs ≤ ib - fd) :
    lossyAdmissible ⟨ss, sn, fs⟩ ⟨ds, dn, fd⟩ ∧ (tr = "From" → fromAdmissible ⟨ss, sn, fs⟩ ⟨ds, dn, fd⟩) := by
  unfold implSound at h
  rw [Bool.and_eq_true] at h
  obtain ⟨htr, hb⟩ := h
  simp only [Bool.and_eq_true, Bool.or_eq_true, beq_iff_eq] at htr
  have hl : lossyAdmissible ⟨ss, sn, fs⟩ ⟨ds, dn, fd⟩ :=
    lossyAdmissible_of_row _ _ ib _ _ hb (fun h => Nat.le_of_eq (eq_of_beq h)) (fun h => Nat.le_of_eq (eq_of_beq h)) hfd hint
  refine ⟨hl, fun hfrom => ?_⟩
  rw [fromAdmissible_iff]
  refine ⟨?_, hl⟩
  rcases htr with h | ⟨_, h⟩
  · rw [hfrom] at h; simp at h
  · exact hfrac h

/-- non-vacuity: a widening signed→signed pair admitted by `From`, and a narrowing pair that overflows -/
example : (⟨true, 8, 3⟩ : Layout).valid ∧ (⟨true, 32, 16⟩ : Layout).valid ∧ fromAdmissible ⟨true, 8, 3⟩ ⟨true, 32, 16⟩ ∧
    inRange ⟨true, 8, 3⟩ (-128) ∧ ¬ inRange ⟨false, 8, 8⟩ (Layout.convExact ⟨true, 32, 16⟩ ⟨false, 8, 8⟩ (-1)) := by
  refine ⟨by decide, by decide, ?_, by decide, by decide⟩
  unfold fromAdmissible; decide

end Sfx.C04
