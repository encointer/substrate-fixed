import SfxProofs.ExtCast
/-
  C04 / C05 for the `az` cast traits (`src/cast.rs`, cargo feature `az`): `Cast`, `CheckedCast`, `SaturatingCast`, `WrappingCast`,
  `OverflowingCast` and `StaticCast` between fixed-point types, primitive integers (and `bool`) and floats are the conversions of C04 / C05
  under other names, so the same exact-result statements hold for them; `StaticCast` is `Some(exact result)` exactly for the type pairs
  in which EVERY source value converts, and `None` otherwise (the sentence of the `az` documentation).
  Model: `SfxModel/ExtCast.lean` (tied to the code by the `cast` bin of the harness, both build profiles); helper lemmas: `SfxProofs/ExtCast.lean`.
-/
namespace Sfx.C04Cast
open Sfx.ExtCast

/-- fixed → fixed casts (and, with `Layout.ofInt`, fixed ↔ integer): one exact result, the four policies + the plain cast -/
theorem casts_hold (S D : Layout) (hS : S.valid) (hD : D.valid) (x : Int) (hx : inRange S x) :
    overflowingCast S D x = D.ovf (Layout.convExact S D x) ∧
    checkedCast S D x = D.chk (Layout.convExact S D x) ∧
    wrappingCast S D x = D.wrap (Layout.convExact S D x) ∧
    saturatingCast S D x = D.clamp (Layout.convExact S D x) ∧
    ExtCast.cast S D x = .ok (D.wrap (Layout.convExact S D x)) (!decide (inRange D (Layout.convExact S D x))) :=
  ConvPf.fromFixed_forms S D (ConvPf.valid_fits128 hS) (ConvPf.valid_fits128 hD) x hx

/-- fixed → integer: the exact result is `⌊x / 2^f⌋` -/
theorem to_integer (L : Layout) (hL : L.valid) (si : Bool) (ni : Nat) (hni : ni = 8 ∨ ni = 16 ∨ ni = 32 ∨ ni = 64 ∨ ni = 128)
    (x : Int) (hx : inRange L x) :
    overflowingCast L (Layout.ofInt si ni) x = ovfI si ni (x / 2 ^ L.f) ∧
    checkedCast L (Layout.ofInt si ni) x = chkI si ni (x / 2 ^ L.f) ∧
    wrappingCast L (Layout.ofInt si ni) x = wrapI si ni (x / 2 ^ L.f) ∧
    saturatingCast L (Layout.ofInt si ni) x = clampI si ni (x / 2 ^ L.f) ∧
    ExtCast.cast L (Layout.ofInt si ni) x = .ok (wrapI si ni (x / 2 ^ L.f)) (!decide (inI si ni (x / 2 ^ L.f))) :=
  ConvPf.toInt_spec L hL si ni hni x hx

/-- integer → fixed: the exact result is `k · 2^f` -/
theorem from_integer (L : Layout) (hL : L.valid) (si : Bool) (ni : Nat) (hni : ni = 8 ∨ ni = 16 ∨ ni = 32 ∨ ni = 64 ∨ ni = 128)
    (k : Int) (hk : inI si ni k) :
    overflowingCast (Layout.ofInt si ni) L k = L.ovf (k * 2 ^ L.f) ∧
    checkedCast (Layout.ofInt si ni) L k = L.chk (k * 2 ^ L.f) ∧
    wrappingCast (Layout.ofInt si ni) L k = L.wrap (k * 2 ^ L.f) ∧
    saturatingCast (Layout.ofInt si ni) L k = L.clamp (k * 2 ^ L.f) ∧
    ExtCast.cast (Layout.ofInt si ni) L k = .ok (L.wrap (k * 2 ^ L.f)) (!decide (inRange L (k * 2 ^ L.f))) :=
  ConvPf.fromInt_spec L hL si ni hni k hk

/-- `static_cast` = the documented answer: `Some(exact result)` iff the conversion works for all source values -/
theorem static_cast (S D : Layout) (hS : S.valid) (hD : D.valid) (x : Int) (hx : inRange S x) :
    staticCast S D x = staticSpec S D x ∧
    (worksForAll S D = true ↔ ∀ y, inRange S y → inRange D (Layout.convExact S D y)) :=
  ⟨ExtCastPf.staticCast_spec S D hS hD x hx, ExtCastPf.worksForAll_iff S D hS.pos hS.2 hD.pos hD.2⟩

/-- `bool` → fixed `static_cast` -/
theorem static_cast_bool (D : Layout) (hD : D.valid) (k : Int) (hk : k = 0 ∨ k = 1) :
    staticCastBool D k = staticSpec boolLayout D k :=
  (ExtCastPf.staticCastBool_spec D hD k hk).1

/-- the float casts (C05 for `cast.rs`): float → fixed correctly rounded under the four policies, non-finite input rejected as documented,
fixed → float the round-to-nearest-even float in every form, `static_cast` from a float always `None` -/
theorem float_casts_hold (F : FloatFmt) (hF : F = f32 ∨ F = f64) (L : Layout) (hL : L.valid) :
    (∀ b : Nat, b < 2 ^ F.nbits → ∀ E : Int, floatToGrid F b L.f = some E →
      overflowingCastFromFloat L F b = .ok (L.ovf E) false ∧ checkedCastFromFloat L F b = .ok (L.chk E) false ∧
      saturatingCastFromFloat L F b = .ok (L.clamp E) false ∧ wrappingCastFromFloat L F b = .ok (L.wrap E) false ∧
      castFromFloat L F b = .ok (L.wrap E) (!decide (inRange L E))) ∧
    (∀ b : Nat, b < 2 ^ F.nbits → floatExact F b = none →
      checkedCastFromFloat L F b = .ok none false ∧ overflowingCastFromFloat L F b = .panic ∧ wrappingCastFromFloat L F b = .panic ∧
      castFromFloat L F b = .panic) ∧
    (∀ x : Int, inRange L x →
      castToFloat L F x = rneFloat F L.f x ∧ checkedCastToFloat L F x = some (rneFloat F L.f x) ∧
      overflowingCastToFloat L F x = (rneFloat F L.f x, false)) ∧
    (∀ b : Nat, staticCastFromFloat L F b = .ok none false) := by
  have h := ExtCastPf.cast_C05 F hF L hL
  exact ⟨h.1, fun b hb hn => ⟨(h.2.1 b hb hn).1, (h.2.1 b hb hn).2.1, (h.2.1 b hb hn).2.2.1, (h.2.1 b hb hn).2.2.2.1⟩,
    fun x hx => ⟨(h.2.2.1 x hx).1, (h.2.2.1 x hx).2.1, (h.2.2.1 x hx).2.2.2.2.1⟩, h.2.2.2.1⟩

/-- non-vacuity: I16F16 → I8F8 does not work for all values (`static_cast` is `None`), U8F8 → I16F16 does -/
example : worksForAll ⟨true, 32, 16⟩ ⟨true, 16, 8⟩ = false ∧ worksForAll ⟨false, 16, 8⟩ ⟨true, 32, 16⟩ = true := by decide

end Sfx.C04Cast
