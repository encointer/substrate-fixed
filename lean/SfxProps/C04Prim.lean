import SfxProofs.ExtFrom
/-
  C04 / C05 for the type-level (infallible) conversion impls of `convert.rs` between fixed-point types and PRIMITIVES:
  `From<int|bool> for Fixed`, `LossyFrom<int|bool> for Fixed`, `From<Fixed<U0>> for int`, `LossyFrom<Fixed> for int`,
  `From<Fixed> for f32|f64` (lossless rows), `LossyFrom<Fixed> for f32|f64`, the primitive→primitive `LossyFrom` rows, `lossy_into`.
  The fixed→fixed rows are in SfxProps/C04.lean (`from_table_sound`).

  Tie to the source: `tools/gen_from_source.py` extracts EVERY impl header of these macro families with its where-clauses, instantiated
  for every invocation row, into `SfxModel/GeneratedConv.lean` on every run (411 rows in five tables, 58 of them behind `cfg(feature = "f16")`); the table theorems below are
  conjunctions of the `decide +kernel` evaluations of `SfxProofs/ExtFrom.lean` over the whole generated tables, so loosening a bound in the source (`$DstBitsM1` → `$DstBits`, a missing clause, an extra
  row) breaks a theorem; the harness instantiates the impls per admissible pair and the driver answers ONLY pairs found in the tables
  (an impl that exists in the code but not in the tables shows up as NOMODEL).
-/
namespace Sfx.C04
open Sfx.ExtFromPf Sfx.ConvPf

/-- every `From<int|bool>` / `LossyFrom<int|bool> for Fixed` row of the source is sound and the table is complete -/
theorem from_int_rows : Generated.fromIntImpls.all fromIntSound = true ∧
    (Generated.fromIntImpls.filter (·.1 == "From")).length = 50 ∧ (Generated.fromIntImpls.filter (·.1 == "LossyFrom")).length = 50 :=
  ⟨from_int_table_sound, from_int_table_counts.1, from_int_table_counts.2.1⟩

/-- every `From<Fixed<U0>> for int` / `LossyFrom<Fixed> for int` row is sound and the table is complete -/
theorem to_int_rows : Generated.toIntImpls.all toIntSound = true ∧
    (Generated.toIntImpls.filter (·.1 == "From")).length = 45 ∧ (Generated.toIntImpls.filter (·.1 == "LossyFrom")).length = 90 :=
  ⟨to_int_table_sound, to_int_table_counts⟩

/-- every `From<Fixed> for float` row has a source no wider than the significand; every int→float and primitive→primitive row is sound -/
theorem float_rows : Generated.toFloatImpls.all toFloatSound = true ∧ Generated.intToFloatImpls.all intToFloatSound = true ∧
    Generated.primLossyImpls.all primLossySound = true :=
  ⟨to_float_table_sound, int_to_float_table_sound, prim_lossy_table_sound⟩

/-- an admissible integer (or `bool`, `sn = 1`) source converts exactly and silently in every profile -/
theorem int_to_fixed_exact (ss : Bool) (sn : Nat) (hsn : 0 < sn) (D : Layout) (h : fromAdmissible (Layout.ofInt ss sn) D)
    (k : Int) (hk : inI ss sn k) :
    ExtFrom.intToFixed D k = .ok (k * 2 ^ D.f) false ∧ inRange D (k * 2 ^ D.f) :=
  intToFixed_spec ss sn hsn D h k hk

/-- `LossyFrom<Fixed> for int`: the fraction is discarded toward −∞, nothing else is lost, no panic and no debug-only check -/
theorem fixed_to_int_lossy (S : Layout) (hS : S.valid) (di : Bool) (dn : Nat) (hdn : dn = 8 ∨ dn = 16 ∨ dn = 32 ∨ dn = 64 ∨ dn = 128)
    (h : lossyAdmissible S (Layout.ofInt di dn)) (x : Int) (hx : inRange S x) :
    ExtFrom.fixedToIntLossy S di dn x = .ok (x / 2 ^ S.f) false ∧ inI di dn (x / 2 ^ S.f) :=
  fixedToIntLossy_spec S hS di dn hdn h x hx

/-- `From<Fixed> for f32|f64` where the source's whole width fits the significand: the float denotes exactly `x / 2^f` -/
theorem fixed_to_float_exact (F : FloatFmt) (hF : F = f32 ∨ F = f64) (S : Layout) (hS : S.valid) (hw : S.n ≤ F.prec)
    (x : Int) (hx : inRange S x) :
    ∃ k : Nat, floatExact F (ExtFrom.fixedToFloat S F x) = some (x * 2 ^ k, -(k : Int) - S.f) :=
  fixedToFloat_lossless F hF S hS hw x hx

/-- `LossyFrom<Fixed> for f32|f64`: IEEE round-to-nearest-even (C05) -/
theorem fixed_to_float_lossy (F : FloatFmt) (hF : F = f32 ∨ F = f64) (S : Layout) (hS : S.valid) (x : Int) (hx : inRange S x) :
    ExtFrom.fixedToFloat S F x = rneFloat F S.f x :=
  fixedToFloat_lossy F hF S hS x hx

end Sfx.C04
