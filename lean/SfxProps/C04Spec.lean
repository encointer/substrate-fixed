import SfxProps.C04
import SfxProps.C01Spec
/-
  C04Spec — "the source value on the destination grid, excess fractional bits discarded toward −∞", without `/`.
  `C04.holds` is written with `convExact S D x = (x·2^D.f) / 2^S.f`.  Here it is characterised as the unique destination bit pattern `m` with
  `m / 2^D.f ≤ x / 2^S.f < (m + 1) / 2^D.f` (cross-multiplied), and as EXACT (`m / 2^D.f = x / 2^S.f`) whenever some destination pattern has the
  source's value — in particular whenever the destination has at least as many fractional bits.
-/
namespace Sfx.C04
open Sfx.C01

/-- `m` (destination bits) is the source value `x / 2^S.f` rounded toward −∞ to the destination grid -/
def IsFloorConv (S D : Layout) (x m : Int) : Prop := m * 2 ^ S.f ≤ x * 2 ^ D.f ∧ x * 2 ^ D.f < m * 2 ^ S.f + 2 ^ S.f

theorem convExact_is_floor (S D : Layout) (x : Int) : IsFloorConv S D x (Layout.convExact S D x) :=
  mulSpec_is_floor S.f x (2 ^ D.f)

theorem floor_conv_unique (S D : Layout) (x m : Int) (h : IsFloorConv S D x m) : m = Layout.convExact S D x :=
  floor_product_unique S.f x (2 ^ D.f) m h

/-- a destination pattern with exactly the source's value is what the conversion computes: conversions are EXACT whenever they can be -/
theorem exact_when_representable (S D : Layout) (x m : Int) (h : m * 2 ^ S.f = x * 2 ^ D.f) : Layout.convExact S D x = m := by
  have hP := two_pow_pos S.f
  exact (floor_conv_unique S D x m ⟨by omega, by omega⟩).symm

/-- with at least as many fractional bits in the destination every source value is representable on its grid -/
theorem exact_when_widening_frac (S D : Layout) (hf : S.f ≤ D.f) (x : Int) :
    Layout.convExact S D x * 2 ^ S.f = x * 2 ^ D.f := by
  rw [ConvPf.convExact_of_le S D hf x]; exact ConvPf.fromLossless_value S D hf x

/-- C04's five forms against the sentence: whatever `m` is the floor of the source value on the destination grid is what they treat -/
theorem holds_by_sentence (S D : Layout) (hS : S.valid) (hD : D.valid) (x : Int) (hx : inRange S x) (m : Int) (hm : IsFloorConv S D x m) :
    Layout.overflowingFromFixed S D x = D.ovf m ∧ Layout.checkedFromFixed S D x = D.chk m ∧
    Layout.wrappingFromFixed S D x = D.wrap m ∧ Layout.saturatingFromFixed S D x = D.clamp m := by
  rw [floor_conv_unique S D x m hm]
  obtain ⟨h1, h2, h3, h4, _⟩ := holds S D hS hD x hx
  exact ⟨h1, h2, h3, h4⟩

/-- non-vacuity: −0.75 (I?F2 bits −3) to a grid of 1 fractional bit: −1.0 (bits −2), toward −∞; to 3 fractional bits: exact (bits −6) -/
example : Layout.convExact ⟨true, 8, 2⟩ ⟨true, 8, 1⟩ (-3) = -2 ∧ Layout.convExact ⟨true, 8, 2⟩ ⟨true, 8, 3⟩ (-3) = -6 := by decide

end Sfx.C04
