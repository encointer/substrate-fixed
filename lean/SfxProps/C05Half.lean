import SfxProofs.HalfFloat
/-
  C05Half — C05 (float conversions are correctly rounded, ties to even, in both directions) for the crate's `f16` feature:
  `half::f16` (16 bits, precision 11) and `half::bf16` (16 bits, precision 8).  The statement is `C05.C05_statement` with the format
  hypothesis `F = f16 ∨ F = bf16`.  Float → fixed: the format-generic proofs (`FromFloat.lean`, `*_gen` under `FloatFmt.ok`).  Fixed → float:
  the format-generic `ToFloatPf.toFloat_eq_rneFloat_gen`; `f16` reaches the subnormal branch of `from_to_float_helper` and the
  overflow-to-infinity branch for many layouts.
-/
namespace Sfx.C05Half
open Sfx.ToFloatPf Sfx.FromFloatPf

def C05Half_statement : Prop :=
  ∀ F : FloatFmt, (F = f16 ∨ F = bf16) → ∀ L : Layout, L.valid →
    -- float → fixed, finite input: one exact rounded result `E`, the four policies (+ plain) decide overflow on `E`
    (∀ b : Nat, b < 2 ^ F.nbits → ∀ E : Int, floatToGrid F b L.f = some E →
      L.overflowingFromFloat F b = .ok (L.ovf E) false ∧ L.checkedFromFloat F b = .ok (L.chk E) false ∧
      L.saturatingFromFloat F b = .ok (L.clamp E) false ∧ L.wrappingFromFloat F b = .ok (L.wrap E) false ∧
      L.fromFloat F b = .ok (L.wrap E) (!decide (inRange L E))) ∧
    -- float → fixed, non-finite input: rejected as documented
    (∀ b : Nat, b < 2 ^ F.nbits → floatExact F b = none →
      L.checkedFromFloat F b = .ok none false ∧ L.overflowingFromFloat F b = .panic ∧ L.wrappingFromFloat F b = .panic ∧
      L.fromFloat F b = .panic ∧
      ((F.parts b).2.2 ≠ 0 → L.saturatingFromFloat F b = .panic) ∧
      ((F.parts b).2.2 = 0 → L.saturatingFromFloat F b = .ok (if (F.parts b).1 then L.min else L.max) false)) ∧
    -- fixed → float: the IEEE-754 round-to-nearest-even result, incl. subnormals and overflow to infinity
    (∀ x : Int, inRange L x → L.toFloat F x = rneFloat F L.f x)

theorem holds : C05Half_statement := fun F hF L hL =>
  ⟨(fromFloat_clauses F (HalfPf.ok_of F hF) L hL).1, (fromFloat_clauses F (HalfPf.ok_of F hF) L hL).2,
    toFloat_eq_rneFloat_gen F (HalfPf.okTo_of F hF) L hL⟩

/-- the specification `rneFloat` really is round-to-nearest, ties-to-even for the two half formats: no finite float is closer, and on a
tie with a different float the chosen one has an even pattern -/
theorem rneFloat_is_nearest_even (F : FloatFmt) (hF : F = f16 ∨ F = bf16) (f : Nat) (x : Int)
    (vr : Int × Int) (hr : floatVal F (rneFloat F f x) = some vr) (b : Nat) (vb : Int × Int) (hb : floatVal F b = some vb) :
    scaledErr F f x vr ≤ scaledErr F f x vb ∧
    (scaledVal F f vb ≠ scaledVal F f vr → scaledErr F f x vr = scaledErr F f x vb → rneFloat F f x % 2 = 0) :=
  rneFloat_nearest_gen F (HalfPf.okTo_of F hF) f x vr hr b vb hb

/-- non-vacuity: the largest finite f16 / bf16 are finite, the NaNs are not, subnormal and overflowing conversions of valid layouts:
`I8F120(1) = 2^-120` is not representable in f16 (→ +0) but is a bf16 normal; `U16F0(65535)` rounds to f16 infinity; `U0F16(1) = 2^-16` is an f16 subnormal -/
example : (floatExact f16 0x7BFF).isSome ∧ floatExact f16 0x7E00 = none ∧ (floatExact bf16 0x7F7F).isSome ∧ floatExact bf16 0x7FC0 = none ∧
    (⟨true, 128, 120⟩ : Layout).valid ∧ (⟨true, 128, 120⟩ : Layout).toFloat f16 1 = 0 ∧ (⟨true, 128, 120⟩ : Layout).toFloat bf16 1 = 0x0380 ∧
    (⟨false, 16, 0⟩ : Layout).toFloat f16 65535 = 0x7C00 ∧ (⟨false, 16, 16⟩ : Layout).toFloat f16 1 = 0x0100 := by decide

end Sfx.C05Half

#print axioms Sfx.C05Half.holds
#print axioms Sfx.C05Half.rneFloat_is_nearest_even
