import SfxProps.C05
import SfxProps.C06Spec
/-
  C05Spec — float → fixed: "the grid value nearest to the float's exact value, ties to even" as a sentence with one solution.
  `C05.holds` is written with `floatToGrid` = `rneScaled num (e + f)` for the exact float value `num·2^e`.  With `s = e + f ≥ 0` the value is on the
  grid and the result is exact; with `s < 0` the result `E` is characterised by `C06.IsRounding … .roundEven` (SfxProps/C06Spec.lean): `E·2^k` (k = −s) is the multiple of
  `2^k` at distance ≤ half a unit from `num`, the even multiple on a tie — and that sentence has exactly one solution.
  (The other direction, fixed → float, has its nearest / ties-to-even theorem in `C05.rneFloat_is_nearest_even`.)
-/
namespace Sfx.C05
open Sfx.C06

-- `0 < k` is in the two statements and not needed: for `k = 0` the rounding is exact
/-- `rneShift num k` is THE integer `m` such that `m·2^k` is nearest to `num`, the even one on a tie -/
theorem rneShift_is_nearest_even (num : Int) (k : Nat) (hk : 0 < k) : IsRounding k .roundEven num (rneShift num k * 2 ^ k) :=
  (isRounding_iff_isRne k num _).2 (rneShift_isRne num k)

theorem nearest_even_unique (num : Int) (k : Nat) (hk : 0 < k) (m : Int) (h : IsRounding k .roundEven num (m * 2 ^ k)) : m = rneShift num k :=
  ((isRounding_iff_isRne k num m).1 h).unique (two_pow_pos k) (rneShift_isRne num k)

/-- the sentence for a finite float with exact value `num·2^e` and a grid of `f` fractional bits -/
def IsNearestGrid (num e : Int) (f : Nat) (E : Int) : Prop :=
  (0 ≤ e + f → E = num * 2 ^ (e + f).toNat) ∧ (e + f < 0 → IsRounding (-(e + f)).toNat .roundEven num (E * 2 ^ (-(e + f)).toNat))

theorem floatToGrid_is_nearest (F : FloatFmt) (b f : Nat) (E : Int) (h : floatToGrid F b f = some E) :
    ∃ num e, floatExact F b = some (num, e) ∧ IsNearestGrid num e f E := by
  obtain ⟨num, e, hx, rfl⟩ := CmpPf.floatToGrid_some F b f E h
  refine ⟨num, e, hx, ?_, ?_⟩
  · intro hs; exact ToFloatPf.rneScaled_nonneg_exp num _ hs
  · intro hs
    rw [ToFloatPf.rneScaled_neg_exp num _ hs]
    exact rneShift_is_nearest_even num _ (by omega)

theorem nearest_grid_unique (num e : Int) (f : Nat) (E : Int) (h : IsNearestGrid num e f E) : E = rneScaled num (e + f) := by
  by_cases hs : e + f ≥ 0
  · rw [ToFloatPf.rneScaled_nonneg_exp num _ hs]; exact h.1 hs
  · rw [ToFloatPf.rneScaled_neg_exp num _ (by omega)]; exact nearest_even_unique num _ (by omega) E (h.2 (by omega))

/-- non-vacuity: 5·2^-2 = 1.25 onto a grid of 1 fractional bit is a tie between 1.0 and 1.5 (bits 2 and 3): the even pattern 2;
  7·2^-2 = 1.75 goes to 2.0 (bits 4) -/
example : rneScaled 5 (-2 + 1) = 2 ∧ rneScaled 7 (-2 + 1) = 4 ∧ rneScaled 5 (0 + 1) = 10 := by decide

end Sfx.C05
