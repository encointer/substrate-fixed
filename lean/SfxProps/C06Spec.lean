import SfxProofs.RoundExact
import SfxProofs.RoundHalfEven
import SfxProps.C06
/-
  C06Spec — the specification used by `C06.holds` means what the property says.
  `C06.holds` equates the code's model with `Layout.exactR`, which is written with `/` and `%`.  A reader has to trust that those formulas ARE
  "the greatest whole number ≤ a", "the nearest whole number, ties away from zero", "…, ties to even".  This file removes that trust: each exact
  rounding is characterised by the order-theoretic sentence of the documentation (`IsRounding`), and the characterisation determines the value
  uniquely, so any other formula satisfying the sentence is equal to the one the proofs use.  Everything is over unbounded `Int`
  (value = `a / 2^f`), no layout, no range hypothesis.
-/
namespace Sfx.C06
open Sfx.Layout

/-- `m` (scaled by `2^f`) is a whole number -/
def IsWhole (f : Nat) (m : Int) : Prop := (2 : Int) ^ f ∣ m

/-- the sentence of the documentation for each rounding mode; `a`, `m` scaled by `2^f`:
  floor = the whole number with `m ≤ a < m + 1`; ceil = the one with `a ≤ m < a + 1`;
  round = a whole number at distance ≤ 1/2, and at distance exactly 1/2 the one away from zero;
  roundEven = a whole number at distance ≤ 1/2, and at distance exactly 1/2 the even one -/
def IsRounding (f : Nat) : RMode → Int → Int → Prop
  | .floor, a, m => IsWhole f m ∧ m ≤ a ∧ a < m + 2 ^ f
  | .ceil, a, m => IsWhole f m ∧ a ≤ m ∧ m < a + 2 ^ f
  | .round, a, m => IsWhole f m ∧ 2 * (a - m) ≤ 2 ^ f ∧ 2 * (m - a) ≤ 2 ^ f ∧
      (2 * (m - a) = 2 ^ f → 0 ≤ a) ∧ (2 * (a - m) = 2 ^ f → a < 0)
  | .roundEven, a, m => IsWhole f m ∧ 2 * (a - m) ≤ 2 ^ f ∧ 2 * (m - a) ≤ 2 ^ f ∧
      (2 * (a - m) = 2 ^ f ∨ 2 * (m - a) = 2 ^ f → (2 : Int) ^ (f + 1) ∣ m)

/-- `round_to_zero`: the whole number between 0 and `a` at distance < 1 -/
def IsTrunc (f : Nat) (a m : Int) : Prop :=
  IsWhole f m ∧ (0 ≤ a → m ≤ a ∧ a < m + 2 ^ f) ∧ (a ≤ 0 → a ≤ m ∧ m < a + 2 ^ f)

theorem dvd_far {P d : Int} (hP : 0 < P) (h : P ∣ d) (hd : d ≠ 0) : d ≤ -P ∨ P ≤ d := Sfx.dvd_far hP h hd

theorem dvd_close {P x y : Int} (hP : 0 < P) (h : P ∣ x - y) (h1 : x - y < P) (h2 : y - x < P) : x = y := by
  apply Classical.byContradiction
  intro hne
  rcases dvd_far hP h (by omega) with h | h <;> omega

theorem whole_floor (f : Nat) (a : Int) : IsWhole f (a / 2 ^ f * 2 ^ f) := Int.dvd_mul_left _ _
theorem whole_up (f : Nat) (a : Int) : IsWhole f (a / 2 ^ f * 2 ^ f + 2 ^ f) :=
  Int.dvd_add (Int.dvd_mul_left _ _) (Int.dvd_refl _)

theorem two_pow_succ' (f : Nat) : (2 : Int) ^ (f + 1) = 2 * 2 ^ f := by rw [Int.pow_succ, Int.mul_comm]

/-- the sentence for `roundEven`, said of the multiple `m·2^k`, is the sentence `IsRne` (round half even of a quotient, shared with the
conversions and the parser) said of `m` -/
theorem isRounding_iff_isRne (k : Nat) (num m : Int) : IsRounding k .roundEven num (m * 2 ^ k) ↔ IsRne num (2 ^ k) m := by
  have hP := two_pow_pos k
  have e : (2 : Int) ^ (k + 1) ∣ m * 2 ^ k ↔ m % 2 = 0 := by
    rw [two_pow_succ']
    constructor
    · intro h; have := Int.dvd_of_mul_dvd_mul_right (Int.ne_of_gt hP) h; omega
    · intro h; exact Int.mul_dvd_mul (by omega) (Int.dvd_refl _)
  simp only [IsRounding, IsRne, IsWhole, e]
  constructor
  · rintro ⟨_, h1, h2, h3⟩; exact ⟨by omega, by omega, fun t => h3 (by omega)⟩
  · rintro ⟨h1, h2, h3⟩; exact ⟨Int.dvd_mul_left _ _, by omega, by omega, fun t => h3 (by omega)⟩

/-- every exact rounding used by `C06.holds` satisfies the documentation's sentence -/
theorem exactR_is_rounding (f : Nat) (m : RMode) (a : Int) : IsRounding f m a (exactR f m a) := by
  obtain ⟨h0, h1, h2, _, _⟩ := floor_facts f a
  have hP := two_pow_pos f
  have wf := whole_floor f a
  have wu := whole_up f a
  cases m
  case roundEven =>
    have e : roundEvenE f a =
        (a / 2 ^ f + if 2 * (a % 2 ^ f) < 2 ^ f ∨ 2 * (a % 2 ^ f) = 2 ^ f ∧ a / 2 ^ f % 2 = 0 then 0 else 1) * 2 ^ f := by
      rw [roundEvenE_cases]; split <;> simp [add_one_mul_eq]
    show IsRounding f .roundEven a (roundEvenE f a)
    rw [e]
    exact (isRounding_iff_isRne f a _).2 (isRne_of_decomp h0 h1 h2)
  all_goals simp only [IsRounding, exactR]
  · rw [ceilE_cases]
    split
    · exact ⟨wf, by omega⟩
    · exact ⟨wu, by omega⟩
  · exact ⟨wf, by unfold floorE; omega⟩
  · rw [roundE_cases]
    split
    · exact ⟨wf, by omega⟩
    · exact ⟨wu, by omega⟩

/-- … and the sentence has only one solution: whatever satisfies it IS the value the proofs use -/
theorem rounding_unique (f : Nat) (m : RMode) (a x : Int) (hx : IsRounding f m a x) : x = exactR f m a := by
  have hm := exactR_is_rounding f m a
  have hP := two_pow_pos f
  generalize exactR f m a = y at hm ⊢
  cases m
  case roundEven =>
    obtain ⟨p, rfl⟩ := hx.1
    obtain ⟨q, rfl⟩ := hm.1
    rw [Int.mul_comm _ p] at hx ⊢
    rw [Int.mul_comm _ q] at hm ⊢
    rw [((isRounding_iff_isRne f a p).1 hx).unique hP ((isRounding_iff_isRne f a q).1 hm)]
  · obtain ⟨wx, _, _⟩ := hx; obtain ⟨wy, _, _⟩ := hm
    exact dvd_close hP (Int.dvd_sub wx wy) (by omega) (by omega)
  · obtain ⟨wx, _, _⟩ := hx; obtain ⟨wy, _, _⟩ := hm
    exact dvd_close hP (Int.dvd_sub wx wy) (by omega) (by omega)
  · obtain ⟨wx, _, _, _, _⟩ := hx; obtain ⟨wy, _, _, _, _⟩ := hm
    exact dvd_close hP (Int.dvd_sub wx wy) (by omega) (by omega)

/-- `round_to_zero`'s exact value is the whole number between zero and `a`, and the only one -/
theorem truncE_is_trunc (f : Nat) (a : Int) : IsTrunc f a (truncE f a) := by
  obtain ⟨h0, h1, h2, _, _⟩ := floor_facts f a
  have hP := two_pow_pos f
  rw [truncE_cases]
  split
  · rename_i hc
    exact ⟨whole_floor f a, fun _ => ⟨by omega, by omega⟩, fun _ => ⟨by omega, by omega⟩⟩
  · rename_i hc
    exact ⟨whole_up f a, fun _ => ⟨by omega, by omega⟩, fun _ => ⟨by omega, by omega⟩⟩

theorem trunc_unique (f : Nat) (a x : Int) (hx : IsTrunc f a x) : x = truncE f a := by
  have hP := two_pow_pos f
  obtain ⟨wy, yp, yn⟩ := truncE_is_trunc f a
  obtain ⟨wx, xp, xn⟩ := hx
  rcases Int.le_total 0 a with ha | ha
  · have := xp ha; have := yp ha
    exact dvd_close hP (Int.dvd_sub wx wy) (by omega) (by omega)
  · have := xn ha; have := yn ha
    exact dvd_close hP (Int.dvd_sub wx wy) (by omega) (by omega)

/-- C06 restated without `/` and `%`: for every type and value, each form of each rounding method returns (the overflow treatment of)
  THE number the documentation's sentence describes. -/
theorem holds_by_sentence (L : Layout) (hv : L.valid) (a : Int) (ha : inRange L a) (m : RMode) (e : Int) (he : IsRounding L.f m a e) :
    L.overflowingR m a = L.ovf e ∧ L.checkedR m a = .ok (L.chk e) false ∧ L.saturatingR m a = .ok (L.clamp e) false ∧
    L.wrappingR m a = .ok (L.wrap e) false ∧ L.plainR m a = .ok (L.wrap e) (!decide (inRange L e)) := by
  rw [rounding_unique L.f m a e he]
  obtain ⟨h1, h2, h3, h4, h5⟩ := (holds L hv a ha).1 m
  exact ⟨h1, h2, h3, h4, h5⟩

/-- `round_to_zero` against its sentence (it cannot overflow, so there is one form) -/
theorem trunc_by_sentence (L : Layout) (hv : L.valid) (a : Int) (ha : inRange L a) (e : Int) (he : IsTrunc L.f a e) :
    L.roundToZero a = .ok e false := by
  rw [trunc_unique L.f a e he]
  exact (holds L hv a ha).2.1

/-- non-vacuity: −2.5 on a grid of 1 fractional bit (a = −5): floor −3, ceil −2, round −3 (away from zero), ties-to-even −2, to zero −2 -/
example : exactR 1 .floor (-5) = -6 ∧ exactR 1 .ceil (-5) = -4 ∧ exactR 1 .round (-5) = -6 ∧ exactR 1 .roundEven (-5) = -4 ∧
    truncE 1 (-5) = -4 := by decide

end Sfx.C06
