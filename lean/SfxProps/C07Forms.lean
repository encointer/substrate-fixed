import SfxProofs.ExtBits
/-
  C07, the two integer-remainder forms `wrapping_rem_int` and `overflowing_rem_int` — the inherent methods (`macros_frac.rs`) and the `Fixed`
  trait's provided methods (`traits.rs`), both exercised by the harness.  They are the truncated remainder `a − k·trunc(a/k)` on the value,
  i.e. `Int.tmod a (k·2^f)` on the bits, which is always representable: no overflow flag, no wrap, no panic except for a zero divisor.
-/
namespace Sfx.C07
open Sfx.ExtBitsPf

theorem rem_int_forms (L : Layout) (hv : L.valid) (a k : Int) (ha : inRange L a) (hk : inRange L k) (hk0 : k ≠ 0) :
    L.wrappingRemInt a k = .ok (Int.tmod a (k * 2 ^ L.f)) false ∧
    L.overflowingRemInt a k = .ok (Int.tmod a (k * 2 ^ L.f), false) false ∧
    some (oInt (L.wrappingRemInt a k)) = Form.wrapping.spec L (Int.tmod a (k * 2 ^ L.f)) ∧
    some (oPair (L.overflowingRemInt a k)) = Form.overflowing.spec L (Int.tmod a (k * 2 ^ L.f)) :=
  remIntForms_spec L hv.two_le hv.2 a k ha hk hk0

/-- zero divisor: the documented panic, in every profile -/
theorem rem_int_forms_zero (L : Layout) (hv : L.valid) (a : Int) (ha : inRange L a) :
    L.wrappingRemInt a 0 = .panic ∧ L.overflowingRemInt a 0 = .panic :=
  ⟨(remIntForms_zero L a).1, (remIntForms_zero L a).2.1⟩

end Sfx.C07
