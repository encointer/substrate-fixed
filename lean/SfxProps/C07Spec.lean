import SfxProps.C07
import SfxProps.C06Spec
/-
  C07Spec — the remainders and the quotient that `C07.holds` refers to (`Int.tmod a b`, `a % b`, `a / b`) are THE numbers of the property's text:
  "% returns a minus b times the quotient truncated toward zero" — the remainder has the dividend's sign and magnitude below |b|;
  "rem_euclid returns the unique r with 0 ≤ r < |b| such that (a − r)/b is an integer q, and div_euclid returns that q".
  Each sentence is a predicate below, satisfied by the library function used in the statement and by nothing else (uniqueness), so the
  reader need not know which of Lean's five integer divisions `/`, `%`, `tmod` are.  Unbounded `Int`, no layout.
-/
namespace Sfx.C07
open Sfx.C06

-- `r` is the Euclidean remainder: `a − r` is a multiple of `b` and `0 ≤ r < |b|`
def IsEuclidRem (a b r : Int) : Prop := b ∣ a - r ∧ 0 ≤ r ∧ r < b.natAbs

/-- `r` is the remainder of the division truncated toward zero: `a − r` is a multiple of `b`, `r` has the sign of `a` and `|r| < |b|` -/
def IsTruncRem (a b r : Int) : Prop := b ∣ a - r ∧ (0 ≤ a → 0 ≤ r ∧ r < b.natAbs) ∧ (a ≤ 0 → -(b.natAbs : Int) < r ∧ r ≤ 0)

theorem natAbs_cast_pos {b : Int} (hb : b ≠ 0) : (0 : Int) < b.natAbs := by omega

theorem emod_is_euclid (a b : Int) (hb : b ≠ 0) : IsEuclidRem a b (a % b) :=
  ⟨Int.dvd_self_sub_emod, Int.emod_nonneg a hb, Int.emod_lt a hb⟩

/-- the Euclidean pair of the property's text is unique, and it is (`a / b`, `a % b`) -/
theorem euclid_pair_unique (a b q r : Int) (hb : b ≠ 0) (h : a = q * b + r) (h0 : 0 ≤ r) (h1 : r < b.natAbs) :
    q = a / b ∧ r = a % b := by
  rw [Int.mul_comm] at h
  rcases Int.lt_or_gt_of_ne hb with hb | hb
  · obtain ⟨e1, e2⟩ := (Int.ediv_emod_unique' (a := a) (q := q) (r := r) hb).2 ⟨by omega, h0, by omega⟩
    exact ⟨e1.symm, e2.symm⟩
  · obtain ⟨e1, e2⟩ := (Int.ediv_emod_unique (a := a) (q := q) (r := r) hb).2 ⟨by omega, h0, by omega⟩
    exact ⟨e1.symm, e2.symm⟩

theorem euclid_rem_unique (a b r : Int) (hb : b ≠ 0) (hr : IsEuclidRem a b r) : r = a % b := by
  obtain ⟨⟨c, hc⟩, l, u⟩ := hr
  exact (euclid_pair_unique a b c r hb (by rw [Int.mul_comm]; omega) l u).2

theorem tmod_is_trunc (a b : Int) (hb : b ≠ 0) : IsTruncRem a b (Int.tmod a b) := by
  have hx : (a.tmod b).natAbs = a.natAbs % b.natAbs := Int.natAbs_tmod a b
  have := Nat.mod_lt a.natAbs (show 0 < b.natAbs by omega)
  obtain ⟨hp, hn⟩ := tmod_bounds a b
  exact ⟨⟨a.tdiv b, by have := Int.mul_tdiv_add_tmod a b; omega⟩, fun h => by have := hp h; omega,
    fun h => by have := hn h; omega⟩

theorem trunc_rem_unique (a b r : Int) (hb : b ≠ 0) (hr : IsTruncRem a b r) : r = Int.tmod a b := by
  obtain ⟨d1, p1, n1⟩ := hr
  obtain ⟨d2, p2, n2⟩ := tmod_is_trunc a b hb
  have hd : (b.natAbs : Int) ∣ r - Int.tmod a b := by
    have := Int.natAbs_dvd.mpr (Int.dvd_sub d2 d1)
    rwa [show a - Int.tmod a b - (a - r) = r - Int.tmod a b by omega] at this
  rcases Int.le_total 0 a with ha | ha
  · have := p1 ha; have := p2 ha
    exact dvd_close (natAbs_cast_pos hb) hd (by omega) (by omega)
  · have := n1 ha; have := n2 ha
    exact dvd_close (natAbs_cast_pos hb) hd (by omega) (by omega)

/-- C07 for a fixed-point divisor, restated against the sentences: whatever numbers `rt`, `re`, `q` satisfy the property's text are the
  ones `%`, `rem_euclid` and the four forms of `div_euclid` return -/
theorem holds_by_sentence (L : Layout) (hv : L.valid) (a b : Int) (ha : inRange L a) (hbr : inRange L b) (hb : b ≠ 0)
    (rt re q : Int) (h1 : IsTruncRem a b rt) (h2 : a = q * b + re) (h3 : 0 ≤ re) (h4 : re < b.natAbs) :
    L.remOp a b = .ok rt false ∧ L.remEuclid a b = .ok re false ∧
    L.overflowingDivEuclid a b = .ok (L.ovf (q * 2 ^ L.f)) false ∧ L.checkedDivEuclid a b = .ok (L.chk (q * 2 ^ L.f)) false ∧
    L.wrappingDivEuclid a b = .ok (L.wrap (q * 2 ^ L.f)) false ∧ L.saturatingDivEuclid a b = .ok (L.clamp (q * 2 ^ L.f)) false := by
  obtain ⟨eq, er⟩ := euclid_pair_unique a b q re hb h2 h3 h4
  rw [trunc_rem_unique a b rt hb h1, eq, er]
  obtain ⟨⟨t1, _⟩, ⟨e1, _⟩, ⟨d1, d2, d3, d4, _⟩, _⟩ := holds L hv a b ha hbr hb
  exact ⟨t1, e1, d1, d2, d3, d4⟩

/-- the same for a primitive-integer divisor `k`, which stands for the (unbounded) bits `k·2^f`: `%`, `rem_euclid_int` (three forms) and `div_euclid_int`
  (three forms) return the overflow treatment of the numbers the sentences describe -/
theorem holds_by_sentence_int (L : Layout) (hv : L.valid) (a k : Int) (ha : inRange L a) (hk : inRange L k) (hk0 : k ≠ 0)
    (rt re q : Int) (h1 : IsTruncRem a (k * 2 ^ L.f) rt) (h2 : a = q * (k * 2 ^ L.f) + re) (h3 : 0 ≤ re) (h4 : re < (k * 2 ^ L.f).natAbs) :
    L.remIntOp a k = .ok rt false ∧
    L.overflowingRemEuclidInt a k = .ok (L.ovf re) false ∧ L.checkedRemEuclidInt a k = .ok (L.chk re) false ∧
    L.wrappingRemEuclidInt a k = .ok (L.wrap re) false ∧
    L.overflowingDivEuclidInt a k = .ok (L.ovf (q * 2 ^ L.f)) false ∧ L.checkedDivEuclidInt a k = .ok (L.chk (q * 2 ^ L.f)) false ∧
    L.wrappingDivEuclidInt a k = .ok (L.wrap (q * 2 ^ L.f)) false := by
  have hB : k * 2 ^ L.f ≠ 0 := Int.mul_ne_zero hk0 (Int.ne_of_gt (two_pow_pos L.f))
  obtain ⟨eq, er⟩ := euclid_pair_unique a (k * 2 ^ L.f) q re hB h2 h3 h4
  rw [trunc_rem_unique a _ rt hB h1, eq, er]
  obtain ⟨_, _, _, ⟨t1, _⟩, ⟨r1, r2, r3, _⟩, ⟨d1, d2, d3, _⟩⟩ := holds L hv a k ha hk hk0
  exact ⟨t1, r1, r2, r3, d1, d2, d3⟩

/-- non-vacuity: −7 by 2 and by −2: truncated remainder −1, Euclidean remainder 1, Euclidean quotients −4 and 4 -/
example : Int.tmod (-7) 2 = -1 ∧ (-7 : Int) % 2 = 1 ∧ (-7 : Int) / 2 = -4 ∧ Int.tmod (-7) (-2) = -1 ∧ (-7 : Int) % (-2) = 1 ∧ (-7 : Int) / (-2) = 4 := by
  decide

end Sfx.C07
