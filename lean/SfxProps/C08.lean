import SfxModel.FromStr
import SfxProofs.RoundHalfEven
/-
  C08 — Parsing returns the correctly rounded value of the literal, or a precise error.

  This file holds the FULL statement `C08_statement` (for the overflowing form `from_str_{i,u}N` that every public form wraps) and the
  specification-side lemmas.  The proof (`C08.holds`) and the statement for the four public forms (`C08.forms_hold`) are in
  SfxProps/C08Holds.lean.  This file needs only the model and the rounding relation, so the statement and `rneDiv_spec` (and
  C08Spec.lean on top of them) are read and built without the parser's proof.
-/
namespace Sfx.C08
open Sfx.TextSpec

/-- FULL statement (bytes are arbitrary naturals: nothing in the model needs `b < 256`): for every byte string, radix in {2,8,10,16} and valid layout, the modelled parser returns — without panic and
without a debug-only check — the correctly rounded value with the exact overflow flag, or an error for a malformed literal -/
def C08_statement : Prop :=
  ∀ L : Layout, L.valid → ∀ radix : Nat, (radix = 2 ∨ radix = 8 ∨ radix = 10 ∨ radix = 16) → ∀ bytes : List Nat,
    ∃ r, FromStr.fromStr L.signed L.n bytes radix L.intBits L.f = some (.ok r false) ∧
      match parseExact radix L.f bytes with
      | some E => r = .ok (L.wrap E, !decide (inRange L E))
      | none => ∃ k, r = .error k ∧ k ≠ 3

/-- the rounding used by the specification is round-half-even: the result is within half a unit, and on a tie it is even -/
theorem rneDiv_spec (num den : Nat) (hd : 0 < den) :
    let q := rneDiv num den
    (2 * q * den ≤ 2 * num + den ∧ 2 * num ≤ 2 * q * den + den) ∧ (2 * num + den = 2 * q * den ∨ 2 * num = 2 * q * den + den → q % 2 = 0) :=
  (isRne_natCast num den _).1 (rneDiv_isRne num den hd)

/-- non-vacuity of the grammar: "-12.5" is a literal with value -125/10; "1.2.3" and "" are malformed -/
example : literal 10 [45, 49, 50, 46, 53] = some (true, 125, 1) ∧ literal 10 [49, 46, 50, 46, 51] = none ∧ literal 10 [] = none := by decide

end Sfx.C08
