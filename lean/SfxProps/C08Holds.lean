import SfxProps.C08
import SfxProofs.ParseTop
/-
  C08 — proved.  `holds` is `C08_statement` (SfxProps/C08.lean) for the overflowing form that all public forms are built on;
  `forms_hold` is the property's sentence about the four public forms (`FromStr.parse`: plain, saturating, wrapping, overflowing), for
  every byte string, radix 2/8/10/16 and every valid layout: no panic, no debug-only check, and

    * malformed literal                → an error that is not the overflow error, in every form;
    * literal with exact rounding `E`  → overflowing: `(E mod 2^n, E out of range)`; wrapping: `E mod 2^n`;
                                         plain: `E`, or the overflow error (kind 3) exactly when `E` is out of range;
                                         saturating: `E` clamped to the bound on the literal's side.

  `E = TextSpec.parseExact radix f bytes` is the literal's exact rational value rounded half-even to the grid `2^-f` (`rneDiv_spec`).
  Both are instances, at a valid layout, of `ParseTopPf.fromStr_spec` and `ParseTopPf.parseForm_spec` (SfxProofs/ParseTop.lean).
-/
namespace Sfx.C08
open Sfx.TextSpec Sfx.FromStr

/-- C08 for `overflowing_from_str_radix` / the `from_str_{i,u}N` functions -/
theorem holds : C08_statement := by
  intro L hL radix hr bytes
  rcases ParseTopPf.fromStr_spec L.signed hr hL.1 hL.2 bytes with ⟨E, hE, hrun⟩ | ⟨hE, k, hk, hrun⟩
  · exact ⟨_, hrun, by rw [hE]; rfl⟩
  · exact ⟨_, hrun, by rw [hE]; exact ⟨k, rfl, by omega⟩⟩

/-- the documented answer of each public form for a well-formed literal with exact rounding `E` -/
def formSpec (L : Layout) (form : PForm) (E : Int) : PAns :=
  match form with
  | .overflowing => .valFlag (L.wrap E) (!decide (inRange L E))
  | .wrapping => .val (L.wrap E)
  | .plain => if inRange L E then .val E else .err 3
  | .saturating => .val (L.clamp E)

/-- C08 for the four public forms -/
theorem forms_hold (L : Layout) (hL : L.valid) (radix : Nat) (hr : radix = 2 ∨ radix = 8 ∨ radix = 10 ∨ radix = 16)
    (bytes : List Nat) (form : PForm) :
    ∃ a, FromStr.parse L form radix bytes = some (.ok a false) ∧
      match parseExact radix L.f bytes with
      | some E => a = formSpec L form E
      | none => ∃ k, a = .err k ∧ k ≠ 3 := by
  obtain ⟨r, hrun, hspec⟩ := holds L hL radix hr bytes
  refine ⟨parseForm L form bytes r, ?_, ?_⟩
  · unfold FromStr.parse; rw [hrun]; rfl
  · cases hE : parseExact radix L.f bytes with
    | none =>
      rw [hE] at hspec
      obtain ⟨k, rfl, hk⟩ := hspec
      exact ⟨k, rfl, hk⟩
    | some E =>
      rw [hE] at hspec
      subst hspec
      obtain ⟨h1, h2, h3, h4⟩ := ParseTopPf.parseForm_spec L hL.pos bytes E (ParsePf.parseExact_sign hE)
      cases form
      · exact h3
      · exact h4
      · exact h2
      · exact h1

/-- non-vacuity: "-1.5" parsed as I8F0 — a tie, rounded to the even neighbour −2, in range in every form; "300" as U8F0 saturates to 255
and is an overflow error in the plain form -/
example : FromStr.parse ⟨true, 8, 0⟩ .plain 10 [45, 49, 46, 53] = some (.ok (.val (-2)) false) ∧
    FromStr.parse ⟨false, 8, 0⟩ .saturating 10 [51, 48, 48] = some (.ok (.val 255) false) ∧
    FromStr.parse ⟨false, 8, 0⟩ .plain 10 [51, 48, 48] = some (.ok (.err 3) false) ∧
    FromStr.parse ⟨false, 8, 0⟩ .overflowing 10 [51, 48, 48] = some (.ok (.valFlag 44 true) false) := by decide +kernel

end Sfx.C08
