import SfxProps.C08
/-
  C08Spec — the sentence of `C08.rneDiv_spec` ("within half a unit of num/den, even on a tie") has exactly one solution, so the correctly rounded
  value of a literal that `C08` and `C09` refer to (`TextSpec.rneDiv`) is determined by the sentence alone, not by the `/`-and-`%` formula.
-/
namespace Sfx.C08
open Sfx.TextSpec

/-- `q` is `num/den` rounded to the nearest natural number, ties to even (cross-multiplied, no division) -/
def IsNearestEven (num den q : Nat) : Prop :=
  (2 * q * den ≤ 2 * num + den ∧ 2 * num ≤ 2 * q * den + den) ∧ (2 * num + den = 2 * q * den ∨ 2 * num = 2 * q * den + den → q % 2 = 0)

theorem rneDiv_is_nearest_even (num den : Nat) (hd : 0 < den) : IsNearestEven num den (rneDiv num den) := rneDiv_spec num den hd

theorem nearest_even_unique (num den q : Nat) (hd : 0 < den) (h : IsNearestEven num den q) : q = rneDiv num den :=
  (rneDiv_eq hd ((isRne_natCast num den q).2 h)).symm

/-- non-vacuity: 5/2 and 7/2 are ties: 2 and 4; 8/3 → 3 -/
example : rneDiv 5 2 = 2 ∧ rneDiv 7 2 = 4 ∧ rneDiv 8 3 = 3 := by decide

end Sfx.C08
