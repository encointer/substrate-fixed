import SfxProps.C09
import SfxProofs.Verdict
/-
  C09, soundness of the CHECKER's verdict.  The correspondence check judges every string printed by the real implementation with the
  executable verdict `TextSpec.fmtVerdict` (an exact-rational judgement that enumerates the ways the output can be split into fill / sign /
  prefix / zero padding / digits).  If that verdict rejected a correct string on some rare input the check would raise a false alarm.
  It cannot: the verdict accepts everything the (proved-correct, C09.holds) model prints, for every layout, value and format spec whose
  fill is one character — exactly the call the driver makes.  So whenever the implementation agrees with the model (which the same
  request establishes), a `SPEC` line for a formatting request is impossible; `verdict_needs_one_char_fill` shows the fill hypothesis is
  necessary (the generator only produces one-character fills: ' ', '*', '0', 'é').
-/
namespace Sfx.C09
open Sfx.TextSpec

theorem verdict_accepts_model (L : Layout) (hL : L.valid) (x : Int) (hx : inRange L x) (spec : FmtSpec)
    (hk : FmtPf.KindOk spec.kind) (hp : FmtPf.PrecOk spec.prec) (hfill : charLen (spec.fill.getD [32]) = 1) :
    ∃ out, fmtBits L spec x = some (.ok out false) ∧ fmtVerdict spec L.f (decide (x < 0)) x.natAbs out = none := by
  have hn := widthOk L hL
  have ha := natAbs_lt_of_in hL.pos hx
  have h1 := FmtTopPf.fmt_eq_assemble spec (decide (x < 0)) x.natAbs L.n L.f hn hL.2 ha hk hp
  exact ⟨_, h1, VerdictPf.verdict_accepts_model spec _ _ _ _ hn hL.2 ha hk hp hfill _ h1⟩

/-- the fill hypothesis cannot be dropped: with a (hypothetical — `format_args!` has no such thing) fill of TWO chars
`"**"`, `{:**>3}` of `1` prints `****1` (5 chars for width 3), which the verdict rejects: the digits are found and their value
is right, but the length test fails (`charLen out = 5`, and `max 3 1 = 3` is asked) -/
theorem verdict_needs_one_char_fill :
    Display.fmt { kind := "d", fill := some [42, 42], align := some '>', width := some 3 } false 1 8 0
      = some (.ok [42, 42, 42, 42, 49] false) ∧
    fmtVerdict { kind := "d", fill := some [42, 42], align := some '>', width := some 3 } 0 false 1
      [42, 42, 42, 42, 49] = some "printed digits are not the correctly rounded value" := by decide +kernel

end Sfx.C09
