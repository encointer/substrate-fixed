import SfxProofs.Codec
import SfxModel.Generated
/-
  C10 — SCALE encoding and byte views are the plain little-endian bits of the value.
-/
namespace Sfx.C10
open Sfx.Codec

/-- the encoding has exactly `width/8` bytes, equals `to_le_bytes`, and does not mention the fractional-bit count -/
theorem encode_shape (L : Layout) (a : Int) :
    (encode L a).length = L.n / 8 ∧ encode L a = toLeBytes L a ∧ maxEncodedLen L = L.n / 8 ∧ encodedSize L a = L.n / 8 ∧
    ∀ f' : Nat, encode { L with f := f' } a = encode L a := by
  refine ⟨leBytes_length _ _, rfl, rfl, rfl, fun _ => rfl⟩

/-- decoding what was encoded returns the same value and consumes exactly `width/8` bytes (any trailing input is left) -/
theorem decode_encode (L : Layout) (hv : L.valid) (a : Int) (ha : inRange L a) (rest : List Nat) :
    decode L (encode L a ++ rest) = some (a, rest.length) := by
  have hl : (encode L a).length = nbytes L := leBytes_length _ _
  unfold decode
  rw [if_neg (by rw [List.length_append]; omega), List.take_append_of_le_length (by omega), List.take_of_length_le (by omega),
    List.length_append, hl, Nat.add_sub_cancel_left]
  exact congrArg (fun v => some (v, rest.length)) (fromLe_toLe L hv a ha)

/-- decoding fewer than `width/8` bytes fails -/
theorem decode_short (L : Layout) (bs : List Nat) (h : bs.length < L.n / 8) : decode L bs = none := by
  unfold decode nbytes; simp [h]

/-- the byte views and `from_*_bytes` are mutually inverse; big-endian is the reverse of little-endian -/
theorem bytes_roundtrip (L : Layout) (hv : L.valid) (a : Int) (ha : inRange L a) :
    fromLeBytes L (toLeBytes L a) = a ∧ fromBeBytes L (toBeBytes L a) = a ∧ fromNeBytes L (toNeBytes L a) = a ∧
    toBeBytes L a = (toLeBytes L a).reverse := by
  have h := fromLe_toLe L hv a ha
  refine ⟨h, ?_, h, rfl⟩
  unfold fromBeBytes toBeBytes; rw [List.reverse_reverse]; exact h

theorem bytes_roundtrip_inv (L : Layout) (hv : L.valid) (bs : List Nat) (hl : bs.length = L.n / 8) (hb : ∀ b ∈ bs, b < 256) :
    toLeBytes L (fromLeBytes L bs) = bs ∧ inRange L (fromLeBytes L bs) := by
  obtain ⟨h8, hn⟩ := nbytes_mul hv
  have hlt : fromLe bs < 2 ^ L.n := by
    have := fromLe_lt bs hb
    rw [pow256, hl] at this; unfold nbytes at h8; rw [h8] at this; exact this
  refine ⟨?_, wrapI_in hn _⟩
  unfold toLeBytes fromLeBytes
  rw [toU_wrapI, Int.ofNat_eq_natCast, toU_natCast, Nat.mod_eq_of_lt hlt]
  have := leBytes_fromLe bs hb
  unfold nbytes; rw [← hl]; exact this

/-- the struct description regenerated from `lib.rs` on every run: transparent wrapper of the integer plus a
zero-sized marker, derived codec traits, no `#[codec(..)]` attribute and no hand-written codec impl -/
theorem wire_struct_ok :
    Generated.structFields = [("bits", "$Inner"), ("phantom", "PhantomData<Frac>")] ∧
    Generated.structAttrs = ["repr(transparent)"] ∧ Generated.structFieldAttrs = [] ∧
    "Encode" ∈ Generated.structDerives ∧ "Decode" ∈ Generated.structDerives ∧ "MaxEncodedLen" ∈ Generated.structDerives ∧
    Generated.manualCodecImpls = [] := by decide

example : (⟨true, 128, 77⟩ : Layout).valid ∧ inRange ⟨true, 128, 77⟩ (-(2 ^ 127)) := by decide

end Sfx.C10
