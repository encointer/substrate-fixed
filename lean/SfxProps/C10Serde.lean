import SfxProofs.ExtSerde
/-
  C10, the serde representation (`serdeize.rs`, compiled with the crate's `serde` feature; exercised through `serde_json` 1.0.151 and
  `serde_cbor` 0.11.2, both available offline): the serialized form is the struct `{bits}` holding the underlying integer — in JSON exactly
  `{"bits":<canonical decimal>}` — it does not depend on the number of fractional bits (nor on anything else of the layout), deserializing
  it returns the same value, an integer outside the range of the `Bits` type is rejected (never wrapped), `Wrapping<F>` has the same
  representation, and the reader tolerates exactly JSON's insignificant white space and the sequence form `[bits]`.
  `ExtSerde.ser` / `ExtSerde.de` model what `serde_json::to_string` / `from_slice` produce / accept for these types (own decimal printer and
  reader, so the round trip is a theorem and not a property of `toString`); the correspondence check compares them with the real
  serializer / deserializer on every request, including ~120 classes of inputs that must be rejected.
-/
namespace Sfx.C10
open Sfx.ExtSerde Sfx.ExtSerdePf

theorem serde_round_trip (L : Layout) (x : Int) (hx : inRange L x) : de L (ser L x) = some x ∧ deW L (serW L x) = some x :=
  ⟨de_ser L x hx, de_ser L x hx⟩

/-- the encoding is `{"bits":v}` with `v` the canonical decimal of the bits, whatever the layout -/
theorem serde_shape (L L' : Layout) (x : Int) :
    ser L x = [123, 34, 98, 105, 116, 115, 34, 58] ++ (if x < 0 then 45 :: natDec x.natAbs else natDec x.natAbs) ++ [125] ∧
    ser L x = ser L' x :=
  ⟨ser_eq L x, ser_layout_indep L L' x⟩

/-- out-of-range integers are rejected; whatever is accepted is a bit pattern of the type -/
theorem serde_range (L : Layout) :
    (∀ v, ¬ inRange L v → de L (ser L v) = none) ∧ (∀ bs v, de L bs = some v → inRange L v) :=
  ⟨fun v hv => de_ser_out_of_range L v hv, fun bs v h => de_range L bs v h⟩

/-- CBOR: whenever the value serializes (−2^64 ≤ x < 2^64), it deserializes to itself -/
theorem serde_cbor_round_trip (L : Layout) (x : Int) (bs : List Nat) (hx : inRange L x) (h : cborSer L x = some bs) :
    cborDe L bs = some x := by
  unfold cborSer at h
  cases hi : cborInt x with
  | none => simp [hi] at h
  | some i =>
    simp only [hi, Option.map_some] at h
    injection h with h
    have hb := cborReadBits_cborInt L 1 x i hx hi
    subst h
    unfold cborDe
    simp only [List.cons_append, List.nil_append, List.length_cons]
    rw [cborTags_not_tag _ _ _ _ (by decide)]
    simp [cborArg, cborReadKey, cborTags, hb]

end Sfx.C10
