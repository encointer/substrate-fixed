import SfxProps.C10
/-
  C10Spec — "the plain little-endian bits of the value", as a sentence with one solution.
  `C10` is written with `leBytes k v` (peel `v % 256`, recurse on `v / 256`).  Here: a byte string IS the little-endian image of the `n`-bit pattern `v`
  when it has `n/8` entries, every entry is a byte, and `Σ bᵢ·256^i = v`; `leBytes` satisfies this and nothing else does, so any encoder whose output
  meets the sentence (whatever its loop looks like) is equal to the model's, byte for byte.
-/
namespace Sfx.C10
open Sfx.Codec

/-- `bs` is the `k`-byte little-endian representation of `v` -/
def IsLittleEndian (k v : Nat) (bs : List Nat) : Prop := bs.length = k ∧ (∀ b ∈ bs, b < 256) ∧ fromLe bs = v

theorem leBytes_is_le (k v : Nat) (hv : v < 256 ^ k) : IsLittleEndian k v (leBytes k v) :=
  ⟨Codec.leBytes_length k v, Codec.leBytes_bytes k v, by rw [Codec.fromLe_leBytes, Nat.mod_eq_of_lt hv]⟩

theorem le_unique (k v : Nat) (bs : List Nat) (h : IsLittleEndian k v bs) : bs = leBytes k v := by
  obtain ⟨hl, hb, hs⟩ := h
  rw [← hl, ← hs]
  exact (Codec.leBytes_fromLe bs hb).symm

/-- the value of a `k`-byte little-endian string is below `256^k`: the sentence can only be met by an `8k`-bit pattern -/
theorem fromLe_lt (bs : List Nat) (hb : ∀ b ∈ bs, b < 256) : fromLe bs < 256 ^ bs.length :=
  Codec.fromLe_lt bs hb

/-- C10's encoding against the sentence: any byte string that is the little-endian image of the value's `n`-bit two's-complement pattern
  is the SCALE encoding / `to_le_bytes` of the model, whatever the fractional-bit count -/
theorem encode_by_sentence (L : Layout) (a : Int) (bs : List Nat) (h : IsLittleEndian (L.n / 8) (toU L.n a) bs) :
    encode L a = bs ∧ toLeBytes L a = bs :=
  ⟨(le_unique _ _ bs h).symm, (le_unique _ _ bs h).symm⟩

/-- non-vacuity: −2 in 16 bits is FE FF -/
example : IsLittleEndian 2 (toU 16 (-2)) [0xFE, 0xFF] := by unfold IsLittleEndian; decide

end Sfx.C10
