import SfxProofs.ExtBits
/-
  C11 (and the documented behaviour) for the shift forms, bit inspection, `signum` and `next_power_of_two` of the
  plain fixed-point types (the type constants are rows of `ExtBitsPf.rows_const`, SfxProofs/ExtBits.lean).  For each function the MODEL
  (`Layout.*` in SfxModel/ExtBits.lean, written after `macros_no_frac.rs` / `macros_frac.rs`, `Outcome`-valued where the build profile
  matters) equals an independent SPECIFICATION stated on the two's-complement bit pattern (`Sfx.BitSpec`: `popcount`, `leadingZeros`,
  `shlBits`, `shrBits` with sign fill, `rotlBits`, least power of two by upward search, the three documented cases of `signum`).
  The equalities are between `Outcome`s, so they fix the behaviour under BOTH build profiles: only `<<` / `>>` with an amount outside
  `0 … n−1`, `next_power_of_two` on overflow and `signum` when ±1 is not representable carry a debug-only flag (the documented panics of
  operations without overflow handling); every checked / wrapping / overflowing shift form is flag-free.
-/
namespace Sfx.C11
open Sfx.ExtBitsPf

/-- `<<` / `>>` with an amount of any of the 12 integer types (`m` = its value): flag exactly when the amount is outside `0 … n−1` -/
theorem shift_any_amount (L : Layout) (hv : L.valid) (x : Int) (hx : inRange L x) (m : Int) :
    oInt (L.shlAny x m) = L.shlAnySpec x m ∧ oInt (L.shrAny x m) = L.shrAnySpec x m ∧
    L.shlAny x m = .ok (shlI L.signed L.n x (m % (L.n : Int)).toNat) (!decide (0 ≤ m ∧ m < (L.n : Int))) ∧
    L.shrAny x m = .ok (shrI x (m % (L.n : Int)).toNat) (!decide (0 ≤ m ∧ m < (L.n : Int))) := by
  have hn := hv.pos
  refine ⟨?_, ?_, shlAny_flag L x m, shrAny_flag L x m⟩
  · rw [shlAny_flag, shlI_eq_spec L.signed hn]; rfl
  · rw [shrAny_flag, shrI_eq_spec hn hx]; rfl

/-- shifts and rotations with a `u32` amount: plain operators, checked, wrapping, overflowing forms -/
theorem shift_forms (L : Layout) (hv : L.valid) (x : Int) (hx : inRange L x) (k : Int) (hk : 0 ≤ k) :
    oInt (L.shlU32Op x k.toNat) = L.shlAnySpec x k ∧
    oInt (L.shrU32Op x k.toNat) = L.shrAnySpec x k ∧
    oOpt (L.checkedShl x k.toNat) = L.checkedShlSpec x k.toNat ∧
    oOpt (L.checkedShr x k.toNat) = L.checkedShrSpec x k.toNat ∧
    oInt (L.wrappingShl x k.toNat) = L.wrappingShlSpec x k.toNat ∧
    oInt (L.wrappingShr x k.toNat) = L.wrappingShrSpec x k.toNat ∧
    oPair (L.overflowingShl x k.toNat) = L.overflowingShlSpec x k.toNat ∧
    oPair (L.overflowingShr x k.toNat) = L.overflowingShrSpec x k.toNat ∧
    oInt (pure (L.rotateLeft x k.toNat)) = L.rotateLeftSpec x k.toNat ∧
    oInt (pure (L.rotateRight x k.toNat)) = L.rotateRightSpec x k.toNat := by
  have hn := hv.pos
  have hany := shift_any_amount L hv x hx k
  -- the operators with a `u32` amount are the operators with any amount
  refine ⟨by rw [shlU32Op_eq, Int.toNat_of_nonneg hk]; exact hany.1, by rw [shrU32Op_eq, Int.toNat_of_nonneg hk]; exact hany.2.1, ?_⟩
  -- once the shifts and rotations of the specification are rewritten to the primitives they equal, every row but the `k < n` of the
  -- checked forms is the definition
  unfold Layout.checkedShlSpec Layout.checkedShrSpec Layout.wrappingShlSpec Layout.wrappingShrSpec
    Layout.overflowingShlSpec Layout.overflowingShrSpec Layout.rotateLeftSpec Layout.rotateRightSpec
  simp only [← shlI_eq_spec L.signed hn, ← shrI_eq_spec hn hx, ← rotl_eq_spec L.signed hn, ← rotr_eq_spec L.signed hn]
  refine ⟨?_, ?_, rfl, rfl, rfl, rfl, rfl, rfl⟩
  · rw [← some_lt_eq_le]; rfl
  · rw [← some_lt_eq_le]; rfl

/-- `count_ones`, `count_zeros`, `leading_zeros`, `trailing_zeros`: the counts of the bit pattern -/
theorem bit_counts (L : Layout) (x : Int) :
    ExtBits.oNat (pure (L.countOnesOp x)) = L.countOnesSpec x ∧
    ExtBits.oNat (pure (L.countZerosOp x)) = L.countZerosSpec x ∧
    ExtBits.oNat (pure (L.leadingZerosOp x)) = L.leadingZerosSpec x ∧
    ExtBits.oNat (pure (L.trailingZerosOp x)) = L.trailingZerosSpec x :=
  ⟨congrArg (Outcome.ok · false) (congrArg Val.nat (countOnes_eq_spec _ _)),
   congrArg (Outcome.ok · false) (congrArg Val.nat (countOnes_not _ _ _)),
   congrArg (Outcome.ok · false) (congrArg Val.nat (leadingZeros_eq_spec _ _)),
   congrArg (Outcome.ok · false) (congrArg Val.nat (trailingZeros_eq_spec _ _))⟩

/-- `signum`, `is_positive`, `is_negative` (signed types) -/
theorem signed_only (L : Layout) (hv : L.valid) (hs : L.signed = true) (x : Int) :
    oInt (L.signum x) = L.signumSpec x ∧
    oBool (pure (L.isPositive x)) = L.isPositiveSpec x ∧
    oBool (pure (L.isNegative x)) = L.isNegativeSpec x :=
  ⟨signum_spec L hv hs x, rfl, rfl⟩

/-- `is_power_of_two`, `next_power_of_two`, `checked_next_power_of_two` (unsigned types); the plain form panics under checks exactly
when the least power of two ≥ x is 2^n, and then returns what `Wrapping<F>` returns without them -/
theorem unsigned_only (L : Layout) (hv : L.valid) (hs : L.signed = false) (x : Int) (hx : inRange L x) :
    oBool (pure (L.isPowerOfTwo x)) = L.isPowerOfTwoSpec x ∧
    oInt (L.nextPowerOfTwo x) = L.nextPowerOfTwoSpec x ∧
    oOpt (L.checkedNextPowerOfTwo x) = L.checkedNextPowerOfTwoSpec x ∧
    ((∃ v, L.nextPowerOfTwo x = .ok v true) ↔ 2 ^ (L.n - 1) < x) ∧
    (L.nextPowerOfTwo x).rel = some (L.nextPow2 x) := by
  have hx' : inI false L.n x := hs ▸ hx
  refine ⟨?_, ?_, ?_, nextPowerOfTwo_dbg_iff L hs hv.pos x hx, nextPowerOfTwo_eq_wrapping L hs x hx⟩
  · exact congrArg (Outcome.ok · false) (congrArg Val.bool (countOnes_eq_one L.n x))
  · rw [nextPowerOfTwo_eq L hs x hx]
    unfold Layout.nextPowerOfTwoSpec
    rw [leastPow2_npow hx']
    by_cases h : npow x < 2 ^ L.n <;> simp [h, oInt, Outcome.map']
  · unfold Layout.checkedNextPowerOfTwo Layout.checkedNextPowerOfTwoSpec chkI
    rw [oneLess_succ hx', leastPow2_npow hx']
    simp only [inU_natCast]
    rfl

end Sfx.C11
