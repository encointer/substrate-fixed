import SfxProofs.Pairs
import SfxProofs.PowAccModel
import SfxProofs.TrigModel
import SfxProps.C13
/-
  C12 — Result-returning math functions are total: Ok or Err, never a panic.
  `Total o` : the call returns (`Ok` or `Err`) in every build profile: no panic, and no debug-only check fires (`dbg = false`).
  Supported destinations (the property's quantifier): signed, at least 23 fractional bits and 9 integer bits (sign included);
  sqrt also for unsigned destinations (through C13).  `S = D`; `total_from` is the same for every pair with `D: From<S>` (stated as
  `C12_pairs` in `C12Pairs.lean`).
-/
attribute [-instance] Monoid.toNPow
namespace Sfx.TrigPf
theorem Ok.ctx {D : Layout} (h : Ok D) : LogPf.Ctx D := ⟨h.hv, h.hs, Nat.le_trans (by decide) h.hi⟩
theorem Ok.facts {D : Layout} (h : Ok D) : ExpPf.Facts D := ExpPf.facts D h.hv h.hs h.hf h.hi
end Sfx.TrigPf

namespace Sfx.C12
open Sfx.LogPf Sfx.ExpPf Sfx.TrigPf Sfx.PairsPf

def Total {α : Type} (o : Outcome (Option α × Nat)) : Prop :=
  match o with
  | .ok _ dbg => dbg = false
  | .panic => False

/-- the supported destination types -/
def Supp (D : Layout) : Prop := D.valid ∧ D.signed = true ∧ 23 ≤ D.f ∧ 9 ≤ D.intBits

theorem Supp.valid {D : Layout} (h : Supp D) : D.valid := h.1
theorem Supp.signed {D : Layout} (h : Supp D) : D.signed = true := h.2.1
theorem Supp.f_ge {D : Layout} (h : Supp D) : 23 ≤ D.f := h.2.2.1
theorem Supp.int_ge {D : Layout} (h : Supp D) : 9 ≤ D.intBits := h.2.2.2
theorem Supp.ok {D : Layout} (h : Supp D) : Ok D := ⟨h.valid, h.signed, h.f_ge, h.int_ge⟩

/-- sqrt, log2, ln, exp, pow, powi: for every operand of every supported type and every exponent (all integers, in particular all
2^32 `i32` values incl. `i32::MIN`) -/
def C12_result_functions : Prop :=
  ∀ D : Layout, Supp D → ∀ x y : Int, inRange D x → inRange D y → ∀ n : Int,
    Total (Trans.run (Trans.sqrt D D x)) ∧ Total (Trans.run (Trans.log2 D D x)) ∧ Total (Trans.run (Trans.ln D D x)) ∧
    Total (Trans.run (Trans.exp D D x)) ∧ Total (Trans.run (Trans.pow D D x y)) ∧ Total (Trans.run (Trans.powi D D x n))

theorem total_of_ret {m : Trans.TR Int} {Q : Option Int → Nat → Prop} (h : SqrtPf.Ret m 0 Q) : Total (Trans.run m) := by
  obtain ⟨o, n', he, _⟩ := h
  rw [show Trans.run m = _ from he]
  rfl

theorem total_of_totAt {m : Trans.TR Int} {P : Int → Prop} (h : TotAt m 0 P) : Total (Trans.run m) :=
  total_of_ret (totAt_iff.1 h)

theorem Supp.ctx {D : Layout} (h : Supp D) : Ctx D := h.ok.ctx

/-- the six functions for a source type `S` and `D: From<S>` (`S = D` included): each `f::<S, D>(x)` is `f::<D, D>` on the losslessly
widened operand (`log2_widen_fun` … `powi_widen_fun`; `exp` at `S::MIN` is `Err` at once, `exp_widen_min`), and the same-type functions
are total by their specifications (`sqrt_ret`, `log2_ret`, `ln_ret`, `exp_spec`, `pow_spec`, `powi_tot`) -/
theorem total_from (S D : Layout) (hS : Supp S) (hD : Supp D) (hadm : ConvPf.fromAdmissible S D) (x y : Int)
    (hx : inRange S x) (hy : inRange S y) (n : Int) :
    Total (Trans.run (Trans.sqrt S D x)) ∧ Total (Trans.run (Trans.log2 S D x)) ∧ Total (Trans.run (Trans.ln S D x)) ∧
    Total (Trans.run (Trans.exp S D x)) ∧ Total (Trans.run (Trans.pow S D x y)) ∧ Total (Trans.run (Trans.powi S D x n)) := by
  obtain ⟨hv, hs, hf, hint⟩ := hD
  have hD : Supp D := ⟨hv, hs, hf, hint⟩
  have hx' := widen_inRange S D hS.valid hv hadm x hx
  have hy' := widen_inRange S D hS.valid hv hadm y hy
  refine ⟨?_, ?_, ?_, ?_, ?_, ?_⟩
  · rw [C13.sqrt_widen_fun S D hS.valid hv (Or.inr hadm) x hx]
    have h4 : (if D.signed then 4 else 3) ≤ D.intBits := by simp [hs]; omega
    exact total_of_ret (SqrtPf.sqrt_ret D hv (by omega) (SqrtPf.hM_of_hint D hv.2 h4) (C13.convFacts_of D hv h4) _ hx' 0)
  · rw [log2_widen_fun S D hS.valid hv hadm x hx]
    exact total_of_ret (log2_ret D hD.ctx _ hx' 0)
  · rw [ln_widen_fun S D hS.valid hv hadm x hx]
    exact total_of_ret (ln_ret D hv hs hf hint _ hx' 0)
  · by_cases hmin : x = S.min
    · rw [hmin, exp_widen_min S D hS.ctx]; rfl
    · rw [exp_widen_fun S D hS.ctx hD.ctx hadm x hx hmin]
      exact total_of_totAt (exp_tot D hv hs hf hint _ hx' 0)
  · rw [pow_widen_fun S D hS.ctx hD.ctx hadm x y hx hy]
    exact total_of_totAt (PowAccPf.pow_spec D hv hs hf hint _ _ hx' hy' 0)
  · rw [powi_widen_fun S D hS.valid hv hadm x hx n]
    exact total_of_totAt (powi_tot D hv hD.ok.facts.oneR _ hx' n 0)

theorem result_functions_hold : C12_result_functions :=
  fun D h x y hx hy n => total_from D D h h ⟨Nat.le_refl _, by rw [if_pos rfl]⟩ x y hx hy n

/-- `Err` is returned only for mathematically undefined requests or results that do not fit: log2/ln -/
theorem log_err_only_when_undefined (D : Layout) (h : Supp D) (x : Int) (hx : inRange D x) (it : Nat) (dbg : Bool)
    (he : Trans.run (Trans.log2 D D x) = .ok (none, it) dbg) :
    x ≤ 0 ∨ (0 < x ∧ x < 2 ^ D.f ∧ ¬ inRange D (divSpec D.f (2 ^ D.f) x)) := by
  obtain ⟨hv, hs, hf, hint⟩ := h
  have := log2_total D ⟨hv, hs, by omega⟩ x hx
  rw [he] at this
  exact this.2

/-- the halving loop of log2 never exhausts the model's fuel and the whole call runs at most `width − 1` loop iterations (this is
the fuel-sufficiency half of C17) -/
theorem log2_iterations (D : Layout) (h : Supp D) (x : Int) (hx : inRange D x) (o : Option Int) (m : Nat) (dbg : Bool)
    (he : Trans.run (Trans.log2 D D x) = .ok (o, m) dbg) : m ≤ D.n - 1 :=
  (log2_ticks D h.ctx x hx o m dbg he).1

/-- sin: total for EVERY angle of every supported type (not only |x| ≤ 200); cos: for every angle of magnitude up to 200 (the
unchecked `angle + π/2` needs room); both take at most 26 loop iterations and return a value of magnitude ≤ 3 -/
theorem sin_cos_total (D : Layout) (h : Supp D) (a : Int) (ha : inRange D a) :
    (∃ r it, Trans.run (Trans.sin D a) = .ok (some r, it) false ∧ it ≤ 26 ∧ -(3 * 2 ^ D.f) ≤ r ∧ r ≤ 3 * 2 ^ D.f) ∧
    (-(200 * 2 ^ D.f) ≤ a → a ≤ 200 * 2 ^ D.f →
      ∃ r it, Trans.run (Trans.cos D a) = .ok (some r, it) false ∧ it ≤ 26 ∧ -(3 * 2 ^ D.f) ≤ r ∧ r ≤ 3 * 2 ^ D.f) :=
  by
  have hD := h.ok
  refine ⟨⟨_, _, run_sin hD a ha, by have := redTicks_le D a; omega, sinPure_bound hD a⟩, fun h1 h2 => ?_⟩
  exact ⟨_, _, run_cos hD a (shift_inRange hD a h1 h2), by have := redTicks_le D (a + H D); omega, sinPure_bound hD _⟩

/-- tan for |x| ≤ 100 — PARTIAL: the two inner calls are total; `tan` itself panics exactly when the computed `1 + cos 2x` is zero and
carries a debug-only overflow flag exactly when the quotient is not representable.  That neither happens wherever the TRUE tangent is at
most 64 in magnitude needs the accuracy of `cos` (C16) and is `tan_total_holds` (`C12Tan.lean`): `1 + cos 2x ≥ 2/(1+64²) − 2^-16 > 0`.  The condition is sharp:
`tan_panic_example` is an I9F23 angle 6·10^-6 below π/2 (true tangent ≈ 1.6·10^5) where the computed denominator is exactly zero. -/
theorem tan_partial (D : Layout) (h : Supp D) (a : Int) (h1 : -(100 * 2 ^ D.f) ≤ a) (h2 : a ≤ 100 * 2 ^ D.f) :
    ∃ (s c : Int) (ds dc : Nat),
      Trans.run (Trans.sin D (2 * a)) = .ok (some s, ds) false ∧ Trans.run (Trans.cos D (2 * a)) = .ok (some c, dc) false ∧
      (2 ^ D.f + c ≠ 0 → inRange D (divSpec D.f s (2 ^ D.f + c)) →
        Trans.run (Trans.tan D a) = .ok (some (divSpec D.f s (2 ^ D.f + c)), ds + dc) false) := by
  have hD := h.ok
  obtain ⟨hr2, hrh, _⟩ := tan_unroll hD a h1 h2 0
  exact ⟨_, _, _, _, run_sin hD _ hr2, run_cos hD _ hrh, run_tan hD a h1 h2⟩

/-- non-vacuity: I9F23, I32F32, I96F32 are supported; `MIN` is an operand -/
example : Supp ⟨true, 32, 23⟩ ∧ Supp ⟨true, 64, 32⟩ ∧ Supp ⟨true, 128, 32⟩ ∧ inRange ⟨true, 64, 32⟩ (-(2 ^ 63)) := by
  refine ⟨⟨by decide, rfl, by decide, by decide⟩, ⟨by decide, rfl, by decide, by decide⟩, ⟨by decide, rfl, by decide, by decide⟩, by decide⟩

end Sfx.C12
