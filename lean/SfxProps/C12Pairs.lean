import SfxProps.C12
/-
  C12 for DIFFERENT source and destination types: `sqrt/log2/ln/exp/pow/powi::<S, D>` with `D: From<S>` (the trait bound), both among
  the supported signed types (≥ 9 integer bits, ≥ 23 fractional bits): every operand (and every integer exponent) yields Ok or Err —
  no panic and no debug-only check — under both build profiles.  (`S = D` is the special case proved in SfxProps/C12.lean; unsigned
  sources/destinations of sqrt are covered by `C13.holds`, whose `Supp` admits them.)
-/
attribute [-instance] Monoid.toNPow
namespace Sfx.C12
open Sfx.ConvPf

def C12_pairs : Prop :=
  ∀ S D : Layout, Supp S → Supp D → fromAdmissible S D → ∀ x y : Int, inRange S x → inRange S y → ∀ n : Int,
    Total (Trans.run (Trans.sqrt S D x)) ∧ Total (Trans.run (Trans.log2 S D x)) ∧ Total (Trans.run (Trans.ln S D x)) ∧
    Total (Trans.run (Trans.exp S D x)) ∧ Total (Trans.run (Trans.pow S D x y)) ∧ Total (Trans.run (Trans.powi S D x n))

theorem pairs_hold : C12_pairs := total_from

/-- non-vacuity: I9F23 → I32F32 is an admissible pair of supported types -/
example : Supp ⟨true, 32, 23⟩ ∧ Supp ⟨true, 64, 32⟩ ∧ fromAdmissible ⟨true, 32, 23⟩ ⟨true, 64, 32⟩ := by
  unfold Supp fromAdmissible; decide

end Sfx.C12
