import SfxProps.C12
import SfxProofs.TrigAccRun
/-
  C12, tan clause at full strength: `tan` returns without panicking — and without a debug-only check — for every angle of magnitude up
  to 100 at which the TRUE tangent (Mathlib's `Real.tan`) does not exceed 64 in magnitude, in every supported signed type.  The two
  conditions that `C12.tan_partial` (SfxProps/C12.lean) takes as hypotheses — the computed denominator `1 + cos 2x` is non-zero and the
  quotient fits — follow from the accuracy of sin/cos (`SfxProofs/TrigAcc*.lean`).
-/
namespace Sfx.C12

/-- C12 for tan -/
theorem tan_total_holds (D : Layout) (h : Supp D) (a : Int) (_ha : inRange D a)
    (hb : |(a : ℝ) / 2 ^ D.f| ≤ 100) (ht : |Real.tan ((a : ℝ) / 2 ^ D.f)| ≤ 64) :
    ∃ r it, Trans.run (Trans.tan D a) = .ok (some r, it) false ∧ it ≤ 50 ∧ |(r : ℝ) / 2 ^ D.f| ≤ 67 := by
  obtain ⟨r, it, h1, h2, _, h3⟩ := TrigAccPf.tan_total_64 h.ok a hb ht
  exact ⟨r, it, h1, h2, h3⟩

/-- the layout `I9F23` is supported and the operand `1.0` is in range (the hypotheses `|x| ≤ 100`, `|tan x| ≤ 64` at `x = 1` are
not exhibited here) -/
example : Supp ⟨true, 32, 23⟩ ∧ inRange ⟨true, 32, 23⟩ (2 ^ 23) := ⟨⟨by decide, rfl, by decide, by decide⟩, by decide⟩

end Sfx.C12
