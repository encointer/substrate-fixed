import SfxProofs.TransFacts
import SfxProofs.Sqrt
/-
  C13 — sqrt is accurate to a few units in the last place.
  Everything is on bits: the operand `x` (layout `S`) is converted to the destination grid by the lossless `From`
  (`x' = x · 2^(D.f − S.f)`), the true root of the value `x'/2^D.f` in destination ulps is `√(x'·2^D.f)`, so
  "within 4 ulp" is the integer bracket `(r−4)² ≤ x'·2^D.f ≤ (r+4)²`.
  Supported destinations: at least 4 fractional bits and three magnitude bits above the binary point (every type of the
  property's quantifier — ≥ 23 fractional and ≥ 9 integer bits — satisfies this).
-/
attribute [-instance] Monoid.toNPow
namespace Sfx.C13
open Sfx.SqrtPf Sfx.ConvPf Sfx.TransFacts

/-- the supported pairs: valid layouts, a destination with at least 4 fractional bits and three magnitude bits above the binary point,
and a pair accepted by `D: From<S>` (the same type, or a widening admitted by `convert.rs`) -/
def Supp (S D : Layout) : Prop :=
  S.valid ∧ D.valid ∧ 4 ≤ D.f ∧ (if D.signed then 4 else 3) ≤ D.intBits ∧ (S = D ∨ fromAdmissible S D)

def C13_statement : Prop :=
  ∀ S D : Layout, Supp S D → ∀ x : Int, inRange S x →
    match Trans.run (Trans.sqrt S D x) with
    | .ok (some r, _) dbg => dbg = false ∧ 0 ≤ x ∧ 0 ≤ r ∧
        (if r < 4 then 0 else (r - 4) ^ 2) ≤ x * 2 ^ (D.f - S.f) * 2 ^ D.f ∧ x * 2 ^ (D.f - S.f) * 2 ^ D.f ≤ (r + 4) ^ 2 ∧
        (x * 2 ^ (D.f - S.f) = 0 → r = 0) ∧ (x * 2 ^ (D.f - S.f) = 2 ^ D.f → r = 2 ^ D.f)
    | .ok (none, _) dbg => dbg = false ∧
        (x < 0 ∨ (0 < x * 2 ^ (D.f - S.f) ∧ ¬ inRange D (divSpec D.f (2 ^ D.f) (x * 2 ^ (D.f - S.f)))))
    | .panic => False

theorem lt_zero (S : Layout) (hS : S.valid) (x : Int) (hx : inRange S x) : S.ltFixed Trans.C x Trans.ZERO = decide (x < 0) :=
  TransFacts.ltC_zero S hS x hx

theorem convFacts_of (D : Layout) (hv : D.valid) (hint : (if D.signed then 4 else 3) ≤ D.intBits) : ConvFacts D :=
  convFacts D hv (by cases h : D.signed <;> simp [h] at hint ⊢ <;> omega)

/-- the sixth reduction, beside `log2_widen_fun`, `ln_widen_fun` (Log.lean) and `exp/pow/powi_widen_fun` (Pairs.lean); it is here
because it needs `TransFacts`, which `Sqrt.lean` does not import; `S = D` and unsigned sources included -/
theorem sqrt_widen_fun (S D : Layout) (hS : S.valid) (hD : D.valid) (h : S = D ∨ fromAdmissible S D) (x : Int) (hx : inRange S x) :
    Trans.sqrt S D x = Trans.sqrt D D (x * 2 ^ (D.f - S.f)) := by
  obtain ⟨hfrom, hx'⟩ := fromS_spec S D hS hD h x hx
  have hf : S.f ≤ D.f := h.elim (fun e => by rw [e]) fun e => e.1
  have hsgn := (widen_order S D hf x).1
  unfold Trans.sqrt
  rw [TransFacts.ltC_zero S hS x hx, TransFacts.ltC_zero D hD _ hx', hfrom, fromS_same, decide_eq_decide.2 hsgn]

theorem holds : C13_statement := by
  intro S D ⟨hS, hD, hf, hint, hSD⟩ x hx
  have e := sqrt_widen_fun S D hS hD hSD x hx
  have hx' := (fromS_spec S D hS hD hSD x hx).2
  have h := sqrt_accuracy_gen D hD hf hint (convFacts_of D hD hint) _ hx'
  -- the sign of the operand, the only clause stated on the source bits
  have hf : S.f ≤ D.f := hSD.elim (fun e => by rw [e]) fun e => e.1
  have hneg := (widen_order S D hf x).1
  have hsgn : 0 ≤ x * 2 ^ (D.f - S.f) ↔ 0 ≤ x := by omega
  rw [e]
  revert h
  cases Trans.run (Trans.sqrt D D (x * 2 ^ (D.f - S.f))) with
  | panic => exact id
  | ok v d =>
    obtain ⟨o, it⟩ := v
    cases o with
    | none => exact fun ⟨a, b⟩ => ⟨a, b.imp_left hneg.1⟩
    | some r => exact fun ⟨a, b, c⟩ => ⟨a, hsgn.1 b, c⟩

/-- on the direct path (operand above one) the result is the integer root of `x·2^f` or that plus one: within ONE ulp -/
theorem direct_path_one_ulp (D : Layout) (hv : D.valid) (hf : 4 ≤ D.f) (hint : (if D.signed then 4 else 3) ≤ D.intBits)
    (x : Int) (hx : inRange D x) (hxF : 2 ^ D.f < x) :
    ∃ s r : Int, Trans.run (Trans.sqrt D D x) = .ok (some r, max D.f (D.intBits / 2 + 10)) false ∧
      s * s ≤ x * 2 ^ D.f ∧ x * 2 ^ D.f < (s + 1) * (s + 1) ∧ s ≤ r ∧ r ≤ s + 1 := by
  have hc := convFacts_of D hv hint
  have hP := two_pow_pos D.f
  obtain ⟨s, l, _, h1, h2, hl1, hl2, he⟩ := sqrt_direct D hv hf (hM_of_hint D hv.2 hint) hc x hx hxF 0
  rw [Nat.zero_add] at he
  exact ⟨s, l, he, h1, h2, hl1, hl2⟩

/-- non-vacuity: I96F32 with a large operand, I9F23, and a widening pair -/
example : Supp ⟨true, 128, 32⟩ ⟨true, 128, 32⟩ ∧ Supp ⟨true, 32, 23⟩ ⟨true, 32, 23⟩ ∧ Supp ⟨false, 64, 32⟩ ⟨true, 128, 64⟩ ∧
    inRange ⟨true, 128, 32⟩ (2 ^ 120) := by
  refine ⟨⟨by decide, by decide, by decide, by decide, Or.inl rfl⟩, ⟨by decide, by decide, by decide, by decide, Or.inl rfl⟩,
    ⟨by decide, by decide, by decide, by decide, Or.inr (by unfold fromAdmissible; decide)⟩, by decide⟩

end Sfx.C13
