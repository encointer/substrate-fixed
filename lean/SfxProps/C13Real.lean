import SfxProps.C13
import Mathlib.Analysis.SpecialFunctions.Sqrt
import SfxProofs.GridReal
/-
  C13 over the reals: the integer bracket of `C13.holds` — `(r−4)² ≤ x'·2^f ≤ (r+4)²` on bits — read as the property's sentence
  "whenever sqrt returns Ok(r), |r − √x| is at most 4 units in the last place of the destination type", with Mathlib's `Real.sqrt`,
  for every source/destination pair accepted by `D: From<S>` (signed or unsigned, `S = D` included).
-/
namespace Sfx.C13

-- the real value of the bit pattern `x` with `f` fractional bits
noncomputable def val (f : Nat) (x : Int) : ℝ := (x : ℝ) / (2 : ℝ) ^ f

theorem sqrt_bracket (r V : ℝ) (hr : 0 ≤ r) (h1 : r < 4 ∨ (r - 4) * (r - 4) ≤ V) (h2 : V ≤ (r + 4) * (r + 4)) :
    |r - Real.sqrt V| ≤ 4 := by
  have hs0 : 0 ≤ Real.sqrt V := Real.sqrt_nonneg V
  have hup : Real.sqrt V ≤ r + 4 := (Real.sqrt_le_sqrt h2).trans_eq (Real.sqrt_mul_self (by linarith))
  have hlo : r - 4 ≤ Real.sqrt V := by
    by_cases h4 : r < 4
    · linarith
    · rw [← Real.sqrt_mul_self (show 0 ≤ r - 4 by linarith)]
      exact Real.sqrt_le_sqrt (h1.resolve_left h4)
  rw [abs_le]; constructor <;> linarith

end Sfx.C13

-- `bracket_of_ok` speaks of the model: its `2 ^ k : Int` are core's powers, as in `C13_statement`
attribute [-instance] Monoid.toNPow

namespace Sfx.C13

theorem bracket_of_ok (S D : Layout) (h : Supp S D) (x : Int) (hx : inRange S x) (r : Int) (it : Nat) (dbg : Bool)
    (hrun : Trans.run (Trans.sqrt S D x) = .ok (some r, it) dbg) :
    0 ≤ r ∧ (r < 4 ∨ (r - 4) * (r - 4) ≤ x * 2 ^ (D.f - S.f) * 2 ^ D.f) ∧
      x * 2 ^ (D.f - S.f) * 2 ^ D.f ≤ (r + 4) * (r + 4) ∧ S.f ≤ D.f := by
  have := holds S D h x hx
  rw [hrun] at this
  obtain ⟨_, _, hr0, lo, up, _, _⟩ := this
  refine ⟨hr0, ?_, by rw [← sq_eq]; exact up, ?_⟩
  · by_cases h4 : r < 4
    · exact Or.inl h4
    · rw [if_neg h4, sq_eq] at lo
      exact Or.inr lo
  · rcases h.2.2.2.2 with e | e
    · rw [e]
    · exact e.1

end Sfx.C13

-- back to Mathlib's powers: with the instance erased `(2 : ℝ) ^ D.f` below would elaborate through `Lean.Grind.Semiring.npow`, which
-- no Mathlib lemma matches
attribute [instance] Monoid.toNPow

namespace Sfx.C13

/-- C13 over the reals -/
theorem holds_real (S D : Layout) (h : Supp S D) (x : Int) (hx : inRange S x) (r : Int) (it : Nat) (dbg : Bool)
    (hrun : Trans.run (Trans.sqrt S D x) = .ok (some r, it) dbg) :
    |val D.f r - Real.sqrt (val S.f x)| ≤ 4 / (2 : ℝ) ^ D.f := by
  obtain ⟨hr0, h1, h2, hf⟩ := bracket_of_ok S D h x hx r it dbg hrun
  have hG : (0 : ℝ) < 2 ^ D.f := by positivity
  -- `√(val x) = √(x' · 2^f) / 2^f` for the widened operand `x'`
  have hval : (x : ℝ) / 2 ^ S.f = ((x * 2 ^ (D.f - S.f) * 2 ^ D.f : Int) : ℝ) / (2 ^ D.f) ^ 2 := by
    rw [← GridReal.cast_widen S.f D.f hf x, sq, ← div_div]
    push_cast
    rw [mul_div_cancel_right₀ _ hG.ne']
  unfold val
  rw [hval, Real.sqrt_div' _ (by positivity), Real.sqrt_sq hG.le, GridReal.abs_val_le_iff hG, mul_div_cancel₀ _ hG.ne']
  exact sqrt_bracket r _ (by exact_mod_cast hr0) (h1.imp (fun h => by exact_mod_cast h) fun h => by exact_mod_cast h)
    (by exact_mod_cast h2)

end Sfx.C13
