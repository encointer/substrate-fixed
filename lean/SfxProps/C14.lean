import SfxProofs.Log
import SfxProofs.LogAcc
import SfxProps.C12
import Mathlib.Analysis.SpecialFunctions.Log.Base
/-
  C14 — log2 and ln are accurate to the destination's resolution.

  `C14_statement` is the property at full strength, over Mathlib's reals (`Real.logb 2`, `Real.log`), for every source layout `S`
  and destination layout `D` with `D : From<S>` (the trait bound of `log2::<S, D>` / `ln::<S, D>`; `S = D` included) where `D` is a
  supported signed type (≥ 9 integer bits, ≥ 23 fractional bits), and every operand.  `holds` proves it.

  The numeric bounds come from `SfxProofs/LogAcc*.lean` (potential-function argument: halving loop ≤ 3 ulp, squaring loop ≤ 1.5 ulp,
  final truncation < 1 ulp, reciprocal ≤ 1.5 ulp — 4.5 ulp in total for log2, 5 ulp (`1 + 4.5·ln 2` rounded up) + 2^-23 relative for ln, the latter from
  `Real.log_two_gt_d9` / `Real.log_two_lt_d9`); the structural clauses from `SfxProofs/Log.lean`.
-/
namespace Sfx.C14
open Sfx.C12

/-- the real value of a bit pattern -/
noncomputable def val (f : Nat) (x : Int) : ℝ := (x : ℝ) / (2 : ℝ) ^ f

/-- FULL statement of C14 -/
def C14_statement : Prop :=
  ∀ S D : Layout, S.valid → Supp D → ConvPf.fromAdmissible S D → ∀ x : Int, inRange S x →
    (∀ r it dbg, Trans.run (Trans.log2 S D x) = .ok (some r, it) dbg →
      0 < x ∧ |val D.f r - Real.logb 2 (val S.f x)| ≤ 8 / (2 : ℝ) ^ D.f ∧
      (x ≤ 2 ^ S.f → r ≤ 0) ∧ (2 ^ S.f ≤ x → 0 ≤ r) ∧ (∀ k : Nat, x = 2 ^ k → r = ((k : Int) - S.f) * 2 ^ D.f)) ∧
    (∀ r it dbg, Trans.run (Trans.ln S D x) = .ok (some r, it) dbg →
      0 < x ∧ |val D.f r - Real.log (val S.f x)| ≤ |Real.log (val S.f x)| / (2 : ℝ) ^ 23 + 8 / (2 : ℝ) ^ D.f) ∧
    (∀ it dbg, (Trans.run (Trans.log2 S D x) = .ok (none, it) dbg ∨ Trans.run (Trans.ln S D x) = .ok (none, it) dbg) →
      x ≤ 0 ∨ (0 < x ∧ x < 2 ^ S.f ∧ ¬ inRange D (divSpec D.f (2 ^ D.f) (x * 2 ^ (D.f - S.f))))) ∧
    Trans.run (Trans.log2 S D x) ≠ .panic ∧ Trans.run (Trans.ln S D x) ≠ .panic

end Sfx.C14

/-! the model-level facts are stated with core powers (`Int.instNatPow`), as in the model -/
attribute [-instance] Monoid.toNPow
namespace Sfx.C14
open Sfx.LogPf Sfx.C12

/-- `log2::<S, D>(x)` is `log2::<D, D>` of the losslessly widened operand -/
theorem log2_widen_eq (S D : Layout) (hS : S.valid) (hv : D.valid) (hadm : ConvPf.fromAdmissible S D) (x : Int)
    (hx : inRange S x) :
    Trans.log2 S D x = Trans.log2 D D (x * 2 ^ (D.f - S.f)) ∧ inRange D (x * 2 ^ (D.f - S.f)) :=
  ⟨log2_widen_fun S D hS hv hadm x hx, (TransFacts.fromS_spec S D hS hv (Or.inr hadm) x hx).2⟩

theorem ln_widen_eq (S D : Layout) (hS : S.valid) (hv : D.valid) (hadm : ConvPf.fromAdmissible S D) (x : Int)
    (hx : inRange S x) : Trans.ln S D x = Trans.ln D D (x * 2 ^ (D.f - S.f)) :=
  ln_widen_fun S D hS hv hadm x hx

/-- model-level part (everything but the two real inequalities), any admissible source layout -/
theorem structural (S D : Layout) (hS : S.valid) (h : Supp D) (hadm : ConvPf.fromAdmissible S D) (x : Int) (hx : inRange S x) :
    (match Trans.run (Trans.log2 S D x) with
      | .ok (some r, _) dbg => dbg = false ∧ 0 < x ∧ inRange D r ∧ (x ≤ 2 ^ S.f → r ≤ 0) ∧ (2 ^ S.f ≤ x → 0 ≤ r) ∧
          (∀ k : Nat, x = 2 ^ k → r = ((k : Int) - S.f) * 2 ^ D.f)
      | .ok (none, _) dbg => dbg = false ∧
          (x ≤ 0 ∨ (0 < x ∧ x < 2 ^ S.f ∧ ¬ inRange D (divSpec D.f (2 ^ D.f) (x * 2 ^ (D.f - S.f)))))
      | .panic => False) ∧
    (match Trans.run (Trans.ln S D x) with
      | .ok (some r, _) dbg => dbg = false ∧ 0 < x ∧ inRange D r ∧ (x ≤ 2 ^ S.f → r ≤ 0) ∧ (2 ^ S.f ≤ x → 0 ≤ r)
      | .ok (none, _) dbg => dbg = false ∧
          (x ≤ 0 ∨ (0 < x ∧ x < 2 ^ S.f ∧ ¬ inRange D (divSpec D.f (2 ^ D.f) (x * 2 ^ (D.f - S.f)))))
      | .panic => False) :=
  ⟨log2_total_widen S D hS h.ctx hadm x hx, ln_total_widen S D hS h.valid h.signed h.f_ge h.int_ge hadm x hx⟩

/-- the same-type form (`S = D`; for `ln` without the sign clauses) -/
theorem C14_partial (D : Layout) (h : Supp D) (x : Int) (hx : inRange D x) :
    (match Trans.run (Trans.log2 D D x) with
      | .ok (some r, _) dbg => dbg = false ∧ 0 < x ∧ inRange D r ∧ (x ≤ 2 ^ D.f → r ≤ 0) ∧ (2 ^ D.f ≤ x → 0 ≤ r) ∧
          (∀ k : Nat, x = 2 ^ k → r = ((k : Int) - D.f) * 2 ^ D.f)
      | .ok (none, _) dbg => dbg = false ∧ (x ≤ 0 ∨ (0 < x ∧ x < 2 ^ D.f ∧ ¬ inRange D (divSpec D.f (2 ^ D.f) x)))
      | .panic => False) ∧
    (match Trans.run (Trans.ln D D x) with
      | .ok (some r, _) dbg => dbg = false ∧ 0 < x ∧ inRange D r
      | .ok (none, _) dbg => dbg = false ∧ (x ≤ 0 ∨ (0 < x ∧ x < 2 ^ D.f ∧ ¬ inRange D (divSpec D.f (2 ^ D.f) x)))
      | .panic => False) :=
  ⟨log2_total D h.ctx x hx, ln_total D h.valid h.signed h.f_ge h.int_ge x hx⟩

/-- C14: the structural clauses are `structural`, the two numeric clauses `LogAccPf.log2_accuracy` and `LogAccPf.ln_accuracy` -/
theorem holds : C14_statement := by
  intro S D hS h hadm x hx
  obtain ⟨s2, sln⟩ := structural S D hS h hadm x hx
  refine ⟨fun r it dbg hr => ?_, fun r it dbg hr => ?_, fun it dbg hr => ?_, fun hp => by rw [hp] at s2; exact s2,
    fun hp => by rw [hp] at sln; exact sln⟩
  · rw [hr] at s2
    exact ⟨s2.2.1, LogAccPf.log2_accuracy S D hS h.ctx (Nat.le_trans (by decide) h.f_ge) hadm x hx r it dbg hr, s2.2.2.2⟩
  · rw [hr] at sln
    exact ⟨sln.2.1, LogAccPf.ln_accuracy S D hS h.valid h.signed h.f_ge h.int_ge hadm x hx r it dbg hr⟩
  · rcases hr with hr | hr
    · rw [hr] at s2; exact s2.2
    · rw [hr] at sln; exact sln.2

/-- non-vacuity: log2 of 8.0 in I32F32 is exactly 3.0; and a widening pair (I9F23 operand, I32F32 result) is admitted -/
example : Trans.run (Trans.log2 ⟨true, 64, 32⟩ ⟨true, 64, 32⟩ (8 * 2 ^ 32)) = .ok (some (3 * 2 ^ 32), 3) false := by decide +kernel
example : Supp ⟨true, 64, 32⟩ ∧ (⟨true, 32, 23⟩ : Layout).valid ∧ ConvPf.fromAdmissible ⟨true, 32, 23⟩ ⟨true, 64, 32⟩ := by
  unfold Supp ConvPf.fromAdmissible; decide

end Sfx.C14
