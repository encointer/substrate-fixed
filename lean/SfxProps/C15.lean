import SfxProofs.Exp
import SfxProps.C12
import Mathlib.Analysis.SpecialFunctions.Pow.Real
/-
  C15 — exp, pow and powi are accurate wherever they return Ok.

  FULL statement: `C15_statement` (over the reals).  PROVED: `C15_partial` — the whole `powi` clause (exact rational error bound for
  `n ≥ 2`, truncated reciprocal for `n < 0`), the conventions `0^y = 0`, `x^0 = 1`, `x^1 = x` of pow and powi, and totality (C12).
  The exp clause is FALSE for large operands — KNOWN FINDING D10 (known_findings.txt ids D10-exp / D10-pow): the
  Maclaurin series is cut after `frac_nbits` terms with no argument reduction, e.g. `exp::<I32F32>(20)` is off by 0.8 % (allowed 2^-20).
  SfxProps/C15Acc.lean proves both sides: `statement_false : ¬ C15_statement` (formal counterexample at that operand) and the exp and
  pow clauses outside the findings' regions (`exp_holds_outside_D10`, `pow_holds_outside_findings`).  The check replays the finding's
  region on every run, prints KNOWN-FINDING, and reports any oracle-judged failure OUTSIDE that region as a violation.
-/
namespace Sfx.C15
open Sfx.C12

-- the real value of a bit pattern with `f` fractional bits
noncomputable def val (f : Nat) (x : Int) : ℝ := (x : ℝ) / (2 : ℝ) ^ f

/-- FULL statement of C15 -/
def C15_statement : Prop :=
  ∀ D : Layout, Supp D → ∀ x y : Int, inRange D x → inRange D y → ∀ n : Int,
    (∀ r it dbg, Trans.run (Trans.exp D D x) = .ok (some r, it) dbg →
      |val D.f r - Real.exp (val D.f x)| ≤ Real.exp (val D.f x) / (2 : ℝ) ^ 20 + 64 / (2 : ℝ) ^ D.f) ∧
    (∀ r it dbg, 0 < x → Trans.run (Trans.pow D D x y) = .ok (some r, it) dbg →
      |val D.f r - (val D.f x) ^ (val D.f y)| ≤
        (1 / (2 : ℝ) ^ 18 + |val D.f y * Real.log (val D.f x)| / (2 : ℝ) ^ 22 + 16 * |val D.f y| / (2 : ℝ) ^ D.f) * (val D.f x) ^ (val D.f y)
          + 64 / (2 : ℝ) ^ D.f) ∧
    (∀ r it dbg, 2 ≤ n → Trans.run (Trans.powi D D x n) = .ok (some r, it) dbg →
      |val D.f r - (val D.f x) ^ n.toNat| ≤ ((n : ℝ) + 1) / (2 : ℝ) ^ D.f * (max 1 |val D.f x|) ^ (n.toNat - 1))

end Sfx.C15

attribute [-instance] Monoid.toNPow
namespace Sfx.C15
open Sfx.ExpPf Sfx.C12

/-- PROVED part of C15.  The `powi` bound is the exact integer form of `|r/2^f − (x/2^f)^n| ≤ (n−1) ulp · max(1,|x/2^f|)^(n−1)`
(multiply by `2^(f·n)`; `Mx D x = max(2^f, |x|)`), which is stronger than the property's `(|n|+1)` ulp. -/
theorem C15_partial (D : Layout) (h : Supp D) (x y : Int) (hx : inRange D x) (n : Int) :
    -- powi, n ≥ 2
    (∀ r it dbg, 2 ≤ n → Trans.run (Trans.powi D D x n) = .ok (some r, it) dbg →
      ((r * 2 ^ (D.f * (n.toNat - 1)) - x ^ n.toNat).natAbs : Int) ≤ ((n.toNat - 1 : Nat) : Int) * Mx D x ^ (n.toNat - 1)) ∧
    -- powi, n < 0: the truncated reciprocal of powi(x, |n|)
    (x ≠ 0 → n < 0 →
      (∃ r' it, Trans.run (Trans.powi D D x (-n)) = .ok (some r', it) false ∧ inRange D r' ∧
        Trans.run (Trans.powi D D x n) = .ok (if r' = 0 then none else D.chk (divSpec D.f (2 ^ D.f) r'), it) false) ∨
      (∃ it, Trans.run (Trans.powi D D x (-n)) = .ok (none, it) false ∧ Trans.run (Trans.powi D D x n) = .ok (none, it) false)) ∧
    -- conventions
    (Trans.run (Trans.powi D D 0 n) = .ok (some 0, 0) false) ∧
    (x ≠ 0 → Trans.run (Trans.powi D D x 0) = .ok (some (2 ^ D.f), 0) false ∧ Trans.run (Trans.powi D D x 1) = .ok (some x, 0) false) ∧
    (Trans.run (Trans.pow D D 0 y) = .ok (some 0, 0) false) ∧
    (x ≠ 0 → Trans.run (Trans.pow D D x 0) = .ok (some (2 ^ D.f), 0) false ∧ Trans.run (Trans.pow D D x (2 ^ D.f)) = .ok (some x, 0) false) := by
  -- all six need of `Supp D` only that the layout is valid and holds `1`
  have hv := h.valid
  have h1 := h.ok.facts.oneR
  have h0 := TransFacts.fromNum0 D hv
  have hone := TransFacts.fromNum1 D hv h1
  have hi := powi_conventions D D h0 h0 hone (SqrtPf.fromS_same D x) n
  have hp := pow_conventions D D h0 hone h0 hone (SqrtPf.fromS_same D x) y
  exact ⟨fun r it dbg hn he => powi_accuracy_tight D hv h1 x hx n hn r it dbg he,
    fun hx0 hn => powi_negative_run D hv h1 x hx hx0 n hn, hi.1, hi.2, hp.1, hp.2⟩

/-- non-vacuity: 1.5^3 in I9F23 returns Ok within the bound's reach -/
example : Supp ⟨true, 32, 23⟩ ∧ inRange ⟨true, 32, 23⟩ (3 * 2 ^ 22) ∧
    Trans.run (Trans.powi ⟨true, 32, 23⟩ ⟨true, 32, 23⟩ (3 * 2 ^ 22) 3) = .ok (some 28311552, 2) false := by
  refine ⟨⟨by decide, rfl, by decide, by decide⟩, by decide, by decide +kernel⟩

end Sfx.C15
