import SfxProps.C15
import SfxProofs.ExpAcc
import SfxProofs.PowAcc
/-
  C15, the exp and pow clauses — what is true and what is false, both proved:

    * `statement_false` : `¬ C15_statement`.  Witness (`exp_clause_counterexample`): `exp::<I32F32, I32F32>(20.0)` returns
      `Ok(2066907302758576256 · 2^-32 ≈ 481 239 358.98)` (kernel-evaluated on the model, `decide +kernel`) while `e^20 > 485 165 190`
      (from `Real.exp_one_gt_d9`), an error of 0.8 % against the allowed `2^-20·e^20 + 64 ulp ≈ 463`.  This is known finding D10
      (known_findings.txt): the Maclaurin series is cut after `frac_nbits` terms with no argument reduction.  The finding's region is
      sampled on every run and replayed against the implementation (it prints KNOWN-FINDING).
    * `exp_holds_wide` : the exp clause, word for word, for every supported type and every operand with `|x| ≤ f/4` (f = fractional
      bits): that is EVERY I9F23 operand whose result does not overflow (5.75 ≥ ln 256), 8 of the true ≈ 11.8 for I32F32, 16 for I64F64,
      22 of ≈ 27 for I40F88.  Potential-function bound on the accumulated truncation error (≤ 2(f−2) + (4589/900 + 13/200(f−13))·e^x ulp, whatever the operand), the
      omitted tail charged against e^x through Stirling's bound (`Stirling.le_factorial_stirling`), reciprocal error divided by
      e^x·sum on the negative side.  `exp_holds_le_four` (|x| ≤ 4) is the part of it inside `4·4 ≤ 23 ≤ f`.

    * `pow_holds_wide` : the pow clause, word for word, for `4·|y·ln x| + 2 ≤ f` and `|y| ≤ 2^f/32` (the exponent handed to `exp` stays in the region of `exp_holds_wide`);
    * `pow_holds_small` : the pow clause, word for word, for every supported type, positive base and exponents with `|y·ln x| ≤ 7/2` and
      `|y| ≤ 2^f / 32` (the second hypothesis holds for EVERY exponent of a type with `intBits + 4 ≤ f`, e.g. I9F23, I16F48, I40F88:
      `PowAccPf.hY_auto`): the part of `pow_holds_wide` inside `4·7/2 + 2 ≤ 23 ≤ f`.  Error propagation: ln (5 ulp) → truncated product →
      exp closes inside the clause's 2^-18 relative margin.
    * `pow_clause_counterexample` / `pow_clause_false` : the pow clause is FALSE by a second mechanism, independent of D10 — KNOWN FINDING D16
      (known_findings.txt id D16-pow-ln-abs): C14 allows `ln` an ABSOLUTE error of 8 ulp; `pow` multiplies it by `|y|`, and the clause's
      term `16·|y|·2^-f` linearises `e^t − 1 ≈ t`, which is only valid while `8·|y|` ulp is of order 1.  Witness (supported type I41F23):
      `x = 1 + 2^-23`, `y = −2^26`: the model computes `ln x = 0` (0.9999999 ulp truncates to zero), `pow` returns exactly 1.0 through the
      `exp(0)` early return (kernel-evaluated), the true value is `< 1/1000` and the allowed error is far smaller than 0.999.  Affected: types
      with `n ≥ 2f + 4` and exponents of magnitude above about `2^f/8`.  The witnesses are in corpus/C15.req and replayed on every run.

    * `exp_holds_outside_D10` : the exp clause, word for word, for EVERY supported type and EVERY operand outside known finding D10 —
      the only hypothesis is the negation of the finding's predicate: the tail `Σ_{i ≥ f} |x|^i / i!` that the code omits is at most
      `2^-24 · e^|x|` (`ExpAccPf.Rm |x| f`, identified with the series tail by `ExpAccPf.Rm_hasSum`).  So for exp the clause
      holds outside the finding's region (theorem) and fails inside it at the witness (theorem).
      Non-vacuity in the band beyond `exp_holds_wide`: I32F32 at x = 9.0 (`4·9 > 32`), `ExpBandPf.band_witness_hyp` / `band_witness_result`.

    * `pow_holds_outside_findings` : the pow clause, word for word, for every supported type and every pair of operands with
      `8·|y|·ulp ≤ 1` (the negation of D16's predicate) and the omitted series tail at `|y·ln x| + 1` at most `2^-24·e^(|y·ln x| + 1)`
      (the negation of D10's predicate, taken one unit further out: the computed exponent `y·ln x` is off by less than 1 —
      `ln` with its sharp constant 5 ulp, `LogAccPf.ln_real`; the tail ratio is monotone, `PowBandPf.tail_mono`).
      Non-vacuity outside `pow_holds_wide`: I32F32, 2^12 (`PowBandPf.band_witness_result`).

  Not proved: pow where the tail predicate holds at `|y·ln x|` but not at `|y·ln x| + 1` (a strip of width 1 next to D10's region, outside
  `pow_holds_wide`); powi and the conventions are in SfxProps/C15.lean (`C15_partial`).
-/
namespace Sfx.C15
open Sfx.C12

/-- the exp clause of `C15_statement` fails at `exp::<I32F32>(20.0)` -/
theorem exp_clause_counterexample :
    ∃ r it, Trans.run (Trans.exp ⟨true, 64, 32⟩ ⟨true, 64, 32⟩ (20 * 2 ^ 32)) = .ok (some r, it) false ∧
      ¬ (|(r : ℝ) / 2 ^ 32 - Real.exp (((20 * 2 ^ 32 : Int) : ℝ) / 2 ^ 32)| ≤
          Real.exp (((20 * 2 ^ 32 : Int) : ℝ) / 2 ^ 32) / 2 ^ 20 + 64 / 2 ^ 32) := by
  refine ⟨2066907302758576256, 30, ExpAccPf.exp20_run, ?_⟩
  have hx : (((20 * 2 ^ 32 : Int) : ℝ) / 2 ^ 32) = 20 := by push_cast; norm_num
  rw [hx]
  have hl : (485165190 : ℝ) < Real.exp 20 := lt_of_lt_of_le (by norm_num) (ExpAccPf.exp_nat_lower 20)
  intro h
  have h' := (abs_le.1 h).1
  norm_num at h'
  linarith

/-- the property is FALSE of the model (and, by the replayed region of the finding, of the code): known finding D10 -/
theorem statement_false : ¬ C15_statement := by
  intro h
  obtain ⟨r, it, hrun, hneg⟩ := exp_clause_counterexample
  have hS : Supp ⟨true, 64, 32⟩ := ⟨by decide, rfl, by decide, by decide⟩
  have hin : inRange ⟨true, 64, 32⟩ (20 * 2 ^ 32) := by decide
  exact hneg ((h ⟨true, 64, 32⟩ hS (20 * 2 ^ 32) 0 hin (by decide) 0).1 r it false hrun)

/-- the exp clause for `|x| ≤ 4` -/
theorem exp_holds_le_four (D : Layout) (h : Supp D) (x : Int) (hx : inRange D x) (hsmall : |val D.f x| ≤ 4) :
    ∀ r it dbg, Trans.run (Trans.exp D D x) = .ok (some r, it) dbg →
      |val D.f r - Real.exp (val D.f x)| ≤ Real.exp (val D.f x) / (2 : ℝ) ^ 20 + 64 / (2 : ℝ) ^ D.f :=
  PairsPf.C15_exp_le_four_pairs D D h h (ConvPf.fromAdmissible_refl D) x hx hsmall

/-- the exp clause for `|x| ≤ f/4` -/
theorem exp_holds_wide (D : Layout) (h : Supp D) (x : Int) (hx : inRange D x) (hsmall : 4 * |val D.f x| ≤ (D.f : ℝ)) :
    ∀ r it dbg, Trans.run (Trans.exp D D x) = .ok (some r, it) dbg →
      |val D.f r - Real.exp (val D.f x)| ≤ Real.exp (val D.f x) / (2 : ℝ) ^ 20 + 64 / (2 : ℝ) ^ D.f :=
  ExpAccPf.exp_accuracy D D h.ctx h (ConvPf.fromAdmissible_refl D) x hx (.of_wide h.f_ge (abs_nonneg _) hsmall)

/-- the exp clause for EVERY operand outside known finding D10 (omitted tail of the series ≤ 2^-24 · e^|x|) -/
theorem exp_holds_outside_D10 (D : Layout) (h : Supp D) (x : Int) (hx : inRange D x)
    (htail : ExpAccPf.Rm |val D.f x| D.f ≤ Real.exp |val D.f x| / 2 ^ 24) :
    ∀ r it dbg, Trans.run (Trans.exp D D x) = .ok (some r, it) dbg →
      |val D.f r - Real.exp (val D.f x)| ≤ Real.exp (val D.f x) / (2 : ℝ) ^ 20 + 64 / (2 : ℝ) ^ D.f :=
  ExpAccPf.exp_accuracy D D h.ctx h (ConvPf.fromAdmissible_refl D) x hx (.of_24 htail)

/-- `Rm X n` in the hypothesis above IS the tail of the exponential series after `n` terms -/
theorem D10_tail_is_series_tail (X : ℝ) (n : ℕ) : HasSum (fun i => X ^ (i + n) / ((i + n).factorial : ℝ)) (ExpAccPf.Rm X n) :=
  ExpAccPf.Rm_hasSum X n

/-- non-vacuity of `exp_holds_outside_D10` beyond `exp_holds_wide`: I32F32, x = 9.0 -/
theorem exp_band_witness :
    ExpAccPf.Rm |((9 * 2 ^ 32 : Int) : ℝ) / 2 ^ (⟨true, 64, 32⟩ : Layout).f| (⟨true, 64, 32⟩ : Layout).f ≤
      Real.exp |((9 * 2 ^ 32 : Int) : ℝ) / 2 ^ (⟨true, 64, 32⟩ : Layout).f| / 2 ^ 24 :=
  ExpBandPf.band_witness_hyp

/-- the pow clause for `4·|y·ln x| + 2 ≤ f`, `|y| ≤ 2^f/32` -/
theorem pow_holds_wide (D : Layout) (h : Supp D) (x y : Int) (hx : inRange D x) (hy : inRange D y)
    (hsmall : 4 * |val D.f y * Real.log (val D.f x)| + 2 ≤ (D.f : ℝ)) (hY : |val D.f y| * 32 ≤ (2 : ℝ) ^ D.f) :
    ∀ r it dbg, 0 < x → Trans.run (Trans.pow D D x y) = .ok (some r, it) dbg →
      |val D.f r - (val D.f x) ^ (val D.f y)| ≤
        (1 / (2 : ℝ) ^ 18 + |val D.f y * Real.log (val D.f x)| / (2 : ℝ) ^ 22 + 16 * |val D.f y| / (2 : ℝ) ^ D.f) * (val D.f x) ^ (val D.f y)
          + 64 / (2 : ℝ) ^ D.f :=
  PowAccPf.pow_accuracy_wide D D h h (ConvPf.fromAdmissible_refl D) x y hx hy hsmall hY

/-- the pow clause for `|y·ln x| ≤ 7/2`, `|y| ≤ 2^f/32` -/
theorem pow_holds_small (D : Layout) (h : Supp D) (x y : Int) (hx : inRange D x) (hy : inRange D y)
    (hsmall : |val D.f y * Real.log (val D.f x)| ≤ 7 / 2) (hY : |val D.f y| * 32 ≤ (2 : ℝ) ^ D.f) :
    ∀ r it dbg, 0 < x → Trans.run (Trans.pow D D x y) = .ok (some r, it) dbg →
      |val D.f r - (val D.f x) ^ (val D.f y)| ≤
        (1 / (2 : ℝ) ^ 18 + |val D.f y * Real.log (val D.f x)| / (2 : ℝ) ^ 22 + 16 * |val D.f y| / (2 : ℝ) ^ D.f) * (val D.f x) ^ (val D.f y)
          + 64 / (2 : ℝ) ^ D.f :=
  PairsPf.C15_pow_small_pairs D D h h (ConvPf.fromAdmissible_refl D) x y hx hy hsmall hY

/-- the pow clause for EVERY pair of operands outside the known findings: not D16 (`8|y| ulp ≤ 1`) and not D10 (series tail at
`|y·ln x| + 1`, one unit of margin for the error of the computed exponent) -/
theorem pow_holds_outside_findings (D : Layout) (h : Supp D) (x y : Int) (hx : inRange D x) (hy : inRange D y)
    (hA : 8 * |val D.f y| / (2 : ℝ) ^ D.f ≤ 1)
    (htail : ExpAccPf.Rm (|val D.f y * Real.log (val D.f x)| + 1) D.f ≤ Real.exp (|val D.f y * Real.log (val D.f x)| + 1) / 2 ^ 24) :
    ∀ r it dbg, 0 < x → Trans.run (Trans.pow D D x y) = .ok (some r, it) dbg →
      |val D.f r - (val D.f x) ^ (val D.f y)| ≤
        (1 / (2 : ℝ) ^ 18 + |val D.f y * Real.log (val D.f x)| / (2 : ℝ) ^ 22 + 16 * |val D.f y| / (2 : ℝ) ^ D.f) * (val D.f x) ^ (val D.f y)
          + 64 / (2 : ℝ) ^ D.f :=
  PowAccPf.pow_accuracy D D h.ctx h (ConvPf.fromAdmissible_refl D) x y hx hy hA
    (.pow_band h.f_ge h.ok.f128 (abs_nonneg _) (abs_nonneg _) hA (.of_24 htail))

/-- the tail predicate is monotone: if it holds at `T` it holds at every `0 ≤ S ≤ T` (so it describes a half-line of `|x|`) -/
theorem D10_tail_predicate_monotone (n : ℕ) {S T : ℝ} (hS : 0 ≤ S) (hST : S ≤ T)
    (h : ExpAccPf.Rm T n ≤ Real.exp T / 2 ^ 24) : ExpAccPf.Rm S n ≤ Real.exp S / 2 ^ 24 :=
  PowBandPf.tail_mono n hS hST h

/-- the real side of the witness of finding D16: `(1 + 2^-23)^(-2^26) < 1/1000` while `|y ln x| ≤ 8` -/
theorem D16_witness_real : ((8388609 : ℝ) / 8388608) ^ (-67108864 : ℝ) < 1 / 1000 ∧
    |(-67108864 : ℝ) * Real.log ((8388609 : ℝ) / 8388608)| ≤ 8 := by
  have hX : (0 : ℝ) < (8388609 : ℝ) / 8388608 := by norm_num
  have hl1 : 1 - ((8388609 : ℝ) / 8388608)⁻¹ ≤ Real.log ((8388609 : ℝ) / 8388608) := Real.one_sub_inv_le_log_of_pos hX
  have hl2 : Real.log ((8388609 : ℝ) / 8388608) ≤ (8388609 : ℝ) / 8388608 - 1 := Real.log_le_sub_one_of_pos hX
  norm_num at hl1 hl2
  constructor
  · rw [Real.rpow_def_of_pos hX]
    have h7 : Real.log ((8388609 : ℝ) / 8388608) * (-67108864 : ℝ) ≤ -7 := by linarith only [hl1]
    have h2 : Real.exp (Real.log ((8388609 : ℝ) / 8388608) * (-67108864 : ℝ)) ≤ Real.exp (-7) := Real.exp_le_exp.2 h7
    have h3 : Real.exp (-7) * Real.exp 7 = 1 := by rw [← Real.exp_add, neg_add_cancel, Real.exp_zero]
    have h4 := mul_lt_mul_of_pos_left (lt_of_lt_of_le (by norm_num) (ExpAccPf.exp_nat_lower 7) : (1000 : ℝ) < Real.exp 7)
      (Real.exp_pos (-7))
    linarith only [h2, h3, h4]
  · exact abs_le.2 ⟨by linarith only [hl2], by linarith only [hl1]⟩

/-- the pow clause fails at `pow::<I41F23>(1 + 2^-23, −2^26)` (finding D16) -/
theorem pow_clause_counterexample :
    ∃ r it, Trans.run (Trans.pow ⟨true, 64, 23⟩ ⟨true, 64, 23⟩ 8388609 (-562949953421312)) = .ok (some r, it) false ∧
      ¬ (|(r : ℝ) / 2 ^ 23 - (((8388609 : Int) : ℝ) / 2 ^ 23) ^ (((-562949953421312 : Int) : ℝ) / 2 ^ 23)| ≤
        (1 / 2 ^ 18 + |((-562949953421312 : Int) : ℝ) / 2 ^ 23 * Real.log (((8388609 : Int) : ℝ) / 2 ^ 23)| / 2 ^ 22 +
          16 * |((-562949953421312 : Int) : ℝ) / 2 ^ 23| / 2 ^ 23) *
          (((8388609 : Int) : ℝ) / 2 ^ 23) ^ (((-562949953421312 : Int) : ℝ) / 2 ^ 23) + 64 / 2 ^ 23) := by
  refine ⟨8388608, 23, PowAccPf.pow_ln_run8, ?_⟩
  have ex : (((8388609 : Int) : ℝ) / 2 ^ 23) = (8388609 : ℝ) / 8388608 := by norm_num
  have ey : (((-562949953421312 : Int) : ℝ) / 2 ^ 23) = (-67108864 : ℝ) := by norm_num
  have er : (((8388608 : Int) : ℝ) / 2 ^ 23) = 1 := by norm_num
  rw [ex, ey, er]
  obtain ⟨hP, hW⟩ := D16_witness_real
  have hP0 : 0 < ((8388609 : ℝ) / 8388608) ^ (-67108864 : ℝ) := Real.rpow_pos_of_pos (by norm_num) _
  generalize ((8388609 : ℝ) / 8388608) ^ (-67108864 : ℝ) = P at *
  generalize |(-67108864 : ℝ) * Real.log ((8388609 : ℝ) / 8388608)| = w at *
  intro h
  have h' := (abs_le.1 h).2
  rw [show |(-67108864 : ℝ)| = 67108864 by norm_num] at h'
  have hc := mul_le_mul_of_nonneg_right
    (show 1 / 2 ^ 18 + w / 2 ^ 22 + 16 * 67108864 / 2 ^ 23 ≤ (130 : ℝ) by linarith only [hW]) hP0.le
  linarith only [h', hc, hP]

/-- the pow clause of `C15_statement` is false on its own (independently of the exp clause) -/
theorem pow_clause_false :
    ¬ (∀ D : Layout, Supp D → ∀ x y : Int, inRange D x → inRange D y →
      ∀ r it dbg, 0 < x → Trans.run (Trans.pow D D x y) = .ok (some r, it) dbg →
        |val D.f r - (val D.f x) ^ (val D.f y)| ≤
          (1 / (2 : ℝ) ^ 18 + |val D.f y * Real.log (val D.f x)| / (2 : ℝ) ^ 22 +
            16 * |val D.f y| / (2 : ℝ) ^ D.f) * (val D.f x) ^ (val D.f y) + 64 / (2 : ℝ) ^ D.f) := by
  intro h
  obtain ⟨r, it, hrun, hneg⟩ := pow_clause_counterexample
  have hS : Supp ⟨true, 64, 23⟩ := ⟨by decide, rfl, by decide, by decide⟩
  exact hneg (h ⟨true, 64, 23⟩ hS 8388609 (-562949953421312) (by decide) (by decide) r it false (by decide) hrun)

end Sfx.C15
