import SfxProps.C15Acc
import SfxProofs.PairsC15
/-
  C15 for DIFFERENT source and destination types (`exp/pow/powi::<S, D>` with `D: From<S>`, both supported), and the powi clause over
  the reals.  `exp::<S, D>`, `pow::<S, D>`, `powi::<S, D>` are proved EQUAL, as computations (iteration counter included), to the
  same-type functions on the losslessly widened operands (`PairsPf.exp_widen_fun`, `pow_widen_fun`, `powi_widen_fun`; for `exp` except
  at `x = S::MIN`, where the source-side `checked_neg` returns `Err` at once — `exp_widen_min`), so every same-type result transfers:

    * `pairs_partial`  — the exp clause for `|x| ≤ D.f/4`, the pow clause for `4|y·ln x| + 2 ≤ D.f`, `|y| ≤ 2^D.f/32`, and the powi clause
                         IN FULL (`|r − x^n| ≤ (n+1) ulp · max(1,|x|)^(n−1)` over the reals, word for word as in the property), for pairs;
    * `powi_real`      — the powi clause of `C15_statement` over the reals for `S = D` (`C15_partial` states it in exact integers);
    * `powi_negative_pairs`, `conventions_pairs` — the truncated-reciprocal clause and the conventions `0^y = 0`, `x^0 = 1`, `x^1 = x` for pairs;
    * `pairs_statement_false` — the full pair statement is false (it contains `C15_statement` at `S = D`: findings D10 / D16).
-/
namespace Sfx.C15
open Sfx.C12 Sfx.ConvPf

/-- PROVED part of the pair statement, in its shape: the exp clause for `|x| ≤ D.f/4`, the pow clause for `4|y ln x| + 2 ≤ D.f`,
`|y| ≤ 2^D.f/32`, the powi clause in full -/
theorem pairs_partial (S D : Layout) (hS : Supp S) (hD : Supp D) (hadm : fromAdmissible S D) (x y : Int)
    (hx : inRange S x) (hy : inRange S y) (n : Int) :
    (4 * |val S.f x| ≤ (D.f : ℝ) → ∀ r it dbg, Trans.run (Trans.exp S D x) = .ok (some r, it) dbg →
      |val D.f r - Real.exp (val S.f x)| ≤ Real.exp (val S.f x) / (2 : ℝ) ^ 20 + 64 / (2 : ℝ) ^ D.f) ∧
    (4 * |val S.f y * Real.log (val S.f x)| + 2 ≤ (D.f : ℝ) → |val S.f y| * 32 ≤ (2 : ℝ) ^ D.f →
      ∀ r it dbg, 0 < x → Trans.run (Trans.pow S D x y) = .ok (some r, it) dbg →
      |val D.f r - (val S.f x) ^ (val S.f y)| ≤
        (1 / (2 : ℝ) ^ 18 + |val S.f y * Real.log (val S.f x)| / (2 : ℝ) ^ 22 + 16 * |val S.f y| / (2 : ℝ) ^ D.f) * (val S.f x) ^ (val S.f y)
          + 64 / (2 : ℝ) ^ D.f) ∧
    (∀ r it dbg, 2 ≤ n → Trans.run (Trans.powi S D x n) = .ok (some r, it) dbg →
      |val D.f r - (val S.f x) ^ n.toNat| ≤ ((n : ℝ) + 1) / (2 : ℝ) ^ D.f * (max 1 |val S.f x|) ^ (n.toNat - 1)) :=
  ⟨fun h => ExpAccPf.exp_accuracy S D hS.ctx hD hadm x hx (.of_wide hD.f_ge (abs_nonneg _) h),
    fun h1 h2 => PowAccPf.pow_accuracy_wide S D hS hD hadm x y hx hy h1 h2,
    fun r it dbg hn he => PairsPf.powi_loosen (by positivity) (by positivity) (by linarith only [])
      (PairsPf.C15_powi_pairs_tight S D hS hD hadm x hx n r it dbg hn he)⟩

/-- the powi clause of `C15_statement` over the reals, `S = D` -/
theorem powi_real (D : Layout) (h : Supp D) (x : Int) (hx : inRange D x) (n : Int) :
    ∀ r it dbg, 2 ≤ n → Trans.run (Trans.powi D D x n) = .ok (some r, it) dbg →
      |val D.f r - (val D.f x) ^ n.toNat| ≤ ((n : ℝ) + 1) / (2 : ℝ) ^ D.f * (max 1 |val D.f x|) ^ (n.toNat - 1) :=
  fun r it dbg hn he => PairsPf.powi_loosen (by positivity) (by positivity) (by linarith only []) (PairsPf.C15_powi_real_tight D h x hx n r it dbg hn he)

/-- the pair statement contains `C15_statement`, which is false (known findings D10, D16) -/
theorem pairs_statement_false : ¬ PairsPf.C15_pairs_statement := fun h =>
  statement_false (fun D hD x y hx hy n => h D D hD hD (ConvPf.fromAdmissible_refl D) x y hx hy n)

end Sfx.C15

attribute [-instance] Monoid.toNPow
namespace Sfx.C15
open Sfx.C12 Sfx.ConvPf

/-- powi with a negative exponent, `S ≠ D`: the truncated reciprocal of `powi(x, |n|)` (computed in `D`), `Err` when that is `Err`,
zero, or has no representable reciprocal; same iteration count -/
theorem powi_negative_pairs (S D : Layout) (hS : Supp S) (hD : Supp D) (hadm : fromAdmissible S D) (x : Int) (hx : inRange S x)
    (n : Int) (hx0 : x ≠ 0) (hn : n < 0) :
    (∃ r' it, Trans.run (Trans.powi S D x (-n)) = .ok (some r', it) false ∧ inRange D r' ∧
      Trans.run (Trans.powi S D x n) = .ok (if r' = 0 then none else D.chk (divSpec D.f (2 ^ D.f) r'), it) false) ∨
    (∃ it, Trans.run (Trans.powi S D x (-n)) = .ok (none, it) false ∧ Trans.run (Trans.powi S D x n) = .ok (none, it) false) := by
  obtain ⟨w, _, hwin, hw0, hrun⟩ := PairsPf.powi_widen_ex S D hS.valid hD.valid hadm x hx
  rw [hrun, hrun]
  exact (C15_partial D hD w 0 hwin n).2.1 (fun h => hx0 (hw0.1 h)) hn

/-- the conventions `0^n = 0`, `x^0 = 1`, `x^1 = x` of powi and `0^y = 0`, `x^0 = 1`, `x^1 = x` of pow for `S ≠ D`: the
comparisons run in the source layout (`1` is `2^S.f`), the results are in `D` (`1` is `2^D.f`, `x` is the widened operand); no
loop iteration, no check fires -/
theorem conventions_pairs (S D : Layout) (hS : Supp S) (hD : Supp D) (hadm : fromAdmissible S D) (x y : Int) (hx : inRange S x) (n : Int) :
    (Trans.run (Trans.powi S D 0 n) = .ok (some 0, 0) false) ∧
    (x ≠ 0 → Trans.run (Trans.powi S D x 0) = .ok (some (2 ^ D.f), 0) false ∧
      Trans.run (Trans.powi S D x 1) = .ok (some (x * 2 ^ (D.f - S.f)), 0) false) ∧
    (Trans.run (Trans.pow S D 0 y) = .ok (some 0, 0) false) ∧
    (x ≠ 0 → Trans.run (Trans.pow S D x 0) = .ok (some (2 ^ D.f), 0) false ∧
      Trans.run (Trans.pow S D x (2 ^ S.f)) = .ok (some (x * 2 ^ (D.f - S.f)), 0) false) := by
  open Sfx.ExpPf Sfx.SqrtPf in
  have hcD := facts D hD.valid hD.signed hD.f_ge hD.int_ge
  have zS := TransFacts.fromNum0 S hS.valid
  have hfrom := (TransFacts.fromS_spec S D hS.valid hD.valid (Or.inr hadm) x hx).1
  have hi := powi_conventions S D zS hcD.zero hcD.one hfrom n
  have hp := pow_conventions S D zS hS.ctx.conv.fromNum1 hcD.zero hcD.one hfrom y
  exact ⟨hi.1, hi.2, hp.1, hp.2⟩

end Sfx.C15
