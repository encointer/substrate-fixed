import SfxProofs.TrigModel
import SfxProps.C12
import Mathlib.Analysis.SpecialFunctions.Trigonometric.Basic
/-
  C16 — sin, cos and tan are accurate over many periods in every supported type.

  FULL statement: `C16_statement` (over the reals).  PROVED here: `C16_partial` ((i), (ii)) and `table_facts` ((iii)) —
    (i)   range reduction is exact arithmetic on the grid for EVERY angle: the reduced angle is congruent to the operand modulo the
          23-bit `2π` constant, lies in `[-π₂₃, π₂₃]`, the mirror step lands in `[-π₂₃/2, π₂₃/2]`, nothing overflows;
    (ii)  the model's CORDIC loop equals the plain-integer iteration (`sinPure`), so the result is a pure function of the reduced angle,
          identical in every build profile, bounded by 3 in magnitude;
    (iii) table facts over `Generated.lean` (regenerated from the source on every run): the used `ARCTAN_ANGLES` entries `1 … 23` are within
          `2^-54−i` of 70 floored terms of Gregory's series for `atan 2^-i` (kernel-evaluated; against `Real.arctan`, all 24 entries to `2^-53`:
          `TrigAccPf.table_arctan`), satisfy the CORDIC convergence condition
          `e_i ≤ Σ_{j>i} e_j + e_23`, cover `π/2` (that they are decreasing is `TrigPf.table_decreasing`, no conjunct of `table_facts`); entry 0 is `consts::PI` truncated; the gain literal satisfies
          `1 ≤ gain²·∏(1+4^-i) < 1 + 2^-31`.  A mutated table entry or gain breaks a theorem.  `public_constants`: the public constants of
          `transcendental.rs` are truncations of the 128-bit ones.
  The real-analysis step from (i)–(iii) to `|r − sin x| ≤ 2^-16` (rotation invariant with per-step truncation, residual angle, and the
  distance `|x mod 2π₂₃ − x mod 2π| ≤ 32·2^-23` for `|x| ≤ 200`) is in `SfxProps/C16Acc.lean`: `C16.holds : C16_statement`.  The search
  oracle (300-bit reference) keeps judging every run: worst observed error 2^-18.1 of the allowed 2^-16; tan 2^-15.1 of 2^-14.
-/
namespace Sfx.C16
open Sfx.C12

noncomputable def val (f : Nat) (x : Int) : ℝ := (x : ℝ) / (2 : ℝ) ^ f

/-- FULL statement of C16 -/
def C16_statement : Prop :=
  ∀ D : Layout, Supp D → ∀ a : Int, inRange D a →
    (|val D.f a| ≤ 200 →
      (∀ r it dbg, Trans.run (Trans.sin D a) = .ok (some r, it) dbg →
        |val D.f r - Real.sin (val D.f a)| ≤ 1 / (2 : ℝ) ^ 16 ∧ |val D.f r| ≤ 1 + 1 / (2 : ℝ) ^ 16) ∧
      (∀ r it dbg, Trans.run (Trans.cos D a) = .ok (some r, it) dbg →
        |val D.f r - Real.cos (val D.f a)| ≤ 1 / (2 : ℝ) ^ 16 ∧ |val D.f r| ≤ 1 + 1 / (2 : ℝ) ^ 16)) ∧
    (|val D.f a| ≤ 100 → |Real.tan (val D.f a)| ≤ 64 →
      ∀ r it dbg, Trans.run (Trans.tan D a) = .ok (some r, it) dbg →
        |val D.f r - Real.tan (val D.f a)| ≤ (1 + Real.tan (val D.f a) ^ 2) / (2 : ℝ) ^ 14)

end Sfx.C16

attribute [-instance] Monoid.toNPow
namespace Sfx.C16
open Sfx.TrigPf Sfx.C12

/-- PROVED part (i)+(ii): exact range reduction and exact-arithmetic CORDIC for every angle of every supported type -/
theorem C16_partial (D : Layout) (h : Supp D) (a : Int) (ha : inRange D a) :
    (∃ (q a1 a2 : Int), a1 = a + q * T D ∧ -P D ≤ a1 ∧ a1 ≤ P D ∧
        (a2 = a1 ∨ a2 = H D - (a1 - H D) ∨ a2 = -H D - (a1 + H D)) ∧ -H D ≤ a2 ∧ a2 ≤ H D ∧ a2 = red2 D (red1 D a)) ∧
    (Trans.run (Trans.sin D a) = .ok (some (sinPure D a), redTicks D a + 24) false ∧ redTicks D a ≤ 1 ∧
      -(3 * 2 ^ D.f) ≤ sinPure D a ∧ sinPure D a ≤ 3 * 2 ^ D.f) := by
  obtain ⟨q, h1, h2, h3, h5, h6, h7⟩ := red_spec D a
  exact ⟨⟨q, _, _, h1, h2, h3, h5, h6, h7, rfl⟩, run_sin h.ok a ha, redTicks_le D a, sinPure_bound h.ok a⟩

/-- PROVED part (iii): the table and gain facts (over the regenerated constants) -/
theorem table_facts :
    (∀ i, i < 23 → Trans.angleOf i ≤ angSum (i + 1) (23 - i) + Trans.angleOf 23) ∧
    (Trans.FRAC_PI_2 * 2 ^ 105 ≤ angSum 0 24) ∧
    (∀ i, 1 ≤ i → i < 24 →
      Trans.angleOf i * 2 ^ 128 - atanSeries i 70 < 2 ^ (202 - i) ∧ atanSeries i 70 - Trans.angleOf i * 2 ^ 128 < 2 ^ (202 - i)) ∧
    (Trans.angleOf 0 = Int.ofNat Generated.piSrc / 2 ^ 76 * 2 ^ 76) ∧
    (2 ^ 256 * gainDen 24 ≤ (Int.ofNat Generated.cordicGain) ^ 2 * gainNum 24 ∧
      ((Int.ofNat Generated.cordicGain) ^ 2 * gainNum 24 - 2 ^ 256 * gainDen 24) * 2 ^ 31 < 2 ^ 256 * gainDen 24) :=
  ⟨table_convergence, table_covers, table_entries_pinned, table_entry0.1, gain_fact⟩

/-- the public constants of `transcendental.rs` (regenerated from the source on every run) are consistent truncations of one another and of the 128-bit
`consts::PI` / `LOG2_E` / `E` they are shifted out of: `TWO_PI`, `PI`, `FRAC_PI_2`, `FRAC_PI_4` (the last is used by no function of the crate, so no accuracy statement
depends on it and nothing else guards its shift amount) -/
theorem public_constants :
    Generated.twoPiBits = Int.ofNat (Generated.twoPiSrc >>> Generated.twoPiShift) ∧
    Generated.piBits = Int.ofNat (Generated.piSrc >>> Generated.piShift) ∧
    Generated.fracPi2Bits = Int.ofNat (Generated.fracPi2Src >>> Generated.fracPi2Shift) ∧
    Generated.fracPi4Bits = Int.ofNat (Generated.fracPi4Src >>> Generated.fracPi4Shift) ∧
    Generated.log2eBits = Int.ofNat (Generated.log2eSrc >>> Generated.log2eShift) ∧
    Generated.eBits = Int.ofNat (Generated.eSrc >>> Generated.eShift) ∧
    Generated.twoPiSrc = Generated.piSrc ∧ Generated.fracPi2Src = Generated.piSrc ∧ Generated.fracPi4Src = Generated.piSrc ∧
    -- one 128-bit π, seen as U3F125 / U2F126 / U1F127 / U0F128-style shifts: 2π, π, π/2, π/4 on the I9F23 grid
    Generated.twoPiShift + 1 = Generated.piShift ∧ Generated.piShift + 1 = Generated.fracPi2Shift ∧ Generated.fracPi2Shift + 1 = Generated.fracPi4Shift ∧
    Generated.piBits / 2 = Generated.fracPi2Bits ∧ Generated.piBits / 4 = Generated.fracPi4Bits ∧ Generated.twoPiBits / 2 = Generated.piBits ∧
    -- 3.1415926 ≤ PI < 3.1415927 on the 2^-23 grid
    31415926 * 2 ^ 23 ≤ Generated.piBits * 10000000 ∧ Generated.piBits * 10000000 < 31415927 * 2 ^ 23 := by
  decide

example : Supp ⟨true, 128, 64⟩ ∧ inRange ⟨true, 128, 64⟩ (200 * 2 ^ 64) := ⟨⟨by decide, rfl, by decide, by decide⟩, by decide⟩

end Sfx.C16
