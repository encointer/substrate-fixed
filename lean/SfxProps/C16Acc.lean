import SfxProps.C16
import SfxProofs.TrigAccC16
/-
  C16 — PROVED IN FULL: `holds : C16_statement` (SfxProps/C16.lean), over Mathlib's reals (`Real.sin`, `Real.cos`, `Real.tan`), for
  every supported signed type (≥ 9 integer bits, ≥ 23 fractional bits, any width) and every operand.

    * `sin_cos_holds`  — every angle |x| ≤ 200: error ≤ 2^-16 (proved: 94 units of 2^-23 for sin, `TrigAccPf.sin_accuracy_94`; the stated bounds
                         104.65 / 105.29 of the 128 allowed are the ones the property's budget quotes), result within [-1-2^-16, 1+2^-16];
    * `tan_holds_64`   — every |x| ≤ 100 with |tan x| ≤ 64: error ≤ (1 + tan² x)/2^14;
    * `holds`          — the whole statement.
  Weaker forms kept beside `holds`, each a corollary of it: `tan_holds` (threshold `tanT f`: 64 for f ≥ 24, 30 for f = 23 — the
  numbers real analysis alone reaches, `TrigAccPf.tan_accuracy_B24/B23`; being corollaries of `holds`, `tan_holds` and
  `C16_statement_partial` rest on the kernel enumeration all the same; the run statements that do not are `TrigAccPf.tan_accuracy_A23/A24/A25`),
  `holds_f24`, `C16_statement_partial`, `statement_of_f23`.

  How the tan clause is closed: for f ≥ 24 by real analysis alone (angle-type errors rotate numerator and denominator coherently,
  vector-type errors are bounded by a backward invariant).  For f = 23 (I9F23, I41F23, I105F23 — the computation is width-independent,
  `sinPure_width_indep`) and 30 < |tan x| ≤ 64 worst-case bounds do not suffice (needs ≤ 12 ulp vector error in the inner cos call,
  provable 22–26); there the reduced angle of the cos call lies in a window of 299 000 grid points next to −π/2 (`window`, analytic) and
  the KERNEL checks every one of them against a certified degree-4 cosine enclosure: error ≤ 11.05 ulp.  It does so in ONE evaluation
  (TrigAccTan3Enum.lean: `enum_w`) of a Nat-encoded iteration (SfxProofs/TrigAccTan3Def.lean, namespace `TrigAccPf.Window`): `walk` runs the first 20 CORDIC steps
  (table `es20`) on INTERVALS of start angles that share their sign decisions; at a leaf it checks `64 ≤ x ≤ 2^20 − 64` and
  `−9·2^20 ≤ y ≤ 0`, for which the last four steps leave `y` unchanged (`run_tail`), and tests the final value at both ends of the
  leaf against the monotone bound (`bound_mono`, `leaf_spec`), which gives the test `chk` for every angle of the leaf (`enum_all`).
  The iteration is proved equal to the model's (TrigAccTan3Corr.lean: `run_spec`, `es23_eq`, `good_int`).
  No `native_decide`; axioms: propext, Classical.choice, Quot.sound.
-/
namespace Sfx.C16
open Sfx.C12

theorem sin_cos_holds (D : Layout) (hS : Supp D) (a : Int) (ha : inRange D a) (hb : |val D.f a| ≤ 200) :
    (∀ r it dbg, Trans.run (Trans.sin D a) = .ok (some r, it) dbg →
      |val D.f r - Real.sin (val D.f a)| ≤ 1 / (2 : ℝ) ^ 16 ∧ |val D.f r| ≤ 1 + 1 / (2 : ℝ) ^ 16) ∧
    (∀ r it dbg, Trans.run (Trans.cos D a) = .ok (some r, it) dbg →
      |val D.f r - Real.cos (val D.f a)| ≤ 1 / (2 : ℝ) ^ 16 ∧ |val D.f r| ≤ 1 + 1 / (2 : ℝ) ^ 16) :=
  ⟨fun r it dbg h => TrigAccPf.sin_run_accuracy hS.ok a ha hb r it dbg h,
    fun r it dbg h => TrigAccPf.cos_run_accuracy hS.ok a hb r it dbg h⟩

/-- the tan clause at full strength -/
theorem tan_holds_64 (D : Layout) (hS : Supp D) (a : Int) (hb : |val D.f a| ≤ 100) (ht : |Real.tan (val D.f a)| ≤ 64) :
    ∀ r it dbg, Trans.run (Trans.tan D a) = .ok (some r, it) dbg →
      |val D.f r - Real.tan (val D.f a)| ≤ (1 + Real.tan (val D.f a) ^ 2) / (2 : ℝ) ^ 14 :=
  (TrigAccPf.tan_accuracy_run hS.ok a hb ht).run

/-- C16 -/
theorem holds : C16_statement :=
  fun D hS a ha => ⟨fun hb => sin_cos_holds D hS a ha hb, fun hb ht => tan_holds_64 D hS a hb ht⟩

/-- the threshold on `|tan x|` that real analysis alone reaches (64 from 24 fractional bits on, 30 for exactly 23); `tan_holds_64` has
64 for every `f`, so the statements with `tanT` below are weaker forms of `holds`, proved from it (they do not avoid the enumeration) -/
noncomputable def tanT (f : Nat) : ℝ := TrigAccPf.tanT f

theorem tanT_eq (f : Nat) : tanT f = if 24 ≤ f then 64 else 30 := rfl

theorem tan_holds (D : Layout) (hS : Supp D) (a : Int) (hb : |val D.f a| ≤ 100) (ht : |Real.tan (val D.f a)| ≤ tanT D.f) :
    ∀ r it dbg, Trans.run (Trans.tan D a) = .ok (some r, it) dbg →
      |val D.f r - Real.tan (val D.f a)| ≤ (1 + Real.tan (val D.f a) ^ 2) / (2 : ℝ) ^ 14 := by
  refine tan_holds_64 D hS a hb (le_trans ht ?_)
  rw [tanT_eq]; split <;> norm_num

/-- the whole body of `C16_statement` for every supported type with at least 24 fractional bits -/
theorem holds_f24 (D : Layout) (hS : Supp D) (hf24 : 24 ≤ D.f) (a : Int) (ha : inRange D a) :
    (|val D.f a| ≤ 200 →
      (∀ r it dbg, Trans.run (Trans.sin D a) = .ok (some r, it) dbg →
        |val D.f r - Real.sin (val D.f a)| ≤ 1 / (2 : ℝ) ^ 16 ∧ |val D.f r| ≤ 1 + 1 / (2 : ℝ) ^ 16) ∧
      (∀ r it dbg, Trans.run (Trans.cos D a) = .ok (some r, it) dbg →
        |val D.f r - Real.cos (val D.f a)| ≤ 1 / (2 : ℝ) ^ 16 ∧ |val D.f r| ≤ 1 + 1 / (2 : ℝ) ^ 16)) ∧
    (|val D.f a| ≤ 100 → |Real.tan (val D.f a)| ≤ 64 →
      ∀ r it dbg, Trans.run (Trans.tan D a) = .ok (some r, it) dbg →
        |val D.f r - Real.tan (val D.f a)| ≤ (1 + Real.tan (val D.f a) ^ 2) / (2 : ℝ) ^ 14) :=
  holds D hS a ha

/-- `C16_statement` with `tanT D.f` in place of 64 — everything else at full strength -/
theorem C16_statement_partial :
    ∀ D : Layout, Supp D → ∀ a : Int, inRange D a →
      (|val D.f a| ≤ 200 →
        (∀ r it dbg, Trans.run (Trans.sin D a) = .ok (some r, it) dbg →
          |val D.f r - Real.sin (val D.f a)| ≤ 1 / (2 : ℝ) ^ 16 ∧ |val D.f r| ≤ 1 + 1 / (2 : ℝ) ^ 16) ∧
        (∀ r it dbg, Trans.run (Trans.cos D a) = .ok (some r, it) dbg →
          |val D.f r - Real.cos (val D.f a)| ≤ 1 / (2 : ℝ) ^ 16 ∧ |val D.f r| ≤ 1 + 1 / (2 : ℝ) ^ 16)) ∧
      (|val D.f a| ≤ 100 → |Real.tan (val D.f a)| ≤ tanT D.f →
        ∀ r it dbg, Trans.run (Trans.tan D a) = .ok (some r, it) dbg →
          |val D.f r - Real.tan (val D.f a)| ≤ (1 + Real.tan (val D.f a) ^ 2) / (2 : ℝ) ^ 14) :=
  fun D hS a ha => ⟨fun hb => sin_cos_holds D hS a ha hb, fun hb ht => tan_holds D hS a hb ht⟩

/-- `C16_statement` from its instances with 23 fractional bits and `30 < |tan x| ≤ 64` -/
theorem statement_of_f23 (h23 : ∀ D : Layout, Supp D → D.f = 23 → ∀ a : Int, inRange D a →
      |val D.f a| ≤ 100 → 30 < |Real.tan (val D.f a)| → |Real.tan (val D.f a)| ≤ 64 →
      ∀ r it dbg, Trans.run (Trans.tan D a) = .ok (some r, it) dbg →
        |val D.f r - Real.tan (val D.f a)| ≤ (1 + Real.tan (val D.f a) ^ 2) / (2 : ℝ) ^ 14) : C16_statement :=
  holds

end Sfx.C16
