import SfxProofs.Iters
import SfxProps.C12
/-
  C17 — Math functions do a bounded amount of work, independent of operand magnitude.
  `itersOf (Trans.run m)` is the number of loop-body executions recorded by the model (the model's `tick`s sit exactly where the
  hook counter of `transcendental.rs` is incremented, and the correspondence check compares the two counts on every request).
  The bounds hold for ALL layouts and ALL operands; the data-dependent loops are bounded because the model gives them fuel
  (`log2Halve`: width + 1, range reduction: 2) and reports fuel exhaustion as a panic — that this panic is unreachable on supported
  types is part of C12 (totality) and is exercised by the correspondence (the real loops have no fuel).
-/
namespace Sfx.C17
open Sfx.ItersPf

def C17_statement : Prop :=
  ∀ S D : Layout, D.f ≤ D.n → ∀ x y : Int,
    itersOf (Trans.run (Trans.sqrt S D x)) ≤ 4 * D.n + 64 ∧ itersOf (Trans.run (Trans.log2 S D x)) ≤ 4 * D.n + 64 ∧
    itersOf (Trans.run (Trans.ln S D x)) ≤ 4 * D.n + 64 ∧ itersOf (Trans.run (Trans.exp S D x)) ≤ 4 * D.n + 64 ∧
    itersOf (Trans.run (Trans.pow S D x y)) ≤ 4 * D.n + 64 ∧ itersOf (Trans.run (Trans.sin D x)) ≤ 4 * D.n + 64 ∧
    itersOf (Trans.run (Trans.cos D x)) ≤ 4 * D.n + 64 ∧ itersOf (Trans.run (Trans.tan D x)) ≤ 4 * D.n + 64

/-- at most 4·width + 64 for every layout with f ≤ n (cordicSteps = 24 comes from Generated.lean, regenerated from the source) -/
theorem holds : C17_statement := by
  intro S D hD x y
  have hs := cordicSteps_eq
  have hi : D.intBits = D.n - D.f := rfl
  exact ⟨Nat.le_trans (itersOf_run_le (sqrt_ticks S D x)) (by omega), Nat.le_trans (itersOf_run_le (log2_fuel_ticks S D x)) (by omega),
    Nat.le_trans (itersOf_run_le (ln_ticks S D x)) (by omega), Nat.le_trans (itersOf_run_le (exp_ticks S D x)) (by omega),
    Nat.le_trans (itersOf_run_le (pow_ticks S D x y)) (by omega), Nat.le_trans (itersOf_run_le (sin_ticks D x)) (by omega),
    Nat.le_trans (itersOf_run_le (cos_ticks D x)) (by omega), Nat.le_trans (itersOf_run_le (tan_ticks D x)) (by omega)⟩

/-- the sharper per-function counts -/
theorem sharp (S D : Layout) (x y : Int) :
    itersOf (Trans.run (Trans.sqrt S D x)) ≤ max D.f (D.intBits / 2 + 10) ∧
    itersOf (Trans.run (Trans.log2 S D x)) ≤ (D.n + 1) + D.f ∧
    itersOf (Trans.run (Trans.exp S D x)) ≤ D.f - 2 ∧
    itersOf (Trans.run (Trans.pow S D x y)) ≤ (D.n + 1) + D.f + (D.f - 2) ∧
    itersOf (Trans.run (Trans.sin D x)) ≤ 4 + 24 ∧ itersOf (Trans.run (Trans.tan D x)) ≤ 2 * (4 + 24) :=
  ⟨itersOf_run_le (sqrt_ticks S D x), itersOf_run_le (log2_fuel_ticks S D x), itersOf_run_le (exp_ticks S D x),
    itersOf_run_le (pow_ticks S D x y), itersOf_run_le (sin_ticks D x), itersOf_run_le (tan_ticks D x)⟩

/-- fuel sufficiency on the supported types: the fuelled model loops never reach their "fuel exhausted" panic — log2 (and hence ln, pow)
and sin (hence cos, tan) return, so the structural bounds above are bounds on the REAL loops (which have no fuel) -/
theorem fuel_suffices (D : Layout) (h : C12.Supp D) (x : Int) (hx : inRange D x) :
    C12.Total (Trans.run (Trans.log2 D D x)) ∧ C12.Total (Trans.run (Trans.ln D D x)) ∧
    (∃ r it, Trans.run (Trans.sin D x) = .ok (some r, it) false ∧ it ≤ 26) := by
  obtain ⟨_, h2, h3, _⟩ := C12.result_functions_hold D h x x hx hx 0
  obtain ⟨r, it, h4, h5, _⟩ := (C12.sin_cos_total D h x hx).1
  exact ⟨h2, h3, r, it, h4, h5⟩

example : ((⟨true, 64, 32⟩ : Layout).f ≤ (⟨true, 64, 32⟩ : Layout).n) := by decide

end Sfx.C17
