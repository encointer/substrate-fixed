import SfxProps.C18
import SfxProps.C04
import SfxProps.C05
import SfxProps.C08Holds
/-
  C18, the entry points of `Wrapping<F>` that are not operations on an existing value — "parsing and conversion from numbers":
  `Wrapping::<F>::from_num(src)` is `Wrapping(src.wrapping_to_fixed())`, `Wrapping(x).to_num::<Dst>()` is `Dst::wrapping_from_fixed(x)` and
  `Wrapping::<F>::from_str[_binary|_octal|_hex]` is `F::wrapping_from_str…` (`wrapping.rs`); the harness calls these entry points themselves and
  the driver answers them with the wrapping forms of the conversion / parsing models (`normW`, `"wtype"`).  The theorems below restate what
  C04, C05 and C08 prove about those wrapping forms in C18's terms: the exact result reduced modulo 2^n, no panic except for a non-finite
  float, identical under both build profiles (no debug-only flag).
-/
namespace Sfx.C18
open Sfx.TextSpec

/-- `Wrapping::from_num` from / `to_num` into any fixed-point or primitive-integer type (integers are the zero-fraction layouts
`Layout.ofInt`): the source value on the destination grid, reduced modulo 2^n -/
theorem from_num_fixed (S D : Layout) (hS : S.valid) (hD : D.valid) (x : Int) (hx : inRange S x) :
    Layout.wrappingFromFixed S D x = D.wrap (Layout.convExact S D x) :=
  (C04.holds S D hS hD x hx).2.2.1

/-- `Wrapping::from_num` from a float: the nearest grid value (ties to even) reduced modulo 2^n for a finite float, in both build
profiles; a panic for NaN / infinities (the documented exception) -/
theorem from_num_float (F : FloatFmt) (hF : F = f32 ∨ F = f64) (L : Layout) (hL : L.valid) (b : Nat) (hb : b < 2 ^ F.nbits) :
    (∀ E, floatToGrid F b L.f = some E → L.wrappingFromFloat F b = .ok (L.wrap E) false) ∧
    (floatExact F b = none → L.wrappingFromFloat F b = .panic) :=
  ⟨fun E hE => (C05.holds F hF L hL).1 b hb E hE |>.2.2.2.1, fun h => ((C05.holds F hF L hL).2.1 b hb h).2.2.1⟩

/-- `Wrapping::<F>::from_str…`: the literal's correctly rounded value reduced modulo 2^n, an error for a malformed literal, never a panic
and never an overflow error -/
theorem from_str (L : Layout) (hL : L.valid) (radix : Nat) (hr : radix = 2 ∨ radix = 8 ∨ radix = 10 ∨ radix = 16) (bytes : List Nat) :
    ∃ a, FromStr.parse L .wrapping radix bytes = some (.ok a false) ∧
      match parseExact radix L.f bytes with
      | some E => a = .val (L.wrap E)
      | none => ∃ k, a = .err k ∧ k ≠ 3 :=
  C08.forms_hold L hL radix hr bytes .wrapping

end Sfx.C18
